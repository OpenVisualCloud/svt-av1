/-
  C integer semantics used by every model: values are mathematical `Int`s; each C operation that can
  wrap or that works on the two's-complement representation is an explicit function here.
  Core Lean only (no Mathlib) so that the driver executable links.
-/
namespace CSem

/-- wrap to unsigned `n`-bit. -/
def wrapU (n : Nat) (x : Int) : Int := x % (2 ^ n : Int)

/-- wrap to signed `n`-bit two's complement (what a conversion to `intN_t` does on every supported target). -/
def wrapS (n : Nat) (x : Int) : Int := (BitVec.ofInt n x).toInt

abbrev wrapU8  := wrapU 8
abbrev wrapU16 := wrapU 16
abbrev wrapU32 := wrapU 32
abbrev wrapU64 := wrapU 64
abbrev wrapI8  := wrapS 8
abbrev wrapI16 := wrapS 16
abbrev wrapI32 := wrapS 32
abbrev wrapI64 := wrapS 64

/-- `a & b` on C `int` (32-bit two's complement). -/
def and32 (a b : Int) : Int := (BitVec.ofInt 32 a &&& BitVec.ofInt 32 b).toInt
def or32  (a b : Int) : Int := (BitVec.ofInt 32 a ||| BitVec.ofInt 32 b).toInt
def xor32 (a b : Int) : Int := (BitVec.ofInt 32 a ^^^ BitVec.ofInt 32 b).toInt
/-- `a & b` on `uint32_t`. -/
def andU32 (a b : Int) : Int := ((BitVec.ofInt 32 a &&& BitVec.ofInt 32 b).toNat : Int)
def orU32 (a b : Int) : Int := ((BitVec.ofInt 32 a ||| BitVec.ofInt 32 b).toNat : Int)
def andU64 (a b : Int) : Int := ((BitVec.ofInt 64 a &&& BitVec.ofInt 64 b).toNat : Int)
def orU64 (a b : Int) : Int := ((BitVec.ofInt 64 a ||| BitVec.ofInt 64 b).toNat : Int)
def and64 (a b : Int) : Int := (BitVec.ofInt 64 a &&& BitVec.ofInt 64 b).toInt
def or64 (a b : Int) : Int := (BitVec.ofInt 64 a ||| BitVec.ofInt 64 b).toInt
/-- `a << k` on C `int`, result wrapped (UB in C when it overflows; models gcc/clang behaviour). -/
def shl32 (a : Int) (k : Int) : Int := wrapS 32 (a * 2 ^ k.toNat)
def shlU32 (a : Int) (k : Int) : Int := wrapU 32 (a * 2 ^ k.toNat)
/-- `a << k` before the wrap to the (at most 64-bit) result type, for a *variable* count: the exponent is capped at 64.
    After any `wrapU n`/`wrapS n` with `n ≤ 64` this equals `a * 2 ^ k.toNat` (`shlRaw_wrapU`, `shlRaw_wrapS` in
    Lemmas/Bits.lean); the cap only keeps the executable model from materialising `2 ^ (2^32)` on garbage counts. -/
def shlRaw (a : Int) (k : Int) : Int := a * 2 ^ (min k.toNat 64)
/-- arithmetic `a >> k` on C `int`. -/
def shr (a : Int) (k : Int) : Int := a / 2 ^ k.toNat   -- `Int` `/` rounds toward -∞ for a positive divisor
/-- C division truncates toward zero. -/
def cdiv (a b : Int) : Int := Int.tdiv a b
def cmod (a b : Int) : Int := Int.tmod a b

/-- `for (i = 0; i < n; ++i) dst[i] = src[i];` on in-bounds indices (out-of-bounds ones are tracked separately) -/
def copyPrefix (n : Int) (src dst : List Int) : List Int :=
  (List.range n.toNat).foldl (fun d i => d.set i (src.getD i 0)) dst

/-- value of an n-bit unsigned / signed object whose bytes are all `b` (memset fill) -/
def fillU (n : Nat) (b : Int) : Int := (List.range (n / 8)).foldl (fun acc _ => acc * 256 + (b % 256)) 0
def fillS (n : Nat) (b : Int) : Int := wrapS n (fillU n b)

def clip3 (lo hi x : Int) : Int := if x < lo then lo else if x > hi then hi else x
def cmin (a b : Int) : Int := if a < b then a else b
def cmax (a b : Int) : Int := if a > b then a else b
def b2i (b : Bool) : Int := if b then 1 else 0
def i2b (x : Int) : Bool := x != 0

end CSem
