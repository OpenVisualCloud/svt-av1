/-
  C04 — encoding is deterministic under every thread interleaving.

  "Encoding the same input with the same configuration always produces byte-identical packets and identical
   reconstructed pictures, whatever order the encoder's internal threads are scheduled in, and the encode always
   terminates."

  The property quantifies over the schedules of ~100 k lines of pixel code; what is machine-checked here are the
  PROTOCOLS that make the schedule invisible, each for all sizes and all interleavings:
   1. `dag_confluence` …: a task graph whose hand-out logic enforces `guard` and whose kernel bodies read only cells of
      ancestor tasks and write only their own cell ends in the same store under every schedule and any number of
      workers, equal to the single-threaded topological-order program; it cannot deadlock and terminates;
   2. the EncDec-segment instance: the real `assign_enc_dec_segments` enforces exactly that guard (from C24), for every
      picture size and segment grid; the independent-task grids (ME / TF / CDEF / restoration segments) with their
      completion counter post the picture exactly once (`last_one_fires_once`);
   3. `handshake_no_lost_wakeup`: the `me_ready` condition-variable handshake cannot lose a wake-up;
   4. `reorder_inorder`, `srm_fifo` (re-exported from C22 / C23): the queues between the stages are FIFO / re-sequencing;
   5. `network_output_deterministic`, `determinism_under_footprint`: a network of stages that are deterministic
      functions of their input histories, connected by FIFO queues with back-pressure, has one possible output.
  NOT proved — hypothesis **H-footprint**: that the kernel bodies of the real encoder touch shared per-picture state
  only as the task model says (own cells, cells of completed ancestors, or mutex-protected commutative accumulators)
  and that each pipeline stage as a whole is therefore a function of its input histories.  checks/c04.py exercises
  it: every configuration is encoded under seeded schedule perturbations and with different thread counts and the
  packets and reconstructions are compared byte for byte.
-/
import SvtVerif.Props.C22
import SvtVerif.Props.C23
import SvtVerif.Props.C24
import SvtVerif.Lemmas.Wavefront
import SvtVerif.Lemmas.CondVar
import SvtVerif.Lemmas.Counter
import SvtVerif.Lemmas.Kahn

namespace C04
open Wavefront
-- `independent_grid_confluence` names a hypothesis (`hg`: no guards) that its proof does not need
set_option linter.unusedVariables false

/-- example graph used by the non-vacuity examples: task 0 feeds tasks 1 and 2 (a wavefront corner) -/
def exG : Dag Nat :=
  { n := 3
    guard := fun t => if t = 0 then [] else [0]
    body := fun t σ => if t = 0 then 7 else σ 0 + t }

theorem exG_footprint : Footprint exG exG.guard := by
  constructor
  · intro t d hd; exact Anc.base hd
  · intro t σ σ' h
    by_cases ht : t = 0
    · simp [exG, ht]
    · have : σ 0 = σ' 0 := h 0 (by simp [exG, ht])
      simp [exG, ht, this]

theorem exG_topo : Topo exG [0, 1, 2] :=
  ⟨⟨by decide, by decide, by decide, by decide, by decide, by decide, by decide, by decide, by decide, trivial⟩,
   by decide⟩

/-- Let the hand-out logic release task `t` only after every task of `guard t` has finished, and
    let every kernel body read only cells of proper ancestors of its task (and write only its own cell) —
    `Footprint`.  Then for ANY two executions — any number of worker threads, any interleaving of hand-outs and
    completions — from the same initial store: (1) they agree on the cell of every task both have finished; (2) if
    both are complete they end in the same store, cell for cell, including the cells no task owns. -/
theorem dag_confluence {V : Type} {G : Dag V} {reads : Nat → List Nat} {σ0 : Nat → V} (hf : Footprint G reads)
    {s1 s2 : St V} (h1 : Reachable G σ0 s1) (h2 : Reachable G σ0 s2) :
    (∀ t, t ∈ s1.done → t ∈ s2.done → s1.store t = s2.store t) ∧
    (Complete G s1 → Complete G s2 → s1.store = s2.store) :=
  ⟨agree hf h1 h2, confluence hf h1 h2⟩

example : ∃ s, Reachable exG (fun _ => 0) s ∧ Complete exG s := by
  obtain ⟨s, h1, h2, _⟩ := seq_result (σ0 := fun _ => 0) exG_topo
  exact ⟨s, h1, h2⟩

/-- **The parallel result is the sequential result.**  For any topological order of the tasks, the store reached by
    every complete execution (any schedule, any number of workers) equals the store computed by the single-threaded
    program that runs the kernel bodies one after the other in that order; in particular all topological orders
    give the same result. -/
theorem dag_equals_sequential {V : Type} {G : Dag V} {reads : Nat → List Nat} {σ0 : Nat → V}
    (hf : Footprint G reads) {order : List Nat} (ho : Topo G order) {s : St V} (h : Reachable G σ0 s)
    (hc : Complete G s) : s.store = seqStore G σ0 order := by
  obtain ⟨s', h', c', e'⟩ := seq_result (σ0 := σ0) ho
  rw [← e']
  exact confluence hf h h' hc c'

example : Footprint exG exG.guard ∧ Topo exG [0, 1, 2] := ⟨exG_footprint, exG_topo⟩

/-- **No deadlock, termination.**  If the dependency relation is acyclic (a rank decreases along `guard`) then
    (1) in every reachable state that is not complete some event is enabled — a worker can finish its task or a task
    can be handed out — so every terminal state is complete; (2) every execution has at most `2·n` events.  Hence
    every maximal execution is finite and complete (and `dag_confluence` applies to it). -/
theorem dag_progress {V : Type} {G : Dag V} {σ0 : Nat → V} {rank : Nat → Nat} (ha : Acyclic G rank) :
    (∀ s, Reachable G σ0 s → ¬ Complete G s → ∃ ev s', step G s ev = some s') ∧
    (∀ s, Reachable G σ0 s → Terminal G s → Complete G s) ∧
    (∀ evs s, run G (init σ0) evs = some s → evs.length ≤ 2 * G.n) := by
  refine ⟨fun s hr hn => progress ha hr hn, ?_, fun evs s h => exec_bounded h⟩
  intro s hr ht
  by_contra hn
  obtain ⟨ev, s', hs⟩ := progress ha hr hn
  exact nomatch (ht ev).symm.trans hs

example : Acyclic exG (fun t => t) := by
  unfold Acyclic
  decide

/-- **The real hand-out protocol enforces the guard.**  For every well-formed segment control block (in particular
    every block `enc_dec_segments_init` produces: `C24.init_wf`), in every state `assign_enc_dec_segments` can reach
    under any interleaving of any number of workers: a segment that has been handed out (`ph ≥ 1`) has its left
    neighbour in the row and the segment one band-count back in the previous row — the two edges counted in
    `dependency_map` — past their superblock loop (`ph ≥ 3`).  So the executions of the real protocol are executions
    of the task graph `segDag g` (start = hand-out, finish = end of the SB loop). -/
theorem encdec_guard_enforced {g : Seg.SegCtl} (hw : Seg.WF g) {st : Seg.ASt} (hr : Seg.Reachable g st) {t d : Nat}
    (hs : 1 ≤ Seg.aget st.ph t) (hd : d ∈ (segDag (V := Unit) g (fun _ _ => ())).guard t) :
    3 ≤ Seg.aget st.ph d :=
  seg_guard_holds hw hr hs hd

example : Seg.WF (Seg.initSeg 30 17 30 17 30 17) ∧
    Seg.Reachable (Seg.initSeg 30 17 30 17 30 17) (Seg.initASt (Seg.initSeg 30 17 30 17 30 17)) :=
  ⟨C24.init_wf (by constructor <;> decide) 30, Seg.Reachable.init⟩

/-- **EncDec segments are confluent.**  `dag_confluence` instantiated at the segment graph of any control block: if
    the superblock loop of a segment reads shared picture state only in cells of segments that precede it through
    the counted edges (H-footprint for EncDec; the SB-level geometry — left, top, top-left, top-right neighbour
    superblocks lie in the same or in such a segment — is `C24.seg_deps_sound`), the reconstructed picture does not
    depend on the number of EncDec threads or on their interleaving. -/
theorem encdec_confluence {V : Type} (g : Seg.SegCtl) (body : Nat → (Nat → V) → V) {reads : Nat → List Nat}
    {σ0 : Nat → V} (hf : Footprint (segDag g body) reads) {s1 s2 : St V}
    (h1 : Reachable (segDag g body) σ0 s1) (h2 : Reachable (segDag g body) σ0 s2)
    (c1 : Complete (segDag g body) s1) (c2 : Complete (segDag g body) s2) : s1.store = s2.store :=
  confluence hf h1 h2 c1 c2

/-- Superblock level (re-export of `C24.assign_safe`): when the segment of SB `(x,y)` has been handed out, each of its
    left / top / top-left / top-right neighbour SBs lies in the same segment or in a segment whose SB loop is finished. -/
theorem encdec_neighbours_ready {W H C R MR : Nat} (ok : Seg.InitOK W H C R MR) (MC : Nat)
    {st : Seg.ASt} (hr : Seg.Reachable (Seg.initSeg W H C R MC MR) st)
    {x y x' y' : Nat} (hx : x < W) (hy : y < H)
    (hn : (1 ≤ x ∧ x' = x - 1 ∧ y' = y) ∨ (1 ≤ y ∧ x' = x ∧ y' = y - 1) ∨
          (1 ≤ x ∧ 1 ≤ y ∧ x' = x - 1 ∧ y' = y - 1) ∨ (x + 1 < W ∧ 1 ≤ y ∧ x' = x + 1 ∧ y' = y - 1))
    (hs : 1 ≤ Seg.aget st.ph (Seg.segOf (Seg.initSeg W H C R MC MR) (x, y))) :
    st.err = 0 ∧
    (Seg.segOf (Seg.initSeg W H C R MC MR) (x', y') = Seg.segOf (Seg.initSeg W H C R MC MR) (x, y) ∨
     3 ≤ Seg.aget st.ph (Seg.segOf (Seg.initSeg W H C R MC MR) (x', y'))) :=
  C24.assign_safe ok MC hr hx hy hn hs

/-- Termination of the segment protocol (re-export of `C24.assign_complete` / `assign_terminates`): every maximal
    execution of the real hand-out protocol, for every accepted picture size and grid, processes every superblock, in
    at most `4·segments` atomic steps. -/
theorem encdec_terminates {W H C R MR : Nat} (ok : Seg.InitOK W H C R MR) (MC : Nat) :
    (∀ st, Seg.Reachable (Seg.initSeg W H C R MC MR) st → Seg.Terminal (Seg.initSeg W H C R MC MR) st →
      ∀ x y, x < W → y < H → Seg.aget st.ph (Seg.segOf (Seg.initSeg W H C R MC MR) (x, y)) = 4) ∧
    (∀ st st' k, Seg.Reachable (Seg.initSeg W H C R MC MR) st → Seg.Steps (Seg.initSeg W H C R MC MR) st k st' →
      k ≤ 4 * ((Seg.initSeg W H C R MC MR).segRowCount * (Seg.initSeg W H C R MC MR).segBandCount)) :=
  ⟨fun st hr ht x y hx hy => C24.assign_complete ok MC hr ht hx hy,
   fun st st' k hr h => C24.assign_terminates ok MC hr h⟩

example : Seg.InitOK 30 17 30 17 17 := by constructor <;> decide

/-- **Independent task grids** (ME / TF / CDEF / restoration segments: `guard = []`, bodies that read no other
    task's cell): any two complete executions end in the same store — every segment can be processed by any thread at
    any time. -/
theorem independent_grid_confluence {V : Type} {G : Dag V} {σ0 : Nat → V} (hg : ∀ t, G.guard t = [])
    (hb : ∀ t σ σ', G.body t σ = G.body t σ') {s1 s2 : St V} (h1 : Reachable G σ0 s1) (h2 : Reachable G σ0 s2)
    (c1 : Complete G s1) (c2 : Complete G s2) : s1.store = s2.store :=
  confluence (reads := fun _ => []) ⟨fun t d hd => (by cases hd), fun t σ σ' _ => hb t σ σ'⟩ h1 h2 c1 c2

example : ∃ G : Dag Nat, (∀ t, G.guard t = []) ∧ ∀ t σ σ', G.body t σ = G.body t σ' :=
  ⟨{ n := 4, guard := fun _ => [], body := fun t _ => t }, fun _ => rfl, fun _ _ _ => rfl⟩

/-- `reorder_inorder` (= `C22.circ_queue_inorder`): a circular reorder queue of depth `D` (picture decision, initial rate
    control, picture manager, packetization) emits `0,1,…,n−1` in order for ANY arrival order that stays within
    the window, for every stream length. -/
theorem reorder_inorder (D : Nat) (hD : 0 < D) (arrivals : List Nat) (n : Nat)
    (hperm : arrivals.Perm (List.range n)) (hwin : Reorder.Windowed D arrivals) :
    (Reorder.run D arrivals).out = List.range n ∧ (Reorder.run D arrivals).clobbered = false :=
  C22.circ_queue_inorder D hD arrivals n hperm hwin

example : Reorder.Windowed 4 [1, 0, 3, 2, 5, 4] ∧ [1, 0, 3, 2, 5, 4].Perm (List.range 6) := by decide

/-- `srm_fifo` (= `C23.srm_fifo`): under every interleaving of producers and consumers the objects handed to the
    consumers of a system-resource queue, followed by those still queued, are the posted objects in posting order;
    with one consumer fifo the consumer sees exactly the posting sequence. -/
theorem srm_fifo {s : Srm.State} (h : Srm.Reachable s) :
    (s.assigned .full).map Prod.snd ++ s.objQ .full = s.posted ∧
    (∀ f, (s.taken .full f ++ s.items .full f).Sublist s.posted) ∧
    (s.nProc .full = 1 → s.taken .full 0 ++ s.items .full 0 ++ s.objQ .full = s.posted) :=
  C23.srm_fifo h

example : ∃ s, Srm.Reachable s ∧ s.nProc .full = 1 := ⟨_, Srm.Reachable.init 2 1 1, rfl⟩

/-- `last_one_fires_once`: the completion-counter idiom of the independent segment grids — each of the `N` segment
    tasks, when finished, executes `count++; if (count == N) post the picture to the next stage` atomically (under
    the picture's mutex: EbCdefProcess.c:518-521, EbRestProcess.c:536-539, EbRateControlProcess.c:7220-7223; in a single
    collector thread: EbInitialRateControlProcess.c:348-351).  In every state reachable under any order of the tasks
    the picture has been posted at most once, it has been posted iff all `N` tasks have finished, and the poster is
    the task that finished last; in a terminal state it has been posted exactly once. -/
theorem last_one_fires_once {N : Nat} {s : Counter.State} (hN : 0 < N) (h : Counter.Reachable N s) :
    (s.fires.length ≤ 1 ∧ (s.fires.length = 1 ↔ s.count = N) ∧
      (∀ t, t ∈ s.fires → s.finished.head? = some t ∧ s.fires = [t])) ∧
    (Counter.Terminal N s → s.count = N ∧ s.fires.length = 1) :=
  ⟨Counter.last_one_fires_once hN h, fun hT => ⟨(Counter.counter_complete h hT).1, (Counter.counter_complete h hT).2 hN⟩⟩

example : ∃ s, Counter.Reachable 3 s := ⟨_, Counter.Reachable.init⟩

/-- Model `Model/CondVar.lean` of `svt_set_cond_var` / `svt_wait_cond_var`
    (EbThreads.c:449-495; every pthread primitive and memory access is one atomic step; spurious wake-ups allowed), any
    number of threads `< n`, each either setting the value to `v1` or waiting for the value to differ from `v0`
    (`me_ready`: created 0, `svt_set_cond_var(&pcs->me_ready, 1)` in EbInitialRateControlProcess.c:357, waiters
    `svt_wait_cond_var(&…->me_ready, 0)` in EbRateControlProcess.c:1139).  In every reachable state, under every
    interleaving:
    (1) the value is `v0` or `v1`, and it is `v1` from the moment a setter has written it;
    (2) a waiter can be asleep with the value already changed only while a setter still holds the mutex between its
        write and its broadcast (`no_lost_wakeup_inv`) — so the broadcast reaches it;
    (3) once the value is `v1` (in particular once a setter has returned) EVERY step of EVERY thread decreases a measure
        bounded by `4·n`: every continuation has at most `4·n` steps, and when no thread can move all `n` threads have
        returned — every waiter terminates, without any fairness assumption;
    (4) as long as a setter exists the system cannot get stuck before that. -/
theorem handshake_no_lost_wakeup {role : Nat → CondVar.Role} {n : Nat} {v0 v1 : Int} {s : CondVar.State}
    (hm : CondVar.MeReady role n v0 v1) (hr : CondVar.Reachable role v0 s) :
    ((s.val = v0 ∨ s.val = v1) ∧
      (∀ t v, role t = .setter v → (s.pc t = .wrote ∨ s.pc t = .bcast ∨ s.pc t = .done) → s.val = v1)) ∧
    (∀ w i, role w = .waiter i → s.pc w = .sleeping → s.val ≠ i →
      ∃ t v, role t = .setter v ∧ s.pc t = .wrote ∧ s.owner = some t) ∧
    (s.val = v1 →
      (∀ a s', CondVar.act role s a = some s' → s'.val = v1 ∧ CondVar.mu s' n < CondVar.mu s n) ∧
      (∀ acts s', CondVar.runActs role s acts = some s' →
        s'.val = v1 ∧ acts.length + CondVar.mu s' n ≤ CondVar.mu s n ∧ acts.length ≤ 4 * n ∧
        (CondVar.Stuck role s' → ∀ t, t < n → s'.pc t = .done))) ∧
    ((∃ t v, role t = .setter v) → CondVar.Stuck role s → ∀ t, t < n → s.pc t = .done) := by
  have h := CondVar.handshake_no_lost_wakeup hm hr
  exact ⟨h.1, fun w i hw hs hv => CondVar.no_lost_wakeup_inv hr hw hs hv, h.2.1, h.2.2.2⟩

example : CondVar.MeReady CondVar.exRole 3 0 1 ∧ CondVar.Reachable CondVar.exRole 0 (CondVar.init 0) :=
  ⟨CondVar.exRole_meReady, CondVar.Reachable.init⟩

/-- **Hypothesis H-footprint (pipeline form), explicit and named.**  The encoder, seen from outside a stage, is the
    Kahn network `N`: channel `c`'s unique producer (a pipeline stage — i.e. a kernel with its worker threads, its
    segment/task graph and its reorder queue —, or the application for the input channel) writes on `c` a sequence
    that is a prefix-monotone function `N.F c` of the sequences on the other channels.  This is what `dag_confluence`
    (+ `encdec_guard_enforced`, `last_one_fires_once`) gives for the inside of a stage under the task-level
    `Footprint` hypothesis, what `srm_fifo` gives for the queues (single consumer fifo ⇒ the consumer sees the posting
    sequence) and what `reorder_inorder` gives for stages fed by several workers.  It is NOT proved of the C code. -/
def HFootprint {M : Type} (N : Kahn.Net M) : Prop := N.Monotone

/-- For a network satisfying H-footprint, any two executions — any interleaving of
    the stages' steps, any pacing of the application, even different pool sizes (`cap`) — that complete (every
    producer has written everything its function prescribes) leave identical message sequences on every channel;
    every intermediate state of any execution holds a prefix of that result on every channel; and when every pool has
    at least one object a state in which nothing can move any more is complete (so every maximal run of a fair
    scheduler produces that result). -/
theorem network_output_deterministic {M : Type} {N₁ N₂ : Kahn.Net M} (hm : HFootprint N₁) (hF : N₁.F = N₂.F)
    {s₁ s₂ : Kahn.State M} (h₁ : Kahn.Reachable N₁ s₁) (h₂ : Kahn.Reachable N₂ s₂) :
    (Kahn.Complete N₁ s₁ → Kahn.Complete N₂ s₂ → s₁.hist = s₂.hist) ∧
    (Kahn.Complete N₂ s₂ → ∀ c, s₁.hist c <+: s₂.hist c) ∧
    ((∀ c, 0 < N₁.cap c) → (∀ op, ¬ Kahn.Enabled N₁ s₁ op) → Kahn.Complete N₁ s₁) :=
  ⟨fun c₁ c₂ => Kahn.network_output_deterministic hm hF h₁ h₂ c₁ c₂,
   fun c₂ => Kahn.prefix_of_result hm hF h₁ c₂,
   fun hcap hst => Kahn.terminal_complete hm hcap h₁ hst⟩

example : ∃ s₁ s₂, Kahn.Reachable (Kahn.pipe [1, 2, 3] 1) s₁ ∧ Kahn.Reachable (Kahn.pipe [1, 2, 3] 3) s₂ ∧
    Kahn.Complete (Kahn.pipe [1, 2, 3] 1) s₁ ∧ Kahn.Complete (Kahn.pipe [1, 2, 3] 3) s₂ ∧ s₁.hist = s₂.hist :=
  Kahn.pipe_nonvacuous
example : HFootprint (Kahn.pipe [1, 2, 3] 1) := Kahn.pipe_monotone _ _

/-- Under H-footprint the packets and reconstructions (the sequences on the
    application-facing output channels `outs`) of every completed encode are a function of the submitted sequence
    (`inp` on the input channels `ins`) alone: two runs of the same stage functions on the same input agree on every
    output channel, whatever the thread schedules and pool sizes. -/
theorem determinism_under_footprint {M : Type} {N₁ N₂ : Kahn.Net M} (ins outs : Nat → Prop) (inp : Nat → List M)
    (hm : HFootprint N₁)
    (hin₁ : ∀ c, ins c → ∀ h, N₁.F c h = inp c) (hin₂ : ∀ c, ins c → ∀ h, N₂.F c h = inp c)
    (hstage : ∀ c, ¬ ins c → N₁.F c = N₂.F c)
    {s₁ s₂ : Kahn.State M} (h₁ : Kahn.Reachable N₁ s₁) (h₂ : Kahn.Reachable N₂ s₂)
    (c₁ : Kahn.Complete N₁ s₁) (c₂ : Kahn.Complete N₂ s₂) : ∀ c, outs c → s₁.hist c = s₂.hist c :=
  Kahn.output_indep_of_polling ins outs inp hm hin₁ hin₂ hstage h₁ h₂ c₁ c₂

/-- **H-footprint is needed.**  A stage whose output depends on WHEN it looks at its input (not a function of the
    histories) gives a network with two completed runs that differ — the shape of the schedule dependence that
    checks/c04.py reports for the rate-control modes (feedback from packetization merged in arrival order). -/
theorem footprint_needed :
    ∃ (N : Kahn.Net Nat) (s₁ s₂ : Kahn.State Nat), Kahn.Reachable N s₁ ∧ Kahn.Reachable N s₂ ∧ Kahn.Complete N s₁ ∧
      Kahn.Complete N s₂ ∧ s₁.hist 1 ≠ s₂.hist 1 :=
  Kahn.monotone_needed

end C04
