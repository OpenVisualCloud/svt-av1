/-
  C16 — allocation and OS-resource failures are reported and unwound cleanly.

  "If any single memory allocation, thread, mutex or semaphore creation fails while a session is being created,
   configured or initialised, the failing API call returns an error code, and the session can then be torn down
   without crash, hang or leak."

  Model: `Model/Unwind.lean` (EB_NEW / EB_MALLOC* / EB_CREATE_* / EB_DELETE / dctor semantics of EbObject.h,
  EbMalloc.h, EbThreads.h).  Classes: `Gen/Lifecycle.lean`, generated by `xlate/lifecycle.py` from
  every `X_ctor` / `X_dctor` pair of the encoder library (and `svt_av1_enc_init` as the continuation of
  `svt_enc_handle_ctor`).  A constructor run is a `Script` (any order, any repetition, any early return of the
  constructor's events), so "for all scripts" covers every loop count and branch of the C constructors.

  What is proved here
    * generic (any class table): in a set of classes closed under "constructs", each of which (1) registers its
      destructor before a second thing can go wrong, (2) releases every member it creates, (3) never dereferences a
      member without a NULL test in its destructor — EVERY fault-injected construction (any k, any script, in fact
      any failure pattern) ends without crash, with an error and an EMPTY heap, or with success, no fault fired,
      and a heap that the destructor empties.
    * for the generated table: which classes form that set (`generated_good`), that the remaining classes are
      exactly the ones the translator lists (`bad_classes_agree`), and for each of those a concrete fault index
      at which the model crashes or leaks (`bad_classes_witnessed`).
  What is NOT proved: that the C code matches the tables (the translator is syntactic: member-name matching, no
  aliasing, counts and ownership flags not evaluated; tied to the real library by `harness/faultinj.c`), raw
  `malloc` calls outside the macros, errors discarded by callers (`swallowers_agree` lists the classes where the
  translator saw a discarded error code; for those "the failure is reported" is not claimed).
-/
import SvtVerif.Lemmas.LifecycleTable

namespace C16
open Unwind

/-- a hand-made table used by the non-vacuity examples:
    class 0 `leaf`   : two members, both released, destructor registered first            (good)
    class 1 `owner`  : a context allocated before the dctor assignment, an array of `leaf` (good)
    class 2 `sloppy` : like `leaf` but the destructor reads through member 0 without a NULL test (bad)
    class 3 `late`   : two allocations before the dctor assignment                        (bad)
    class 4 `forget` : member 1 is never released                                         (bad) -/
def exT : Table := [
  { name := "leaf", pre := [], hasDctor := true, post := [.alloc 0 .heap, .alloc 1 .mutex],
    rels := [⟨some 0, []⟩, ⟨some 1, []⟩] },
  { name := "owner", pre := [.alloc 0 .heap], hasDctor := true, post := [.alloc 1 .heap, .new 2 0, .call],
    rels := [⟨some 2, []⟩, ⟨some 1, []⟩, ⟨some 0, []⟩] },
  { name := "sloppy", pre := [], hasDctor := true, post := [.alloc 0 .heap, .alloc 1 .heap],
    rels := [⟨some 1, [0]⟩, ⟨some 0, []⟩] },
  { name := "late", pre := [.alloc 0 .heap, .alloc 1 .heap], hasDctor := true, post := [],
    rels := [⟨some 0, []⟩, ⟨some 1, []⟩] },
  { name := "forget", pre := [], hasDctor := true, post := [.alloc 0 .heap, .alloc 1 .heap],
    rels := [⟨some 0, []⟩] } ]

/-- owner: context, array, three leaves (the last one only half built), a call -/
def exScript : Script :=
  .ev 0 .stop (.ev 1 (.ev 0 .stop (.ev 1 .stop .stop)) (.ev 1 (.ev 0 .stop (.ev 1 .stop .stop))
    (.ev 1 (.ev 0 .stop .stop) (.ev 2 .stop .stop))))

/-- **Generic unwinding theorem.**  `S` closed under "constructs", every class in `S` meets the three
    obligations (`goodSet T S`).  Then for every class `c ∈ S`, every constructor run `script` and EVERY failure
    pattern `fail` (in particular `failAt k` for every `k`):
    no destructor dereferences NULL; if `EB_NEW` returns an error nothing is left allocated; if it returns
    success then no counted primitive failed, the heap holds exactly the object, and deleting the object empties
    the heap without a crash. -/
theorem unwind_no_leak_any (T : Table) (S : List Nat) (hS : goodSet T S = true) (c : Nat) (hc : c ∈ S)
    (fail : Nat → Bool) (script : Script) :
    let r := construct T fail c script
    r.st.crashed = false ∧
    (r.ok = false → r.st.heap = []) ∧
    (r.ok = true → r.st.fired = false ∧ (∀ n, n < r.st.cnt → fail n = false) ∧ r.st.heap = r.root.ids ∧
        (destroy T r).heap = [] ∧ (destroy T r).crashed = false) := by
  intro r
  have h := construct_spec T fail S (GoodSet.of_goodSet T S hS) c hc script
  exact ⟨h.nocrash, fun e => (h.err_clean e).1,
    fun e => ⟨(h.ok_nofail e).1, (h.ok_nofail e).2, (h.ok_owned e).1, (h.ok_teardown e).1, (h.ok_teardown e).2⟩⟩

example : goodSet exT [0, 1] = true := by decide
example : (construct exT (failAt 7) 1 exScript).ok = false ∧ (construct exT (failAt 7) 1 exScript).st.heap = [] := by decide
example : (construct exT noFail 1 exScript).ok = true ∧ (construct exT noFail 1 exScript).st.heap.length = 11 := by decide

/-- **`unwind_no_leak`: fail exactly the k-th primitive, for every k.**  The construction either
    returns an error with an empty heap, or returns success — and then `k` was not among the primitives
    executed (`cnt ≤ k`), i.e. whenever the k-th primitive exists the error IS returned. -/
theorem unwind_no_leak (T : Table) (S : List Nat) (hS : goodSet T S = true) (c : Nat) (hc : c ∈ S)
    (k : Nat) (script : Script) :
    let r := construct T (failAt k) c script
    r.st.crashed = false ∧
    ((r.ok = false ∧ r.st.heap = []) ∨
     (r.ok = true ∧ r.st.cnt ≤ k ∧ (destroy T r).heap = [] ∧ (destroy T r).crashed = false)) := by
  intro r
  obtain ⟨h1, h2, h3⟩ := unwind_no_leak_any T S hS c hc (failAt k) script
  refine ⟨h1, ?_⟩
  cases hok : r.ok with
  | false => exact Or.inl ⟨rfl, h2 hok⟩
  | true =>
    obtain ⟨_, hn, _, hd, hcr⟩ := h3 hok
    refine Or.inr ⟨rfl, ?_, hd, hcr⟩
    by_cases hk : k < r.st.cnt
    · have := hn k hk; simp [failAt] at this
    · omega

example : ∀ k, k < 12 → (construct exT (failAt k) 1 exScript).ok = false := by decide

/-- **The failure is reported.**  If the k-th counted primitive is reached at all, `EB_NEW` returns an error
    (errors propagate through EB_NEW / EB_MALLOC*; for classes in `Lifecycle.expectedSwallowers` the C code discards an error code
    somewhere, which the model does not do — see `swallowers_agree`). -/
theorem failure_reported (T : Table) (S : List Nat) (hS : goodSet T S = true) (c : Nat) (hc : c ∈ S)
    (k : Nat) (script : Script) (hk : k < (construct T (failAt k) c script).st.cnt) :
    (construct T (failAt k) c script).ok = false := by
  obtain ⟨_, h⟩ := unwind_no_leak T S hS c hc k script
  rcases h with h | h
  · exact h.1
  · omega

example : 3 < (construct exT (failAt 3) 1 exScript).st.cnt := by decide

/-- **The generated obligations.**  The classes of `goodClasses Lifecycle.table` (computed from the table: those
    meeting the three obligations, minus — repeatedly — those constructing a class outside the set) are closed
    under "constructs" and each meets `dctorFirst`, `covered` (created ⊆ released) and `nullTol`.
    True of every table (`goodSet_goodClasses`). -/
theorem generated_good : goodSet Lifecycle.table (goodClasses Lifecycle.table) = true := goodSet_goodClasses _

example : (goodClasses Lifecycle.table).length ≥ 40 := by rw [Lifecycle.goodClasses_eq]; decide +kernel

/-- **No leak, no crash, error reported — for every generated class in the good set**, every k, every run. -/
theorem generated_unwind_no_leak (c : Nat) (hc : c ∈ goodClasses Lifecycle.table) (k : Nat) (script : Script) :
    let r := construct Lifecycle.table (failAt k) c script
    r.st.crashed = false ∧
    ((r.ok = false ∧ r.st.heap = []) ∨
     (r.ok = true ∧ r.st.cnt ≤ k ∧ (destroy Lifecycle.table r).heap = [] ∧ (destroy Lifecycle.table r).crashed = false)) :=
  unwind_no_leak Lifecycle.table _ generated_good c hc k script

/-- **The classes outside the obligations are exactly the ones the translator lists** (`Lifecycle.expectedBad`,
    with names and the failing obligation in `Gen/Lifecycle.lean`): the Lean evaluation of the three obligations
    and the translator's own evaluation agree on the whole table. -/
theorem bad_classes_agree :
    (List.range Lifecycle.table.length).filter (fun c => !(Lifecycle.table.cls c).good) = Lifecycle.expectedBad :=
  Lifecycle.bad_eq

/-- **Negative theorems with witnesses.**  For every class that fails an obligation the model itself misbehaves:
    on the straight-line run (every constructor event once, nested constructors likewise) there is a fault index
    `k` (`k = 0`: no fault, `k > 0`: the (k-1)-th primitive fails) at which a destructor dereferences NULL, or the
    error return leaves something allocated, or deleting the completed object does. -/
theorem bad_classes_witnessed :
    ∀ c ∈ Lifecycle.expectedBad, ∃ k,
      badOutcome Lifecycle.table (if k = 0 then noFail else failAt (k - 1)) c (straight Lifecycle.table 4 c) = true := by
  intro c hc
  have h : (Lifecycle.expectedBad.all (fun c => (findWitnessEarly Lifecycle.table 4 c).isSome)) = true := by
    decide +kernel
  obtain ⟨k, hk⟩ := Option.isSome_iff_exists.mp (List.all_eq_true.mp h c hc)
  exact ⟨k, findWitnessEarly_sound _ _ _ _ hk⟩

/-- the same on the hand-made table: `sloppy` crashes when its first allocation fails, `late` leaks when its
    second one fails, `forget` leaks on a plain construct + delete -/
example : badOutcome exT (failAt 1) 2 (straight exT 2 2) = true ∧ badOutcome exT (failAt 2) 3 (straight exT 2 3) = true ∧
    badOutcome exT noFail 4 (straight exT 2 4) = true := by decide

/-- **Discarded error codes.**  The classes in whose constructor the translator found a call whose error code is
    dropped although the callee can fail by allocation are exactly `Lifecycle.expectedSwallowers`; for these the
    real library can return success from a failed allocation (confirmed by fault injection). -/
theorem swallowers_agree :
    (List.range Lifecycle.table.length).filter (fun c => (Lifecycle.table.cls c).swallow != 0) = Lifecycle.expectedSwallowers :=
  Lifecycle.swallowers_eq

/-- the good classes that neither discard an error code themselves nor construct a class that does form a good set -/
theorem generated_report_set : reportSet Lifecycle.table (reportingClasses Lifecycle.table) = true :=
  reportSet_reportingClasses _

/-- **Failure reported — generated table**: for the good classes that neither discard an error code themselves
    nor construct a class that does: whenever the k-th counted primitive is reached, `EB_NEW` returns an error. -/
theorem generated_failure_reported (c : Nat) (hc : c ∈ reportingClasses Lifecycle.table)
    (k : Nat) (script : Script) (hk : k < (construct Lifecycle.table (failAt k) c script).st.cnt) :
    (construct Lifecycle.table (failAt k) c script).ok = false := by
  exact failure_reported Lifecycle.table _ (Bool.and_eq_true_iff.mp generated_report_set).1 c hc k script hk

example : (reportingClasses Lifecycle.table).length ≥ 40 := by rw [Lifecycle.reportingClasses_eq]; decide +kernel

end C16
