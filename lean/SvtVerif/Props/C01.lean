/-
  C01 — the encoder's reconstruction equals a decode of its own bitstream (frame-level protocol).

  Drift between the encoder's reconstruction and a decoder has two sources: (a) the frame-level protocol — which
  reference slots a picture reads and refreshes, which picture is output at which position — and (b) the per-block
  arithmetic.  (a) is the state machine of AV1 §7.20 / §7.21 (`Dpb.decStep`, decoder side) and the same bookkeeping on
  the encoder side (`Dpb.encStep`: `refresh_frame_mask`, `ref_dpb_index`, `show_existing_loc`); it is proved here for
  ALL frame lists.  (b) appears as the explicit hypothesis H-recon (`Renc = Rdec` on the payloads of the stream), and the
  header writer/parser pair as H-syntax; both are exercised on real encodes by `checks/c01.py`, not proved.
-/
import SvtVerif.Lemmas.DpbRefine

namespace C01
open Dpb

variable {P S B : Type}

/-- **Refinement.**  `fs` is what the encoder decided picture by picture, `write` its header/payload writer and `parse` the
    decoder's parser.  If
    * H-recon: encoder and decoder reconstruction functions agree on every payload of the stream, for any references,
    * H-syntax: parsing what was written gives back the encoder's own header fields (`EncPic.toFrame`),
    * H-key: a displayed key frame carries `refresh_frame_mask = 0xFF` on the encoder side (the header does not transmit
      the mask of a shown key frame; the decoder infers `allFrames`; `set_key_frame_rps`, EbPictureDecisionProcess.c l.1207),
    then, started from the same DPB, the decoder run on the written stream and the encoder-side machine end in the same DPB
    and emit the same picture at every position of the stream — for every list of pictures, of any length. -/
theorem recon_eq_decode (Renc Rdec : P → List S → S) (write : EncPic P → B) (parse : B → Frame P)
    (d : State S) (fs : List (EncPic P))
    (hrecon : ∀ p ∈ fs, ∀ refs, Renc p.payload refs = Rdec p.payload refs)
    (hsyntax : ∀ p ∈ fs, parse (write p) = p.toFrame)
    (hkey : ∀ p ∈ fs, p.showExistingLoc = none → p.frameType = .key → p.showFrame = true → p.refreshFrameMask % 256 = 0xFF) :
    runDec Rdec d (fs.map (fun p => parse (write p))) = runEnc Renc d fs := by
  rw [List.map_congr_left hsyntax, runEnc_eq_runDec Renc d fs hkey]
  refine (runDec_congr Renc Rdec d _ fun f hf refs => ?_).symm
  obtain ⟨p, hp, rfl⟩ := List.mem_map.1 hf
  exact hrecon p hp refs

/-- The output sequences (what a player sees vs. what the encoder hands out as displayed reconstructions) are equal. -/
theorem recon_eq_decode_outputs (Renc Rdec : P → List S → S) (write : EncPic P → B) (parse : B → Frame P)
    (d : State S) (fs : List (EncPic P))
    (hrecon : ∀ p ∈ fs, ∀ refs, Renc p.payload refs = Rdec p.payload refs)
    (hsyntax : ∀ p ∈ fs, parse (write p) = p.toFrame)
    (hkey : ∀ p ∈ fs, p.showExistingLoc = none → p.frameType = .key → p.showFrame = true → p.refreshFrameMask % 256 = 0xFF) :
    outputs (runDec Rdec d (fs.map (fun p => parse (write p)))).2 = outputs (runEnc Renc d fs).2 := by
  rw [recon_eq_decode Renc Rdec write parse d fs hrecon hsyntax hkey]

/-- H-key is needed: a displayed key frame whose encoder-side mask is not `0xFF` makes the two machines diverge
    (the excluded point of `recon_eq_decode`; the decoder overwrites all eight slots, the encoder only slot 0). -/
example :
    let R : Nat → List Nat → Nat := fun p _ => p
    let d : State Nat := fun _ => { pic := 0, frameType := .inter, showable := false }
    let k : EncPic Nat := { frameType := .key, showFrame := true, showableFrame := false, showExistingLoc := none,
                            refreshFrameMask := 1, refDpbIndex := [], payload := 7 }
    ((runDec R d [k.toFrame]).1 3).pic = 7 ∧ ((runEnc R d [k]).1 3).pic = 0 := by decide

/-- Non-vacuity of `recon_eq_decode`: a key frame, a hidden ALT-REF stored in slot 3, an inter frame, then the ALT-REF
    shown through `show_existing_frame` — hypotheses hold and four headers give three outputs 10, 12, 11. -/
example :
    let R : Nat → List Nat → Nat := fun p refs => p + 0 * refs.length
    let d : State Nat := fun _ => { pic := 0, frameType := .inter, showable := false }
    let ix : List (Fin 8) := [0, 0, 0, 3, 3, 3, 3]
    let fs : List (EncPic Nat) :=
      [ { frameType := .key, showFrame := true, showableFrame := false, showExistingLoc := none, refreshFrameMask := 0xFF, refDpbIndex := [], payload := 10 },
        { frameType := .inter, showFrame := false, showableFrame := true, showExistingLoc := none, refreshFrameMask := 8, refDpbIndex := ix, payload := 11 },
        { frameType := .inter, showFrame := true, showableFrame := false, showExistingLoc := none, refreshFrameMask := 2, refDpbIndex := ix, payload := 12 },
        { frameType := .inter, showFrame := true, showableFrame := false, showExistingLoc := some 3, refreshFrameMask := 0, refDpbIndex := [], payload := 13 } ]
    outputs (runEnc R d fs).2 = [10, 12, 11] ∧ outputs (runDec R d (fs.map EncPic.toFrame)).2 = [10, 12, 11] := by decide

/-- **Output order.**  For every header of the stream, in bitstream order: a `show_existing_frame` header outputs the picture
    held by the designated slot at that moment; a coded header outputs its own reconstruction (from the references the DPB
    holds at that moment) iff `show_frame = 1`; nothing else is ever output.  `i` ranges over all positions of any stream. -/
theorem dec_output_order (R : P → List S → S) (d : State S) (fs : List (Frame P)) (i : Nat) (f : Frame P)
    (h : fs[i]? = some f) :
    (runDec R d fs).2[i]? = some
      (match f.showExisting with
       | some k => some ((runDec R d (fs.take i)).1 k).pic
       | none => if f.showFrame then some (R f.payload (refsOf (runDec R d (fs.take i)).1 f)) else none) :=
  runDec_output_at R d fs i f h

/-- The number of pictures output is the number of headers with `show_frame = 1` or `show_existing_frame = 1`, and the
    positions of the outputs in the stream are exactly those headers. -/
theorem dec_output_positions (R : P → List S → S) (d : State S) (fs : List (Frame P)) :
    (runDec R d fs).2.map Option.isSome = fs.map producesOutput ∧
    (outputs (runDec R d fs).2).length = (fs.filter producesOutput).length :=
  runDec_outputs R d fs

/-- **Display-position matching.**  Every picture the decoder outputs is one of the pictures reconstructed while decoding the
    stream (or was in the DPB before the stream started): with `S` instantiated to (display position, samples) pairs this is
    what licenses matching the decoder's outputs against the encoder's `svt_av1_get_recon` buffers by display position. -/
theorem output_is_a_reconstruction (R : P → List S → S) (d : State S) (fs : List (Frame P)) (x : S)
    (hx : x ∈ outputs (runDec R d fs).2) : (∃ i, x = (d i).pic) ∨ x ∈ recons R d fs :=
  output_mem R d fs x hx

example :
    let R : Nat → List Nat → Nat := fun p _ => p
    let d : State Nat := fun _ => { pic := 0, frameType := .inter, showable := false }
    let fs : List (Frame Nat) :=
      [ { frameType := .key, showFrame := true, showableFrame := false, showExisting := none, refreshFlags := 0, refIdx := [], payload := 10 },
        { frameType := .inter, showFrame := false, showableFrame := true, showExisting := none, refreshFlags := 8, refIdx := [0,0,0,0,0,0,0], payload := 11 },
        { frameType := .inter, showFrame := true, showableFrame := false, showExisting := some 3, refreshFlags := 0, refIdx := [], payload := 12 } ]
    outputs (runDec R d fs).2 = [10, 11] ∧ recons R d fs = [10, 11] := by decide

/-- **Reference update (§7.20).**  After a coded header, slot `j` holds the new picture iff bit `j` of the effective
    `refresh_frame_flags` (`0xFF` inferred for a shown key frame) is set; every other slot is unchanged. -/
theorem dpb_refresh_spec (R : P → List S → S) (d : State S) (f : Frame P) (h : f.showExisting = none) (j : Fin 8) :
    (decStep R d f).1 j =
      if (effRefresh f).testBit j.val
      then { pic := R f.payload (refsOf d f), frameType := f.frameType, showable := f.showableFrame }
      else d j :=
  (decStep_coded R d f h).1 j

example :
    let R : Nat → List Nat → Nat := fun p _ => p
    let d : State Nat := fun _ => { pic := 0, frameType := .inter, showable := false }
    let f : Frame Nat := { frameType := .inter, showFrame := true, showableFrame := false, showExisting := none, refreshFlags := 0x24, refIdx := [], payload := 9 }
    (List.finRange 8).map (fun j => ((decStep R d f).1 j).pic) = [0, 0, 9, 0, 0, 9, 0, 0] := by decide

/-- **Shown key frame through `show_existing_frame` (§7.21).**  All eight slots are reloaded with the shown key frame and it
    is output; `show_existing_frame` of any other frame type leaves the DPB untouched. -/
theorem show_existing_key_refreshes_all (R : P → List S → S) (d : State S) (f : Frame P) (i : Fin 8)
    (h : f.showExisting = some i) :
    ((d i).frameType = .key → decStep R d f = (fun _ => d i, some (d i).pic)) ∧
    ((d i).frameType ≠ .key → decStep R d f = (d, some (d i).pic)) :=
  decStep_showExisting R d f i h

example :
    let R : Nat → List Nat → Nat := fun p _ => p
    let d : State Nat := fun j => { pic := j.val, frameType := if j.val = 5 then .key else .inter, showable := true }
    let f : Frame Nat := { frameType := .inter, showFrame := true, showableFrame := false, showExisting := some 5, refreshFlags := 0, refIdx := [], payload := 9 }
    (List.finRange 8).map (fun j => ((decStep R d f).1 j).pic) = [5, 5, 5, 5, 5, 5, 5, 5] ∧ (decStep R d f).2 = some 5 := by decide

end C01
