/-
  C10 — the decoder survives arbitrary input bytes: the byte-level OBU framing contract.

  Model: `SvtVerif/Model/ObuWalk.lean` (`svt_av1_dec_frame` → `decode_multiple_obu` → `dec_bits_init` /
  `read_obu_header` / `read_obu_size` / `dec_get_bits_leb128`; every load recorded; `size_t` arithmetic explicit;
  payload parsers opaque).  `asIs nd` = the source without the three repairs of this layer (`nd` = built with NDEBUG),
  `fixed nd` = the source with them (hooks/fix-c10-*.patch; /repo has them in).  `mem` = what the caller made readable,
  `ds` = the `data_size` argument.

  The full-strength statement

      obu_walk_reads_in_bounds :
        ∀ mem annexb oracle, (walk (asIs nd) mem annexb oracle).st.maxRead ≤ mem.length ∧ outcome is a return

  is FALSE of `asIs`; its negation is proved below with concrete witnesses (`obu_walk_overread`,
  `obu_walk_overread_temporal_unit`, `obu_walk_overread_frame_end`, `obu_walk_size_wrap`,
  `obu_walk_uninitialised_size`, `walk_hangs_release`, `walk_aborts_debug`).  What does hold of `asIs` is proved under the exact side conditions
  (`obu_walk_in_bounds_partial`, `walk_terminates_debug_partial`), and the full statement is proved of `fixed`
  (`obu_walk_reads_in_bounds_fixed`, `walk_terminates_fixed`, `walk_returns_error_fixed`).
-/
import SvtVerif.Lemmas.ObuWalk

namespace C10
open ObuWalk

/-- `dec_get_bits_leb128` (EbDecBitstream.c l.63) consumes between 1 and 8 whole bytes whatever the input is, moves
    `bs->buf` by at most 8 bytes (two refill loads), and `read_obu_size` (EbDecParseObu.c l.474) accepts only values
    that fit 32 bits.  (`available` is ignored by the C code: the 8 bytes are read even when fewer remain.) -/
theorem leb128_decode_bounds (c : Cfg) (mem : List UInt8) (bs : Bs) (hi : bs.Inv c) :
    1 ≤ (leb128 c mem bs).2.1 ∧ (leb128 c mem bs).2.1 ≤ 8 ∧
    (leb128 c mem bs).2.2.bits = bs.bits + 8 * (leb128 c mem bs).2.1 ∧
    (leb128 c mem bs).2.2.bufOff ≤ bs.bufOff + 8 ∧
    (∀ v l bs', readObuSize c mem bs = (.ok (v, l), bs') → v ≤ UINT32_MAX) := by
  obtain ⟨h1, h8, ha⟩ := leb128_spec c mem bs hi
  refine ⟨h1, h8, ha.bits, ?_, fun v l bs' hr => ?_⟩
  · have e0 := hi.bufOff_eq
    have e1 := ha.inv.bufOff_eq
    have hb := ha.base
    have hbits := ha.bits
    omega
  · have hs := readObuSize_spec c mem bs hi
    rw [hr] at hs
    cases hs with
    | ok _ _ _ _ hg => exact hg.1

-- non-vacuity: a freshly initialised reader satisfies the hypothesis; a 2-byte value decodes
example : (bitsInit (asIs false) [0x85, 0x01, 0, 0, 0, 0, 0, 0] 0 8).Inv (asIs false) := bitsInit_inv _ _ _ _
example : (leb128 (asIs false) [0x85, 0x01, 0, 0, 0, 0, 0, 0] (bitsInit (asIs false) [0x85, 0x01, 0, 0, 0, 0, 0, 0] 0 8)).1 = 133
    ∧ (leb128 (asIs false) [0x85, 0x01, 0, 0, 0, 0, 0, 0] (bitsInit (asIs false) [0x85, 0x01, 0, 0, 0, 0, 0, 0] 0 8)).2.1 = 2 := by
  decide

/-- A 1-byte buffer: `dec_bits_init` loads 8 bytes whatever `numbytes` is (EbDecBitstream.c l.37-38, without `safeLoad`), the size field is
    read from memory that is not there, `data_size -= 2` wraps, and the second `dec_bits_init` loads bytes 2..9. -/
theorem obu_walk_overread :
    ∃ mem : List UInt8, mem.length = 1 ∧ (walk (asIs false) mem false okOracle).st.maxRead > mem.length :=
  ⟨[0x12], by decide⟩

/-- A perfectly valid temporal unit made of one temporal delimiter OBU (`12 00`): the payload reader is initialised at
    the end of the buffer and loads 8 bytes there (l.2566).  Any packet whose last OBU has a payload shorter than 8
    bytes (every show-existing-frame packet of the encoder) is read out of bounds. -/
theorem obu_walk_overread_temporal_unit :
    (walk (asIs false) [0x12, 0x00] false okOracle).outcome = .ret 0 ∧
    (walk (asIs false) [0x12, 0x00] false okOracle).st.wrapped = false ∧
    (walk (asIs false) [0x12, 0x00] false okOracle).st.maxRead = 10 := by
  decide

/-- A frame: temporal delimiter + OBU_FRAME with a 12-byte payload whose tile group parses and finishes the frame.
    `read_tile_group_obu` re-initialises the OBU reader at the end of the last tile (l.2401): 8 bytes are loaded past
    the end of EVERY packet that ends with a tile group, i.e. of every coded frame. -/
theorem obu_walk_overread_frame_end :
    (walk (asIs false) [0x12, 0x00, 0x32, 0x0c, 1, 2, 3, 4, 5, 6, 7, 8, 9, 10, 11, 12] false (fun _ => .cont 0 true)).outcome = .ret 0 ∧
    (walk (asIs false) [0x12, 0x00, 0x32, 0x0c, 1, 2, 3, 4, 5, 6, 7, 8, 9, 10, 11, 12] false (fun _ => .cont 0 true)).st.maxRead = 16 + 8 := by
  decide

/-- `data_size -= obu_header.size + length_size` (l.2561) is executed before `data_size < payload_size` is tested and
    wraps: `data_size = 1`, 15 readable bytes behind it (so nothing is loaded from outside the allocation until then).
    After the wrap `data_size` is 2^64-1, the walk runs through the whole padding (8 OBUs instead of at most 1) and
    leaves the allocation.  No amount of padding behind the data protects the caller. -/
theorem obu_walk_size_wrap :
    ∃ mem : List UInt8, mem.length = 16 ∧
      (decFrame (asIs false) mem 1 false okOracle).st.wrapped = true ∧
      (decFrame (asIs false) mem 1 false okOracle).st.obus.length = 8 ∧
      (decFrame (asIs false) mem 1 false okOracle).st.maxRead > mem.length :=
  ⟨[0x12, 0, 0x12, 0, 0x12, 0, 0x12, 0, 0x12, 0, 0x12, 0, 0x12, 0, 0x12, 0], by decide⟩

/-- `obu_has_size_field = 0` outside Annex-B: `payload_size` is taken from `obu_header.payload_size`, a local of
    `decode_multiple_obu` that nothing has written (l.2485, l.2554) — an uninitialised read decides how far the walk goes. -/
theorem obu_walk_uninitialised_size :
    (decFrame (asIs false) [0x10, 0, 0, 0, 0, 0, 0, 0, 0, 0, 0, 0, 0, 0, 0, 0] 1 false okOracle).st.uninit = true := by
  decide

/-- PARTIAL (without `safeLoad`).  If no `size_t` subtraction wraps — i.e. at every OBU `header + size field ≤ data_size` (and,
    in Annex-B, `length ≤ data_size`, `obu_size ≥ header`) — every load of the framing layer is below
    `data_size + 23`: a caller that keeps 23 readable bytes behind the data is safe exactly as long as `wrapped` stays
    false.  Both side conditions are needed: `obu_walk_overread` (no padding), `obu_walk_size_wrap` (wrap).
    `c` is any configuration without the bit-reader repair: `asIs nd`, whatever the uninitialised size holds.
    Full statement (false, see the file header): `maxRead ≤ data_size` with no hypothesis. -/
theorem obu_walk_in_bounds_partial (c : Cfg) (hc : c.safeLoad = false) (mem : List UInt8) (ds : Nat) (annexb : Bool)
    (oracle : Oracle) (hds : ds < two64) (hw : (decFrame c mem ds annexb oracle).st.wrapped = false) :
    (decFrame c mem ds annexb oracle).st.maxRead ≤ ds + 23 := by
  have hm := frameLoop_bound c mem annexb oracle ds hds (2 * (ds + mem.length) + 4) 0 0 (St.init ds)
    (fun _ => Nat.zero_le _) hw
  rw [rb_asis hc] at hm; exact hm

-- non-vacuity: `asIs nd` (with any garbage) satisfies the hypothesis; a real two-OBU buffer does not wrap;
-- and the bound is attained up to 8 bytes (ds + 15 without Annex-B)
example (nd : Bool) (g : Nat) : ({ asIs nd with garbage := g } : Cfg).safeLoad = false := rfl
example : (decFrame (asIs false) [0x12, 0x00, 0x12, 0x00] 4 false okOracle).st.wrapped = false := by decide
example : (decFrame (asIs false) [0x16, 0x00, 0xff, 0xff, 0xff, 0xff, 0xff, 0xff, 0xff, 0xff] 1 false okOracle).st.wrapped = false
    ∧ (decFrame (asIs false) [0x16, 0x00, 0xff, 0xff, 0xff, 0xff, 0xff, 0xff, 0xff, 0xff] 1 false okOracle).st.maxRead = 1 + 15 := by
  decide

/-- FULL STRENGTH with `safeLoad` and `checkSub` (hooks/fix-c10-bits-bounds.patch, fix-c10-obu-size-check.patch): for every memory,
    every `data_size`, both framings and whatever the payload parsers do, no `size_t` subtraction wraps and every load
    of the framing layer is below `data_size`; no uninitialised size is read.  (`c` = any configuration with the two
    patches, in particular `fixed nd`; the third patch and NDEBUG do not matter here.) -/
theorem obu_walk_reads_in_bounds_fixed (c : Cfg) (h1 : c.safeLoad = true) (h2 : c.checkSub = true) (mem : List UInt8)
    (ds : Nat) (annexb : Bool) (oracle : Oracle) (hds : ds < two64) :
    (decFrame c mem ds annexb oracle).st.wrapped = false ∧
    (decFrame c mem ds annexb oracle).st.uninit = false ∧
    (decFrame c mem ds annexb oracle).st.maxRead ≤ ds := by
  obtain ⟨hw, hu⟩ := frameLoop_check c mem annexb oracle h2 ds (2 * (ds + mem.length) + 4) 0 0 (St.init ds)
  have hm := frameLoop_bound c mem annexb oracle ds hds (2 * (ds + mem.length) + 4) 0 0 (St.init ds)
    (fun _ => Nat.zero_le _) hw
  rw [rb_safe h1] at hm
  exact ⟨hw, hu, hm⟩

-- non-vacuity: `fixed nd` satisfies the hypotheses; the witnesses against `asIs`, run on `fixed`
example (nd : Bool) : (fixed nd).safeLoad = true ∧ (fixed nd).checkSub = true ∧ (fixed nd).errReturn = true := ⟨rfl, rfl, rfl⟩
example : (walk (fixed false) [0x12] false okOracle).st.maxRead ≤ 1 :=
  (obu_walk_reads_in_bounds_fixed (fixed false) rfl rfl [0x12] 1 false okOracle (by decide)).2.2
example : (walk (fixed false) [0x12, 0x00] false okOracle).outcome = .ret 0 ∧
    (walk (fixed false) [0x12, 0x00] false okOracle).st.maxRead = 2 := by decide

/-- One iteration of `while (!frame_decoding_finished)` (any configuration): unless a subtraction wrapped, the iteration
    either returns, or advances `*data` by at least one byte, decreases `data_size` by at least one, keeps
    `*data + data_size` equal to the end of the data, and leaves `data_size ≥ 1` when the loop goes on. -/
theorem walk_progress (c : Cfg) (mem : List UInt8) (annexb : Bool) (oracle : Oracle) (E : Nat) (hE : E < two64)
    (st st' : St) (fin : Bool) (hh : Head c E st) (hs : dmoStep c mem annexb oracle st = .inr (st', fin))
    (hw : st'.wrapped = false) :
    st.pos < st'.pos ∧ st'.dataSize < st.dataSize ∧ st'.pos + st'.dataSize = E ∧ (fin = false → 1 ≤ st'.dataSize) := by
  exact (dmoStep_bound c mem annexb oracle st E hE hh (by rw [hs]; exact hw)).cont st' fin hs

-- non-vacuity: the first iteration on `12 00 12 00`
example : Head (asIs false) 4 (St.init 4) := by
  exact ⟨by decide, fun _ => ⟨rfl, by decide, Nat.zero_le _⟩⟩
example : (dmoStep (asIs false) [0x12, 0x00, 0x12, 0x00] false okOracle (St.init 4)).isRight = true ∧
    ((dmoStep (asIs false) [0x12, 0x00, 0x12, 0x00] false okOracle (St.init 4)).getRight?.map
      (fun r => (r.1.wrapped, r.1.pos, r.2))) = some (false, 2, false) := by decide

/-- FULL STRENGTH with `safeLoad`, `checkSub` and `errReturn`: `svt_av1_dec_frame` returns — the model's iteration bounds
    are never reached and the outer loop never repeats a failing call — for every input; in a build with NDEBUG it does
    not abort either (without NDEBUG the two `seen_frame_header` asserts l.2614/2617 remain reachable).  (`OracleOk`: the payload
    parsers leave the `switch` with `return status` only when `status != EB_ErrorNone`, as the C code does.) -/
theorem walk_terminates_fixed (c : Cfg) (h1 : c.safeLoad = true) (h2 : c.checkSub = true) (h3 : c.errReturn = true)
    (mem : List UInt8) (ds : Nat) (annexb : Bool) (oracle : Oracle) (hds : ds < two64) (ho : OracleOk oracle) :
    (decFrame c mem ds annexb oracle).outcome ≠ .fuel ∧
    (decFrame c mem ds annexb oracle).outcome ≠ .hang ∧
    (c.ndebug = true → (decFrame c mem ds annexb oracle).outcome ≠ .abort) := by
  have hw := (obu_walk_reads_in_bounds_fixed c h1 h2 mem ds annexb oracle hds).1
  have ht := frameLoop_term c mem annexb oracle ds hds (Or.inl h3) ho (2 * (ds + mem.length) + 4) 0 0 (St.init ds)
    (fun _ => Nat.zero_le _) (by simp only [St.init]; omega) hw
  exact ⟨ht.1, ht.2, fun hn => frameLoop_noabort c mem annexb oracle h3 hn ds (2 * (ds + mem.length) + 4) 0 0 (St.init ds)⟩

example : OracleOk okOracle := fun _ _ h => by cases h

/-- PARTIAL (any configuration built WITHOUT NDEBUG, in particular `asIs false`).  If no subtraction wraps the call ends: with a return, or with
    `assert(0)` (EbDecHandle.c, in place of the `return` at l.606-607 when `errReturn` is off) on ANY error, which is itself an abort on malformed input (`walk_aborts_debug`).
    The hypothesis is needed: after a wrap `data_size` is no longer a bound on the number of iterations. -/
theorem walk_terminates_debug_partial (c : Cfg) (hn : c.ndebug = false) (mem : List UInt8) (ds : Nat) (annexb : Bool)
    (oracle : Oracle) (hds : ds < two64) (ho : OracleOk oracle)
    (hw : (decFrame c mem ds annexb oracle).st.wrapped = false) :
    (decFrame c mem ds annexb oracle).outcome ≠ .fuel ∧
    (decFrame c mem ds annexb oracle).outcome ≠ .hang :=
  frameLoop_term c mem annexb oracle ds hds (Or.inr hn) ho (2 * (ds + mem.length) + 4) 0 0 (St.init ds)
    (fun _ => Nat.zero_le _) (by simp only [St.init]; omega) hw

example : (asIs false).ndebug = false := rfl
example : (decFrame (asIs false) [0x12, 0x00, 0x12, 0x00] 4 false okOracle).outcome = .ret 0 := by decide

/-- `asIs` built WITH NDEBUG (a Release build): one byte with the forbidden bit set (16 readable bytes behind it, so
    nothing is read out of bounds).  `decode_multiple_obu` returns `EB_Corrupt_Frame` without moving `data_start`,
    `assert(0)` is compiled out, and `while (data_start < data_end)` calls it again with the same arguments: the call
    never returns.  Termination of a Release build of `asIs` needs the hypothesis "no OBU is malformed". -/
theorem walk_hangs_release :
    (decFrame (asIs true) [0x80, 0, 0, 0, 0, 0, 0, 0, 0, 0, 0, 0, 0, 0, 0, 0, 0] 1 false okOracle).outcome = .hang ∧
    (decFrame (asIs true) [0x80, 0, 0, 0, 0, 0, 0, 0, 0, 0, 0, 0, 0, 0, 0, 0, 0] 1 false okOracle).st.maxRead ≤ 17 := by
  decide

/-- The same input on `asIs` built without NDEBUG: the process is aborted by `assert(0)`. -/
theorem walk_aborts_debug :
    (decFrame (asIs false) [0x80, 0, 0, 0, 0, 0, 0, 0, 0, 0, 0, 0, 0, 0, 0, 0, 0] 1 false okOracle).outcome = .abort := by
  decide

/-- The same input on `fixed`: `EB_Corrupt_Frame` is returned. -/
theorem walk_returns_error_fixed :
    (decFrame (fixed true) [0x80, 0, 0, 0, 0, 0, 0, 0, 0, 0, 0, 0, 0, 0, 0, 0, 0] 1 false okOracle).outcome = .ret EB_Corrupt_Frame ∧
    (decFrame (fixed false) [0x80, 0, 0, 0, 0, 0, 0, 0, 0, 0, 0, 0, 0, 0, 0, 0, 0] 1 false okOracle).outcome = .ret EB_Corrupt_Frame := by
  decide

end C10
