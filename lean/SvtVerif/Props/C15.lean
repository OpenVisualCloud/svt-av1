/-
  C15 — teardown at any point releases every resource.

  "Whenever an encoder or decoder session is torn down with deinit followed by deinit_handle — after handle
   creation, after a rejected or accepted configuration, after init, mid-stream before EOS, or after draining —
   teardown returns, all library threads have exited, and no library-allocated memory, mutex or semaphore
   remains; repeating create/encode/destroy cycles does not grow memory."

  Two models.
  (A) Ownership (`Model/Unwind.lean`, classes of `Gen/Lifecycle.lean`, generated by `xlate/lifecycle.py`): what
      `EB_DELETE(handle)` in `svt_av1_enc_deinit_handle` releases — at ANY point of construction, because a
      partially constructed object is exactly what the `Script` semantics produces by stopping early.
  (B) Shutdown protocol (`Model/Srm.lean`, the C23 model of EbSystemResourceManager.c): `svt_av1_enc_deinit`
      calls `svt_shutdown_process` on 16 system resources (`Lifecycle.shutdownList`); each of the 16 kernel thread
      functions (`Lifecycle.kernels`) waits on the consumer side of one of them with `EB_GET_FULL_OBJECT`.

  The liveness half of the property is FALSE for the code as it is and is stated as such
  (`shutdown_misses_producers`, `kernels_block_on_empty`): finding F6.
  Not covered: OS-level release of memory; the ownership tables are syntactic (member-name matching, no aliasing,
  destructor loop counts assumed equal to the constructor's); the decoder (memory-map scheme) is covered by
  `harness/teardown.c` only.
-/
import SvtVerif.Lemmas.LifecycleTable
import SvtVerif.Lemmas.UnwindSrm

namespace C15
open Unwind

/-! ### (A) ownership -/

/-- **created ⊆ released, whole table.**  In every generated class every member the constructor can create
    (EB_NEW / EB_MALLOC* / EB_CALLOC* / EB_ALLOC_PTR_ARRAY / EB_CREATE_MUTEX / _SEMAPHORE / _THREAD*) is released
    by the class's destructor (EB_DELETE* / EB_FREE* / EB_DESTROY_*). -/
theorem created_subset_released : ∀ cd ∈ Lifecycle.table, cd.covered = true := by
  have hbad : Lifecycle.expectedBad.all (fun c => (Lifecycle.table.cls c).covered) = true := by decide +kernel
  intro cd hcd
  obtain ⟨c, hc, rfl⟩ := List.mem_iff_getElem.mp hcd
  rw [show Lifecycle.table[c] = Lifecycle.table.cls c by simp [Table.cls, hc]]
  cases hm : Lifecycle.expectedBad.contains c with
  | true => exact List.all_eq_true.mp hbad c (List.contains_iff_mem.mp hm)
  | false =>
    -- outside `expectedBad` the class is `good`, of which `covered` is a part
    have hg := Lifecycle.good_eq (List.mem_range.mpr hc)
    rw [hm] at hg
    exact (good_parts hg).2.1

example : Lifecycle.table.length ≥ 40 := by decide +kernel

/-- the good classes of the generated table form a good set -/
theorem generated_good : goodSet Lifecycle.table (goodClasses Lifecycle.table) = true := goodSet_goodClasses _

/-- **`dctor_releases_all`: teardown at any point of construction.**  For every class of the good set, every
    constructor run — complete, or stopped early at any point (a `Script` may end anywhere) — and every failure
    pattern: if construction returned the object, deleting it (`EB_DELETE`: destructor, then free) leaves the
    heap EMPTY and no destructor dereferences NULL; if construction returned an error the heap is already empty. -/
theorem dctor_releases_all (c : Nat) (hc : c ∈ goodClasses Lifecycle.table) (fail : Nat → Bool) (script : Script) :
    let r := construct Lifecycle.table fail c script
    (r.ok = true → (destroy Lifecycle.table r).heap = [] ∧ (destroy Lifecycle.table r).crashed = false) ∧
    (r.ok = false → r.st.heap = []) := by
  intro r
  have h := construct_spec Lifecycle.table fail _ (GoodSet.of_goodSet _ _ generated_good) c hc script
  exact ⟨h.ok_teardown, fun e => (h.err_clean e).1⟩

/-- non-vacuity: a fully constructed muxing queue (class `svt_muxing_queue`, straight-line run: its mutex, two ring
    buffers, the fifo array and one fifo)
    holds allocations, and they are all gone after the delete -/
example :
    let c := (Lifecycle.table.findIdx (fun cd => cd.name == "svt_muxing_queue"))
    let r := construct Lifecycle.table noFail c (straight Lifecycle.table 3 c)
    c ∈ goodClasses Lifecycle.table ∧ r.ok = true ∧ r.st.heap.length ≥ 5 ∧ (destroy Lifecycle.table r).heap = [] := by
  rw [Lifecycle.goodClasses_eq]
  decide +kernel

/-- **`no_double_release` (1): every allocation is freed at most once.**  The allocations owned by a completed
    object of a good class are pairwise distinct and are exactly the live heap; `EB_DELETE` removes exactly
    them (`dctor_releases_all`) — so no allocation is passed to `free` twice and nothing that is not live is freed. -/
theorem no_double_release (c : Nat) (hc : c ∈ goodClasses Lifecycle.table) (fail : Nat → Bool) (script : Script) :
    let r := construct Lifecycle.table fail c script
    r.ok = true → r.root.ids.Nodup ∧ r.st.heap = r.root.ids := by
  intro r hok
  have h := construct_spec Lifecycle.table fail _ (GoodSet.of_goodSet _ _ generated_good) c hc script
  exact ⟨(h.ok_owned hok).2, (h.ok_owned hok).1⟩

/-- **`no_double_release` (2): repeated releases are of the NULL-ing kind.**  A destructor may name a member
    twice (e.g. `enc_dec_segments_dctor` frees four arrays twice): that is harmless only because EB_FREE* /
    EB_DELETE / EB_DESTROY_* reset the member to NULL.  The members released with a primitive that does not
    (`free(obj->m)`, `Lifecycle.rawReleases`) are each released exactly once. -/
theorem raw_releases_once :
    ∀ p ∈ Lifecycle.rawReleases, ((Lifecycle.table.cls p.1).rels.countP (fun r => r.slot == some p.2)) = 1 := by
  decide +kernel

/-! ### (B) shutdown protocol -/

open Srm in
/-- **`shutdown_wakes_consumers`.**  For each of the 16 resources (any reachable state `s` of its SRM, i.e. after
    any interleaving of any threads) and each of its consumer fifos `f`: the two atomic steps of
    `svt_fifo_shutdown` (set `quit_signal`; post the semaphore) are enabled, lead to a reachable state, and a
    consumer that was blocked in `svt_get_full_object` on `f` then takes the semaphore and returns
    `EB_NoErrorFifoShutdown`. -/
theorem shutdown_wakes_consumers {s : State} (h : Reachable s) (f : Nat) (hf : f < s.nProc .full) :
    ∃ s1 s2, step s (.shutQuit f) = .ok s1 .ok ∧ step s1 (.shutPost f) = .ok s2 .ok ∧ Reachable s2 ∧
      (s.pc .full f = .waiting →
        ∃ s3 s4, step s2 (.semWait .full f) = .ok s3 .ok ∧ step s3 (.pop .full f) = .ok s4 .shutdown ∧
          s4.pc .full f = .idle) :=
  shutdown_wakes h f hf

/-- a reachable state with a consumer blocked in `svt_get_full_object` on fifo 0 of 2 -/
example : ∃ s, Srm.Reachable s ∧ s.pc .full 0 = .waiting ∧ 0 < s.nProc .full :=
  Srm.exists_reachable_of_run 2 1 2 [.reg .full 0] _ (by decide)

/-- **`kernel_exits_on_shutdown`.**  Every kernel thread function started by `svt_av1_enc_init` has a
    `for (;;)` loop whose first blocking call is `EB_GET_FULL_OBJECT` (EbSystemResourceManager.h:321: `return
    NULL` from the thread function on EB_NoErrorFifoShutdown), and the fifo it waits on is a consumer fifo of a
    resource that `svt_av1_enc_deinit` passes to `svt_shutdown_process`.  (Generated table, 16 kernels.) -/
theorem kernel_exits_on_shutdown :
    ∀ k ∈ Lifecycle.kernels, k.getFullFirst = true ∧ k.input ∈ Lifecycle.shutdownList :=
  Lifecycle.kernels_shutdown.1

example : Lifecycle.kernels.length = 16 ∧ Lifecycle.shutdownList.length = 16 := by decide +kernel

/-- every resource that is shut down has a kernel waiting on it, and no two kernels share one: the 16
    shutdown calls and the 16 kernels correspond one to one -/
theorem shutdown_list_matches_kernels :
    (Lifecycle.kernels.map (·.input)).Nodup ∧ ∀ r ∈ Lifecycle.shutdownList, r ∈ Lifecycle.kernels.map (·.input) :=
  Lifecycle.kernels_shutdown.2

/-- **Negative (F6), protocol level**: `svt_shutdown_process` touches consumer fifos only;
    a thread blocked in `svt_get_empty_object` (producer side, semaphore 0) is still blocked after any
    shutdown step of the same resource. -/
theorem shutdown_misses_producers {s s' : Srm.State} {f g : Nat} {r : Srm.Ret}
    (hs : Srm.step s (.shutQuit f) = .ok s' r ∨ Srm.step s (.shutPost f) = .ok s' r)
    (hp : s.pc .empty g = .waiting) (h0 : s.sem .empty g = 0) :
    Srm.step s' (.semWait .empty g) = .blocked :=
  Srm.shutdown_leaves_producer_blocked hs hp h0

/-- a reachable state with a producer blocked in `svt_get_empty_object`: one object, the producer holds it
    and asks for a second one -/
example : ∃ s, Srm.Reachable s ∧ s.pc .empty 0 = .waiting ∧ s.sem .empty 0 = 0 :=
  Srm.exists_reachable_of_run 1 1 1 [.reg .empty 0, .semWait .empty 0, .pop .empty 0, .reg .empty 0] _ (by decide)

/-- **Negative (F6), code level**: kernels whose loop also calls `svt_get_empty_object` — these can be left
    blocked by `svt_av1_enc_deinit` (mid-stream teardown hangs in `svt_av1_enc_deinit_handle`, which joins them);
    there is at least one (in fact all but `picture_decision_kernel`), `picture_manager_kernel` among them. -/
theorem kernels_block_on_empty :
    (Lifecycle.kernels.filter (fun k => k.getEmpty > 0)).length ≥ 1 ∧
    ∃ k ∈ Lifecycle.kernels, k.name = "picture_manager_kernel" ∧ k.getEmpty > 0 := by decide +kernel

end C15
