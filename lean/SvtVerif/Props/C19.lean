/-
  C19 — with intra period P ≥ 0 intra-coded frames are placed exactly at display positions that are multiples of
  P+1 (only position 0 when P = −1), as shown key frames for IDR refresh; decoding from any packet that carries a
  shown key frame yields the same pictures for those positions as decoding from the start.

  Part 1 (`IntraPeriod`): theorems about the automaton of `picture_decision_kernel`
  (EbPictureDecisionProcess.c:4719-4809, 4899-4938, 5014-5048, 1251-1254) on streams without application-forced
  picture types (`stdPic`), for ALL stream lengths `n` (induction on the picture number).
  Part 2 (`Dpb`): random access at a shown key frame in the AV1 reference-update/output process (spec §7.20/§7.21),
  for ANY reconstruction function and ANY prior DPB contents.
-/
import SvtVerif.Lemmas.IntraPeriod
import SvtVerif.Lemmas.DpbRefine

namespace C19
open IntraPeriod

/-! ## Part 1 — where the intra frames are -/

/-- **Intra positions, `P ≥ 0`.** For every stream length `n` and every picture `k < n` of a stream without
    application-forced picture types, picture `k` is intra-coded (I_SLICE) iff `k` is a multiple of `P+1`
    — for both refresh types and every rate-control mode. -/
theorem intra_positions (c : Cfg) (h0 : 0 ≤ c.P) (h31 : c.P < 2 ^ 31) (hr : c.refresh = 1 ∨ c.refresh = 2)
    (n k : Nat) (hk : k < n) :
    ∃ o, (run c n)[k]? = some o ∧ (o.intra = true ↔ (k : Int) % (c.P + 1) = 0) :=
  ⟨out c k, run_get c n k hk, (out_spec c h0 h31 hr k).1⟩

example : ∃ o, (run ⟨3, 2, 0⟩ 10)[8]? = some o ∧ o.intra = true := ⟨_, rfl, rfl⟩
example : ∃ o, (run ⟨3, 1, 1⟩ 10)[7]? = some o ∧ o.intra = false := ⟨_, rfl, rfl⟩

/-- **Frame types, closed form, `P ≥ 0`** (`frame_type`: 0 KEY_FRAME, 1 INTER_FRAME, 2 INTRA_ONLY_FRAME):
    picture 0 is a key frame; a later multiple of `P+1` is a key frame iff the refresh type is IDR **and `P ≠ 0`**,
    otherwise an INTRA_ONLY frame; every other picture is an inter frame. The `P ≠ 0` exception is the code as it is:
    with `intra_period_length == 0` line 4766-4767 sets `cra_flag` for every picture and never `idr_flag`
    (finding F12), see `p0_idr_refresh_not_key`. -/
theorem frame_type_spec (c : Cfg) (h0 : 0 ≤ c.P) (h31 : c.P < 2 ^ 31) (hr : c.refresh = 1 ∨ c.refresh = 2)
    (n k : Nat) (hk : k < n) :
    ∃ o, (run c n)[k]? = some o ∧
      o.frameType = (if k = 0 then 0
                     else if (k : Int) % (c.P + 1) = 0 then (if c.refresh = 2 ∧ c.P ≠ 0 then 0 else 2)
                     else 1) :=
  ⟨out c k, run_get c n k hk, (out_spec c h0 h31 hr k).2⟩

/-- For EVERY configuration (any `P`, refresh type, RC mode) the first picture of a stream is intra and a KEY_FRAME
    (`idr_flag` from `initial_picture`, EbResourceCoordinationProcess.c:1014). -/
theorem first_is_key (c : Cfg) (n : Nat) (hn : 0 < n) :
    ∃ o, (run c n)[0]? = some o ∧ o.intra = true ∧ o.frameType = 0 ∧ o.idr = true ∧ o.cra = false := by
  refine ⟨out c 0, run_get c n 0 hn, ?_⟩
  unfold out step stdPic posBefore
  by_cases a : c.P = 0
  · simp [a]
  · by_cases b : c.P = -1
    · simp [b]
    · by_cases d : c.refresh = 2 <;> simp [a, b, d]

example : ∃ o, (run ⟨0, 1, 2⟩ 1)[0]? = some o ∧ o.frameType = 0 := ⟨_, rfl, rfl⟩
example : ∃ o, (run ⟨5, 2, 0⟩ 40)[12]? = some o ∧ o.frameType = 0 := ⟨_, rfl, rfl⟩
example : ∃ o, (run ⟨5, 1, 0⟩ 40)[12]? = some o ∧ o.frameType = 2 := ⟨_, rfl, rfl⟩

/-- **`P = −1`**: only the first picture is intra; it is a key frame; everything else is an inter frame. -/
theorem intra_only_first (c : Cfg) (hP : c.P = -1) (n k : Nat) (hk : k < n) :
    ∃ o, (run c n)[k]? = some o ∧ (o.intra = true ↔ k = 0) ∧ o.frameType = (if k = 0 then 0 else 1) :=
  ⟨out c k, run_get c n k hk, step_std_m1 c hP (posBefore c k) k⟩

example : ∃ o, (run ⟨-1, 2, 0⟩ 100)[99]? = some o ∧ o.frameType = 1 := ⟨_, rfl, rfl⟩

/-- **IDR refresh ⇒ key frames** (as far as it is true): with `intra_refresh_type = IDR_REFRESH`, every intra picture
    is a KEY_FRAME, provided `P ≥ 1` or it is picture 0. (Key frames are always shown: `set_key_frame_rps`,
    EbPictureDecisionProcess.c:1203-1213, sets `show_frame = 1`; that line is outside this automaton and is checked
    on real packets.) -/
theorem idr_refresh_key (c : Cfg) (h31 : c.P < 2 ^ 31) (hr : c.refresh = 2) (n k : Nat) (hk : k < n)
    (hP : 1 ≤ c.P ∨ k = 0) :
    ∃ o, (run c n)[k]? = some o ∧ (o.intra = true → o.frameType = 0) := by
  rcases hP with hP | hP
  · have hs := out_spec c (by omega) h31 (Or.inr hr) k
    refine ⟨out c k, run_get c n k hk, fun h => ?_⟩
    have hz : c.P ≠ 0 := by omega
    rw [hs.2]; simp [hs.1.mp h, hr, hz]
  · subst hP
    obtain ⟨o, ho, _, hf, _⟩ := first_is_key c n hk
    exact ⟨o, ho, fun _ => hf⟩

example : ∃ o, (run ⟨3, 2, 0⟩ 10)[4]? = some o ∧ o.intra = true ∧ o.frameType = 0 := ⟨_, rfl, rfl, rfl⟩

/-- **The excluded point, proved in the negative**: with `P = 0` every picture after the first is intra but is an
    INTRA_ONLY frame, not a key frame — for IDR refresh too. Concrete configuration for the real encoder:
    `intra_period_length = 0`, `intra_refresh_type = 2`, any stream of ≥ 2 pictures: picture 1 is INTRA_ONLY. -/
theorem p0_idr_refresh_not_key (c : Cfg) (hP : c.P = 0) (n k : Nat) (hk : k < n) (hk1 : 1 ≤ k) :
    ∃ o, (run c n)[k]? = some o ∧ o.intra = true ∧ o.frameType = 2 := by
  refine ⟨out c k, run_get c n k hk, ?_⟩
  have h := step_std_0 c hP k
  unfold out; rw [posBefore_0 c hP k]
  refine ⟨h.2.1, ?_⟩
  rw [h.2.2, if_neg (by omega)]

example : ∃ o, (run ⟨0, 2, 0⟩ 2)[1]? = some o ∧ o.intra = true ∧ o.frameType = 2 := ⟨_, rfl, rfl, rfl⟩

/-- CRA refresh: the periodic intra pictures (other than picture 0) are INTRA_ONLY frames. -/
theorem cra_refresh_intra_only (c : Cfg) (h0 : 0 ≤ c.P) (h31 : c.P < 2 ^ 31) (hr : c.refresh = 1) (n k : Nat) (hk : k < n)
    (hk1 : 1 ≤ k) : ∃ o, (run c n)[k]? = some o ∧ (o.intra = true → o.frameType = 2) := by
  have hs := out_spec c h0 h31 (Or.inl hr) k
  refine ⟨out c k, run_get c n k hk, fun h => ?_⟩
  rw [hs.2]; simp [hs.1.mp h, hr, show k ≠ 0 by omega]

example : ∃ o, (run ⟨2, 1, 1⟩ 8)[3]? = some o ∧ o.intra = true ∧ o.frameType = 2 := ⟨_, rfl, rfl, rfl⟩

/-! ## Part 2 — a shown key frame is a random-access point -/

open Dpb

/-- **Random access.** Let `frames = pre ++ key :: post` where `key` is a coded (not show-existing) KEY frame with
    `show_frame = 1` (so `refresh_frame_flags = 0xFF` is inferred). For ANY reconstruction function `R`, ANY DPB
    contents `d` the full decode started from and ANY (garbage) DPB contents `d'` the suffix decode starts from, the
    pictures output when decoding `key :: post` are exactly the pictures the full decode outputs after the
    outputs of `pre`; the final DPBs agree too. Unconditional in `post`: all eight slots are overwritten by the key
    frame, so whatever `post` references was produced at or after the key frame. -/
theorem keyframe_random_access {P S : Type} (R : P → List S → S) (d d' : State S)
    (frames pre post : List (Frame P)) (key : Frame P)
    (hsplit : frames = pre ++ key :: post) (hkey : IsShownKey key) :
    outputs (runDec R d' (key :: post)).2 =
        (outputs (runDec R d frames).2).drop (outputs (runDec R d pre).2).length ∧
    (runDec R d' (key :: post)).1 = (runDec R d frames).1 := by
  subst hsplit
  rw [runDec_append, runDec_shownKey_indep R d' (runDec R d pre).1 key post hkey]
  simp only [outputs_append, List.drop_left, and_self]

/-- The number of pictures to skip is determined by the headers alone: the frames of `pre` with `show_frame = 1`
    or `show_existing_frame = 1`. -/
theorem outputs_count {P S : Type} (R : P → List S → S) (d : State S) (fs : List (Frame P)) :
    (outputs (runDec R d fs).2).length = (fs.filter producesOutput).length :=
  outputs_length R d fs

/-- Non-vacuity / test: a key frame, an inter frame, a second key frame, an inter frame; decoding from the second
    key frame with garbage in the DPB gives the last two pictures of the full decode. -/
example :
    let R : Nat → List Nat → Nat := fun p refs => p + refs.sum
    let k1 : Frame Nat := ⟨.key, true, false, none, 0, [], 100⟩
    let i1 : Frame Nat := ⟨.inter, true, false, none, 1, [0, 0, 0, 0, 0, 0, 0], 1⟩
    let k2 : Frame Nat := ⟨.key, true, false, none, 0, [], 200⟩
    let i2 : Frame Nat := ⟨.inter, true, false, none, 2, [3, 3, 3, 3, 3, 3, 3], 2⟩
    let clean : State Nat := fun _ => ⟨0, .inter, false⟩
    let junk : State Nat := fun j => ⟨77 + j.val, .key, true⟩
    outputs (runDec R junk [k2, i2]).2 = [200, 1402] ∧
    outputs (runDec R clean [k1, i1, k2, i2]).2 = [100, 701, 200, 1402] := by decide

/-- A frame shown through `show_existing_frame` whose slot holds a KEY frame reloads that frame into all eight
    slots (§7.21): after it the DPB is uniform. (It is not a random-access point for a decoder that starts there,
    because the slot content comes from the skipped part.) -/
theorem show_existing_key_refreshes_all {P S : Type} (R : P → List S → S) (d : State S) (f : Frame P) (i : Fin 8)
    (hf : f.showExisting = some i) (hk : (d i).frameType = .key) :
    decStep R d f = (fun _ => d i, some (d i).pic) :=
  (decStep_showExisting R d f i hf).1 hk

/-- **Encoder/decoder agreement** (`recon_eq_decode` shape): two DPB machines — the encoder's reference list
    management and the decoder — that step over the same frame headers with reconstruction functions agreeing on every
    frame of the list (for all reference inputs) and start from equal DPBs, produce equal outputs and equal DPBs. -/
theorem recon_eq_decode {P S : Type} (R₁ R₂ : P → List S → S) (d : State S) (fs : List (Frame P))
    (hR : ∀ f ∈ fs, ∀ refs, R₁ f.payload refs = R₂ f.payload refs) :
    runDec R₁ d fs = runDec R₂ d fs :=
  runDec_congr R₁ R₂ d fs hR

example : runDec (fun (p : Nat) (_ : List Nat) => p + 0) (fun _ => ⟨0, .inter, false⟩) [⟨.key, true, false, none, 0, [], 5⟩] =
    runDec (fun (p : Nat) (_ : List Nat) => p) (fun _ => ⟨0, .inter, false⟩) [⟨.key, true, false, none, 0, [], 5⟩] :=
  recon_eq_decode _ _ _ _ (fun _ _ _ => rfl)

end C19
