/-
  C17 — concurrent encoder and decoder instances in one process do not interfere.

  What is proved here (model: `Model/NonInterf.lean`; inventory: `Gen/Globals.lean`, generated by `xlate/globals.py`;
  reviewed classification: `Spec/GlobalsClass.lean`):

  * `noninterference` / `noninterference_n` / `noninterference_of_agreement`: for ALL traces and ALL interleavings,
    an instance ends in the private state (outputs included) it reaches when it is alone in the process, provided every
    global that coding code reads is only ever stored with an instance-independent value and counters are only touched by
    locked read-modify-writes.
  * `noninterference_fails_with` and its instances: for an `instanceDependent` / `transientRebuild` global the
    conclusion is FALSE for some two-instance trace — the hypothesis cannot be dropped.
  * `globals_classified`, `harmful_globals_exact`, `library_is_not_interference_free`: the generated table of the
    current tree is completely classified, the harmful part of it is exactly the reviewed list, and it is not empty —
    so the whole-library claim does NOT follow for the current tree; which of the harmful globals are observable on the
    real code is decided by `harness/multi.c` (checks/c17.py), see known_findings.txt.
-/
import SvtVerif.Lemmas.NonInterf
import SvtVerif.Lemmas.GlobalsTable

namespace C17
open SvtVerif.NonInterf SvtVerif.Spec.GlobalsClass

/-- **Non-interference, any number of instances.**  `m` is an arbitrary joint execution (list of (instance, atomic action)):
    every interleaving of every choice of per-instance traces.  If every global is `writeOnceConstant` or `lockedCounter`,
    every action respects its global's class (`ClassOK`), statically initialised constants start with their constant, and
    instance `i` reads a global only after its own initialisation stored it (`wellInit`), then `i`'s final private state —
    its packets, reconstructed and decoded pictures — is the one of running `i`'s own trace alone.
    C meaning: if no global of the library were written from instance configuration, instances could not influence each other
    through globals, whatever the timing of init / encode / deinit of the others. -/
theorem noninterference_n {ι γ ν σ : Type} [DecidableEq ι] [DecidableEq γ]
    (cls : γ → Class) (c : γ → ν) (static : γ → Bool)
    (hcls : ∀ g, cls g = .writeOnceConstant ∨ cls g = .lockedCounter)
    (m : List (ι × Act γ ν σ)) (i : ι) (s : St ι γ ν σ)
    (hok : ∀ p ∈ m, ClassOK cls c p.2)
    (hstatic : ∀ g, cls g = .writeOnceConstant → static g = true → s.G g = c g)
    (hinit : wellInit static [] (proj i m) = true) :
    (run m s).I i = (runSolo (proj i m) (s.G, s.I i)).2 := by
  apply noninterference_of_agreement' (fun g => decide (cls g = .writeOnceConstant)) c static m i s
  · intro p hp; exact actOK_of_classOK cls c hcls p.2 (hok p hp)
  · intro g hr hs; exact hstatic g (by simpa using hr) hs
  · exact hinit

/-- **Non-interference, two instances, every interleaving**: the first instance ends as `t₁` alone does. -/
theorem noninterference {γ ν σ : Type} [DecidableEq γ]
    (cls : γ → Class) (c : γ → ν) (static : γ → Bool)
    (hcls : ∀ g, cls g = .writeOnceConstant ∨ cls g = .lockedCounter)
    (t₁ t₂ : List (Act γ ν σ)) (m : List (Bool × Act γ ν σ)) (hm : Interleaving t₁ t₂ m) (s : St Bool γ ν σ)
    (hok₁ : ∀ a ∈ t₁, ClassOK cls c a) (hok₂ : ∀ a ∈ t₂, ClassOK cls c a)
    (hstatic : ∀ g, cls g = .writeOnceConstant → static g = true → s.G g = c g)
    (hinit : wellInit static [] t₁ = true) :
    (run m s).I false = (runSolo t₁ (s.G, s.I false)).2 := by
  have hp := (proj_of_interleaving hm).1
  have := noninterference_n cls c static hcls m false s (forall_of_interleaving hm hok₁ hok₂) hstatic
    (by rw [hp]; exact hinit)
  rwa [hp] at this

/-- the same for the second instance -/
theorem noninterference_second {γ ν σ : Type} [DecidableEq γ]
    (cls : γ → Class) (c : γ → ν) (static : γ → Bool)
    (hcls : ∀ g, cls g = .writeOnceConstant ∨ cls g = .lockedCounter)
    (t₁ t₂ : List (Act γ ν σ)) (m : List (Bool × Act γ ν σ)) (hm : Interleaving t₁ t₂ m) (s : St Bool γ ν σ)
    (hok₁ : ∀ a ∈ t₁, ClassOK cls c a) (hok₂ : ∀ a ∈ t₂, ClassOK cls c a)
    (hstatic : ∀ g, cls g = .writeOnceConstant → static g = true → s.G g = c g)
    (hinit : wellInit static [] t₂ = true) :
    (run m s).I true = (runSolo t₂ (s.G, s.I true)).2 := by
  have hp := (proj_of_interleaving hm).2
  have := noninterference_n cls c static hcls m true s (forall_of_interleaving hm hok₁ hok₂) hstatic
    (by rw [hp]; exact hinit)
  rwa [hp] at this

/-- non-vacuity: a two-instance system with one `writeOnceConstant` table `0` (stored by each init, then read) and one
    `lockedCounter` `1`; all hypotheses hold for this interleaving, and the conclusion is a real equation between lists. -/
example :
    let cls : Nat → Class := fun g => if g = 0 then .writeOnceConstant else .lockedCounter
    let a0 : Act Nat Nat (List Nat) := .rmw 1 "svt_increase_component_count" (· + 1)
    let a1 : Act Nat Nat (List Nat) := .store 0 "init_tables" (fun _ => 7)
    let a2 : Act Nat Nat (List Nat) := .compute [0] (fun vs x => vs ++ x)
    let t : List (Act Nat Nat (List Nat)) := [a0, a1, a2]
    let m : List (Bool × Act Nat Nat (List Nat)) := [(false, a0), (true, a0), (true, a1), (false, a1), (true, a2), (false, a2)]
    let s : St Bool Nat Nat (List Nat) := { G := fun _ => 0, I := fun _ => [] }
    (∀ g, cls g = .writeOnceConstant ∨ cls g = .lockedCounter) ∧ Interleaving t t m ∧
    (run m s).I false = [7] ∧ (runSolo t (s.G, s.I false)).2 = [7] ∧ wellInit (fun _ => false) [] t = true := by
  refine ⟨?_, ?_, ?_, ?_, ?_⟩
  · intro g; by_cases h : g = 0 <;> simp [h]
  · exact .left (.right (.right (.left (.right (.left .nil)))))
  · simp [run, step, upd]
  · simp [runSolo, stepSolo, upd]
  · simp [wellInit]

/-- **Non-interference from agreement** (the narrower lemma used for the globals that ARE written from instance
    configuration): `readable` may contain instance-dependent globals, as long as every store to them in this execution
    stores the same value `c g` — two encoders with the same super-block size both store the same block geometry; any two
    admissible RTCD selections are the same function if property C07 holds.  Any number of instances, every interleaving. -/
theorem noninterference_of_agreement {ι γ ν σ : Type} [DecidableEq ι] [DecidableEq γ]
    (readable : γ → Bool) (c : γ → ν) (static : γ → Bool)
    (m : List (ι × Act γ ν σ)) (i : ι) (s : St ι γ ν σ)
    (hact : ∀ p ∈ m, ActOK readable c p.2)
    (hstatic : ∀ g, readable g = true → static g = true → s.G g = c g)
    (hinit : wellInit static [] (proj i m) = true) :
    (run m s).I i = (runSolo (proj i m) (s.G, s.I i)).2 :=
  noninterference_of_agreement' readable c static m i s hact hstatic hinit

example :
    let a0 : Act Nat Nat (Nat × Nat) := .store 0 "build_blk_geom" (fun x => x.1)
    let a1 : Act Nat Nat (Nat × Nat) := .compute [0] (fun vs x => (x.1, vs.headD 0))
    let m : List (Bool × Act Nat Nat (Nat × Nat)) := [(false, a0), (true, a0), (false, a1), (true, a1)]
    let s : St Bool Nat Nat (Nat × Nat) := { G := fun _ => 0, I := fun _ => (64, 0) }   -- both instances: SB size 64
    (run m s).I false = (64, 64) ∧ (runSolo [a0, a1] (s.G, s.I false)).2 = (64, 64) := by
  simp [run, step, runSolo, stepSolo, upd]

def Interferes {γ ν : Type} [DecidableEq γ] (g : γ) (v₁ v₂ : ν) : Prop :=
  ∃ (m : List (Bool × Act γ ν (ν × ν))) (s : St Bool γ ν (ν × ν)),
    s.I false = (v₁, v₁) ∧ s.I true = (v₂, v₂) ∧
    (∀ p ∈ m, match p.2 with | .store g' _ _ => g' = g | .compute r _ => r = [g] | .rmw _ _ _ => False) ∧
    wellInit (fun _ => false) [] (proj false m) = true ∧ wellInit (fun _ => false) [] (proj true m) = true ∧
    (run m s).I false ≠ (runSolo (proj false m) (s.G, s.I false)).2

/-- **The hypothesis is necessary.**  For any global `g` and any two different values two instances' configurations give it,
    there is a two-instance execution — both instances run the same code (store my configuration's value into `g`, later read
    `g`), each reads `g` only after its own store — in which the first instance ends in a different state than alone. -/
theorem noninterference_fails_with {γ ν : Type} [DecidableEq γ] (g : γ) (v₁ v₂ : ν) (h : v₁ ≠ v₂) : Interferes g v₁ v₂ := by
  refine ⟨badTrace g, badStart v₁ v₂ v₁, ?_, ?_, ?_, ?_, ?_, ?_⟩
  · simp [badStart]
  · simp [badStart]
  · intro p hp
    simp [badTrace] at hp
    rcases hp with rfl | rfl | rfl <;> simp
  · simp [badTrace, proj, wellInit]
  · simp [badTrace, proj, wellInit]
  · rw [badTrace_joint, badTrace_solo]
    intro hc
    exact h (by injection hc with _ h2; exact h2.symm)

/-! ### the instances of `noninterference_fails_with` for the harmful globals of the current tree
    (`γ := String` = the global's name, values abstracted to `Nat`; each is the model-level reason for a scenario of harness/multi.c) -/

/-- EbUtility.c `max_sb` (and with it `blk_geom_mds`, `blk_geom_dps`, `max_depth`, `max_num_active_blocks`): encoder A with
    64x64 super-blocks, encoder B with 128x128.  REAL CODE: SIGSEGV / different packets (finding C17-blk_geom-sb64-vs-sb128). -/
theorem blk_geom_interferes : Interferes "max_sb" (64 : Nat) 128 := noninterference_fails_with _ _ _ (by decide)
/-- RTCD pointers and the tables copied from them: instance A `use_cpu_flags = 0` (C kernels = 0), instance B all flags (AVX2 = 1).
    Harmless on the real code iff the kernels are extensionally equal (C07); no difference observed by harness/multi.c. -/
theorem rtcd_pointers_interfere : Interferes "svt_aom_sad16x16" (0 : Nat) 1 := noninterference_fails_with _ _ _ (by decide)
/-- `lp_group`: A's deinit_handle stores NULL (0) while B still holds the pointer its init_handle saw (1).
    REAL CODE: SIGSEGV in svt_av1_enc_init with unpin = 0 (finding C17-lp_group-freed-by-other-handle). -/
theorem lp_group_interferes : Interferes "lp_group" (1 : Nat) 0 := noninterference_fails_with _ _ _ (by decide)
/-- `svt_dec_memory_map` (+ index / total / start / end): the list head belongs to the handle constructed last.
    REAL CODE: crash / double free as soon as two decoder handles are alive together (finding C17-svt_dec_memory_map-two-decoders). -/
theorem dec_memory_map_interferes : Interferes "svt_dec_memory_map" (1 : Nat) 2 := noninterference_fails_with _ _ _ (by decide)
/-- `wedge_masks` (transientRebuild): B's init stores NULL pointers (0) before the final ones (1) while A is encoding. -/
theorem wedge_masks_interfere : Interferes "wedge_masks" (1 : Nat) 0 := noninterference_fails_with _ _ _ (by decide)
/-- film-grain statics: the PRNG register of the picture instance A is synthesising is reseeded by instance B's picture. -/
theorem film_grain_interferes : Interferes "random_register" (1234 : Nat) 5678 := noninterference_fails_with _ _ _ (by decide)
/-- EbResize.c `seed`: one PRNG for the random super-resolution denominators of all encoders. -/
theorem resize_seed_interferes : Interferes "seed" (34567 : Nat) 22222 := noninterference_fails_with _ _ _ (by decide)
/-- `group_affinity`: CPU set of the instance that called svt_av1_enc_init with unpin = 0 last. -/
theorem group_affinity_interferes : Interferes "group_affinity" (3 : Nat) 255 := noninterference_fails_with _ _ _ (by decide)
/-- `enc_dec_ports` / `rate_control_ports`: process counts of the instance whose svt_av1_enc_init wrote them last.
    REAL CODE: two concurrent svt_av1_enc_init calls with different thread counts -> SIGSEGV in svt_get_empty_object
    (finding C17-port-tables-concurrent-enc_init; a race, ~60% of the runs). -/
theorem port_tables_interfere : Interferes "enc_dec_ports" (1 : Nat) 4 := noninterference_fails_with _ _ _ (by decide)

/-- Every writable global of the current tree (generated table) is classified, and every function that writes it (or writes
    through the pointer it holds) is one of the reviewed writers.  A new global, or a new writer, fails this theorem. -/
theorem globals_classified : ∀ g ∈ SvtVerif.Gen.Globals.all, classOf g ≠ .unclassified :=
  inventory_classes.1

/-- names of the harmful globals other than the RTCD dispatch pointers themselves -/
def harmfulNonRtcd : List String :=
  (SvtVerif.Gen.Globals.all.filter (fun g => harmful (classOf g) && !isRtcdPointer g)).map (·.name)

/-- The harmful (instanceDependent / transientRebuild) part of the current tree is exactly: the RTCD dispatch pointers
    (rule 2) plus the globals named here — nothing else in the libraries is written from instance state. -/
theorem harmful_globals_exact :
    let expected :=
      [ "convolve", "convolveHbd", "wedge_masks", "dc_pred", "dc_pred_high", "eb_pred", "pred_high",
        "blk_geom_dps", "blk_geom_mds", "max_depth", "max_num_active_blocks", "max_sb",
        "svt_av1_highbd_dr_prediction_z2",
        "chroma_subblock_size_x", "chroma_subblock_size_y", "grain_max", "grain_min", "luma_subblock_size_x", "luma_subblock_size_y",
        "random_register", "scaling_lut_cb", "scaling_lut_cr", "scaling_lut_y",
        "memory_map_end_address", "memory_map_start_address", "svt_dec_lib_malloc_count", "svt_dec_memory_map",
        "svt_dec_memory_map_index", "svt_dec_total_lib_memory",
        "hbd_horz_filter_tap", "hbd_vert_filter_tap", "lbd_horz_filter_tap", "lbd_vert_filter_tap",
        "seed", "mefn_ptr", "enc_dec_ports", "group_affinity", "lp_group", "rate_control_ports" ]
    (∀ n ∈ harmfulNonRtcd, n ∈ expected) ∧ (∀ n ∈ expected, n ∈ harmfulNonRtcd) := by
  intro expected
  have h : (∀ n ∈ harmfulReviewed, n ∈ expected) ∧ (∀ n ∈ expected, n ∈ harmfulReviewed) := by decide +kernel
  exact ⟨fun n hn => h.1 n (inventory_classes.2.1 n hn), fun n hn => inventory_classes.2.2 n (h.2 n hn)⟩

/-- The hypothesis of `noninterference` does NOT hold of the current tree: the whole-library claim is not a theorem here;
    it is decided per harmful global on the real code (checks/c17.py). -/
theorem library_is_not_interference_free :
    ¬ ∀ g ∈ SvtVerif.Gen.Globals.all, classOf g = .writeOnceConstant ∨ classOf g = .lockedCounter := by
  intro h
  obtain ⟨g, hg, _⟩ := List.mem_map.mp (harmful_globals_exact.2 "max_sb" (by decide))
  obtain ⟨hmem, hh⟩ := List.mem_filter.mp hg
  rcases h g hmem with hc | hc <;> rw [hc] at hh <;> cases hh

/-- the inventory has as many entries as the generator counted -/
theorem inventory_size : SvtVerif.Gen.Globals.all.length = SvtVerif.Gen.Globals.count := by
  decide +kernel

end C17
