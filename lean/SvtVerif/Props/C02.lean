/-
  C02 — every packet returned by the encoder is one well-formed temporal unit (framing layer).
  Models: SvtVerif/Model/{Leb128,Obu,Tu,ObuSite}.lean; SvtVerif/Gen/ObuSites.lean is regenerated from /repo by
  xlate/obusites.py.
-/
import SvtVerif.Lemmas.Obu
import SvtVerif.Lemmas.Tu
import SvtVerif.Lemmas.ObuSite
import SvtVerif.Gen.ObuSites

namespace C02
open Leb128 Obu ObuLemmas Tu TuLemmas ObuSite ObuSiteLemmas

/-- **LEB128 round trip.** For every value the C encoder accepts (`svt_aom_uleb_encode`, `value ≤ 2^56-1`,
    enough room), `dec_get_bits_leb128` reads back exactly the value and leaves exactly the bytes that
    followed the size field. -/
theorem leb128_roundtrip (v : Nat) (rest : List UInt8) (hv : v < 2 ^ 56) :
    ∃ bytes, ulebEncode v 8 = some bytes ∧ bytes.length = sizeInBytes v ∧ decode (bytes ++ rest) = some (v, rest) := by
  have h8 := sizeInBytes_le_8 v hv
  exact ⟨_, ulebEncode_eq v 8 hv h8, encodeBytes_length _ _,
    decode_encode v rest (Nat.lt_of_lt_of_le hv (by decide)) h8⟩

example : ulebEncode 300 8 = some [0xac, 0x02] ∧ decode ([0xac, 0x02] ++ [7]) = some (300, [7]) := by decide

/-- The statement of the property text (`v < 2^32`), as a corollary. -/
theorem leb128_roundtrip_u32 (v : Nat) (rest : List UInt8) (hv : v < 2 ^ 32) :
    ∃ bytes, ulebEncode v 8 = some bytes ∧ readObuSize (bytes ++ rest) = some (v, rest) := by
  obtain ⟨bytes, h1, _, h3⟩ := leb128_roundtrip v rest (Nat.lt_of_lt_of_le hv (by decide))
  exact ⟨bytes, h1, readObuSize_of_decode h3 hv⟩

example : ∃ bytes, ulebEncode 70000 8 = some bytes ∧ readObuSize (bytes ++ [1, 2]) = some (70000, [1, 2]) :=
  leb128_roundtrip_u32 70000 [1, 2] (by decide)

/-- **Size function.** `svt_aom_uleb_size_in_bytes v` is the least `n ≥ 1` with `v < 128^n`
    (for every `uint64_t` argument), and it is the number of bytes `svt_aom_uleb_encode` writes. -/
theorem leb128_size_eq (v : Nat) (hv : v < 2 ^ 64) :
    v < 128 ^ sizeInBytes v ∧ (sizeInBytes v = 1 ∨ 128 ^ (sizeInBytes v - 1) ≤ v) ∧
      (encodeBytes (sizeInBytes v) v).length = sizeInBytes v := by
  have h := sizeInBytes_spec v hv
  exact ⟨h.1, h.2, encodeBytes_length _ _⟩

example : sizeInBytes 0 = 1 ∧ sizeInBytes 127 = 1 ∧ sizeInBytes 128 = 2 ∧ sizeInBytes 16384 = 3 := by decide

/-- **OBU size field as the encoder writes it** (`write_uleb_obu_size`: `available = sizeof(uint32_t) = 4`):
    it succeeds exactly for payload sizes below 2^28, and then `read_obu_size` reads the size back. -/
theorem obu_size_field (n : Nat) (rest : List UInt8) (hn : n < 2 ^ 28) :
    ∃ bytes, writeUlebObuSize n = some bytes ∧ readObuSize (bytes ++ rest) = some (n, rest) := by
  exact ⟨_, ulebEncode_eq n 4 (Nat.lt_of_lt_of_le hn (by decide)) (sizeInBytes_le_4 n hn), readObuSize_encode n rest hn⟩

/-- The excluded point of `obu_size_field`: from 2^28 bytes on, `write_uleb_obu_size` fails (the caller
    only `assert(0)`s), i.e. no size field is written. -/
theorem obu_size_field_limit (n : Nat) (hn : 2 ^ 28 ≤ n) (hn2 : n < 2 ^ 64) : writeUlebObuSize n = none := by
  have h4 : ¬ sizeInBytes n ≤ 4 := fun h => Nat.not_lt.2 hn ((sizeInBytes_le_iff n 4 hn2 (by decide)).1 h)
  exact ulebEncode_none n 4 (Nat.lt_of_not_le h4)

/-- **Framing.** For every list of OBUs with valid type, zero reserved bits and payloads below 2^28 bytes —
    any payload bytes — parsing the concatenation of their serializations (`write_obu_header`, size field,
    payload) returns exactly that list: the size fields match the payloads and the OBU boundaries are
    recovered. -/
theorem obu_frame_parse (os : List Obu.Obu) (hw : ∀ o ∈ os, o.wellFormed = true) :
    parseObus (os.flatMap serialize) = .ok os :=
  parseObusGo_serialize os hw _ (Nat.le_refl _)

/-- Non-vacuity on real bytes: the show-existing packet of a real encode (192x128, preset 4, 4 hierarchical
    levels, packet 3: `12 00 1a 01 98`) is the serialization of `[TD, FRAME_HEADER [0x98]]`. -/
example : parseObus [0x12, 0x00, 0x1a, 0x01, 0x98] = .ok [tdObu, { obuType := 3, ext := none, payload := [0x98] }] ∧
    [tdObu, { obuType := 3, ext := none, payload := [0x98] }].flatMap serialize = [0x12, 0x00, 0x1a, 0x01, 0x98] ∧
    (∀ o ∈ [tdObu, ({ obuType := 3, ext := none, payload := [0x98] } : Obu.Obu)], o.wellFormed = true) := by decide

/-- **TU structure.** Whenever the group handed to `encode_tu` consists of non-shown pictures followed by one
    shown picture (the packetization invariant), the packet is: a temporal delimiter, then for each picture
    its optional sequence header (present for every key frame), its metadata and its OBU_FRAME, with exactly
    one displayed frame, which is the last OBU — for every number of pictures, every header/tile payload. -/
theorem tu_structure (pre : List Entry) (l : Entry) (hpre : ∀ e ∈ pre, e.showFrame = false)
    (hl : l.showFrame = true) : isTemporalUnit (encodeTuObus (pre ++ [l])) = true := by
  obtain ⟨p1, p2⟩ := scan_hidden pre hpre {}
  obtain ⟨e1, e2, e3⟩ := scan_entry l ((pre.flatMap entryObus).foldl scanStep {})
  simp only [isTemporalUnit, encodeTuObus, List.flatMap_append, List.flatMap_cons, List.flatMap_nil,
    List.append_nil, List.foldl_append, e1, e2, e3, p1, p2, hl]
  decide

example : isTemporalUnit (encodeTuObus
    ([{ frameType := 1, showFrame := false, hdrLow := 5, hdrTail := [1, 2], seqHdr := [] }] ++
     [{ frameType := 0, showFrame := true, hdrLow := 0, hdrTail := [3], seqHdr := [0, 0], metadata := [[4, 0x80]] }])) = true := by
  decide

/-- The packet written by `encode_show_existing` (TD, metadata, one show-existing frame header) is a temporal
    unit with exactly one displayed frame. -/
theorem tu_show_existing (e : Entry) : isTemporalUnit (encodeShowExistingObus e) = true := by
  obtain ⟨m1, m2, _⟩ := scan_metadata e.seMetadata {}
  simp only [isTemporalUnit, encodeShowExistingObus, List.foldl_append, List.foldl_cons, List.foldl_nil,
    scanStep_showExisting, m1, m2]
  rfl

/-- **From the queue.** Whatever the reorder queue contains, if `count_frames_in_next_tu` returns `n` with
    `0 < n < PACKETIZATION_REORDER_QUEUE_MAX_DEPTH`, the `n` head entries are all present, only the last one is
    shown, and the packet `encode_tu` builds from them is a temporal unit. (`n = DEPTH` — a full queue without any
    shown picture — is the excluded point: the C loop then returns `DEPTH` and `encode_tu` would emit a packet
    without a displayed frame.) -/
theorem tu_from_queue (slots : List (Option Entry)) (n : Nat) (hn : countFramesInNextTu slots = n)
    (h0 : n ≠ 0) (hD : n < slots.length) :
    ∃ es, slots.take n = es.map some ∧ es.length = n ∧ isTemporalUnit (encodeTuObus es) = true := by
  subst hn
  obtain ⟨pre, l, rest, h1, h2, h3, h4⟩ := countGo_shape slots 0 h0 (by rw [Nat.zero_add]; exact hD)
  have hlen : (pre ++ [l]).length = countFramesInNextTu slots := by
    rw [countFramesInNextTu, h4, List.length_append, List.length_singleton, Nat.zero_add]
  exact ⟨pre ++ [l], by rw [← hlen, h1]; exact List.take_left' (List.length_map _), hlen, tu_structure pre l h2 h3⟩

example : countFramesInNextTu [some { frameType := 1, showFrame := false, hdrLow := 0, hdrTail := [], seqHdr := [] },
    some { frameType := 1, showFrame := true, hdrLow := 0, hdrTail := [], seqHdr := [] }, none] = 2 := by decide

/-- The bytes of the packet parse back to the OBU list the model assembled (sizes below 2^28). -/
theorem tu_bytes_parse (es : List Entry) (hsz : ∀ o ∈ encodeTuObus es, o.payload.length < 2 ^ 28) :
    parseObus (encodeTu es) = .ok (encodeTuObus es) := by
  apply obu_frame_parse
  intro o ho
  obtain ⟨ht, he⟩ := encodeTuObus_plain es o ho
  exact wellFormed_of o ht he (hsz o ho)

/-- **Reserve – move – encode, all payload sizes.** At a site whose extracted expressions pass `Site.consistent`
    (reserved value = encoded value = moved size = payload size, offsets as in the C code), the bytes the writer keeps
    are exactly `write_obu_header` bytes ++ LEB128(payload size) ++ payload, for every OBU header and EVERY payload
    below 2^28 bytes — in particular on both sides of the LEB128 length boundaries 127/128, 16383/16384, 2097151/2097152,
    where the number of reserved bytes changes. -/
theorem site_layout_serialize (s : Site) (hres : s.reserved.isSome = true) (hc : s.consistent = true)
    (o : Obu.Obu) (hw : o.wellFormed = true) :
    layoutSite s (headerBytes o) o.payload = serialize o := by
  exact layout_consistent s hres hc (headerBytes o) o.payload (wellFormed_elim hw).2.2.2

/-- The decoder-side parser recovers exactly the OBU from the bytes a consistent site lays out. -/
theorem site_layout_parses (s : Site) (hres : s.reserved.isSome = true) (hc : s.consistent = true)
    (o : Obu.Obu) (hw : o.wellFormed = true) :
    parseObus (layoutSite s (headerBytes o) o.payload) = .ok [o] := by
  rw [site_layout_serialize s hres hc o hw]
  exact parseObus_serialize o hw

example : Gen.ObuSites.frameSite.reserved.isSome = true ∧ Gen.ObuSites.frameSite.consistent = true := by decide

set_option maxRecDepth 16000 in
/-- Payload sizes 126, 127, 128 through the extracted `write_frame_header_av1` site (non-vacuity on the boundary). -/
example : ∀ n ∈ [126, 127, 128],
    parseObus (layoutSite Gen.ObuSites.frameSite (headerBytes { obuType := 6, ext := none, payload := [] }) (List.replicate n 7))
      = .ok [{ obuType := 6, ext := none, payload := List.replicate n 7 }] := by
  intro n hn
  have hn' : n < 2 ^ 28 := by
    simp only [List.mem_cons, List.not_mem_nil, or_false] at hn
    rcases hn with rfl | rfl | rfl <;> decide
  exact site_layout_parses Gen.ObuSites.frameSite (by decide) (by decide) { obuType := 6, ext := none, payload := List.replicate n 7 }
    (wellFormed_of _ rfl rfl (by rw [List.length_replicate]; exact hn'))

/-- **Sites without payload** (temporal delimiter: no `obu_mem_move`): a consistent site writes header ++ `00`, the
    byte count its caller accounts (`TD_SIZE`) is exactly that, and the parser reads back an empty OBU. -/
theorem site_layout_empty_parses (s : Site) (hres : s.reserved = none) (hc : s.consistent = true)
    (o : Obu.Obu) (hw : o.wellFormed = true) (hpay : o.payload = []) (hk : s.hdrSize = some (headerBytes o).length) :
    layoutSite s (headerBytes o) [] = serialize o ∧ parseObus (layoutSite s (headerBytes o) []) = .ok [o] := by
  have h1 : layoutSite s (headerBytes o) [] = serialize o := by
    rw [layout_consistent_empty s hres hc (headerBytes o) _ hk rfl]
    have : encodeBytes (sizeInBytes 0) 0 = [0] := by decide
    simp [serialize, hpay, this]
  exact ⟨h1, h1 ▸ parseObus_serialize o hw⟩

example : layoutSite Gen.ObuSites.tdSite (headerBytes tdObu) [] = [0x12, 0x00] := by decide

/-- **The converse: a reservation computed from another value breaks exactly at the LEB128 length boundaries.**
    `mismatchedSite` reserves the length of header + payload (what passing the running size instead of the payload
    size to `obu_mem_move` does) and encodes the payload size. Its output is the correct serialization iff the two
    LEB128 lengths agree — e.g. not for a 127-byte payload behind a 1-byte header. -/
theorem mismatched_reservation_iff (o : Obu.Obu) (hw : o.wellFormed = true) :
    layoutSite mismatchedSite (headerBytes o) o.payload = serialize o ↔
      sizeInBytes ((headerBytes o).length + o.payload.length) = sizeInBytes o.payload.length := by
  obtain ⟨ht, _, _, hp⟩ := wellFormed_elim hw
  have hh : (headerBytes o).length ≤ 2 := by
    rw [headerBytes_eq o ht]
    cases o.ext <;> simp
  exact mismatched_layout_iff (headerBytes o) o.payload hh hp

/-- Witness of the failure: a 127-byte OBU_FRAME payload through the mismatched reservation is no longer parsed back
    (one stale byte follows the size field; the parser reads a 127-byte OBU and then meets a bogus OBU header). -/
theorem mismatched_reservation_breaks :
    ∃ o : Obu.Obu, o.wellFormed = true ∧ o.payload.length = 127 ∧
      layoutSite mismatchedSite (headerBytes o) o.payload ≠ serialize o ∧
      parseObus (layoutSite mismatchedSite (headerBytes o) o.payload) ≠ .ok [o] := by
  have hw : ({ obuType := 6, ext := none, payload := List.replicate 127 0xff } : Obu.Obu).wellFormed = true :=
    wellFormed_of _ rfl rfl (by rw [List.length_replicate]; decide)
  refine ⟨_, hw, List.length_replicate, fun h => ?_, ?_⟩
  · have := (mismatched_reservation_iff _ hw).mp h
    simp only [List.length_replicate] at this
    revert this; decide
  · decide +kernel

/-- **Every framing site of the encoder** (regenerated from /repo by `xlate/obusites.py` on every run: metadata,
    frame / frame header, sequence header, temporal delimiter at both of its callers) reserves, moves, encodes and
    accounts consistently. This is the obligation that fails when a size-field reservation is computed from anything
    but the encoded payload size. -/
theorem all_sites_consistent : ∀ s ∈ Gen.ObuSites.sites, s.consistent = true := by decide

/-- Consequence for the real sites: every OBU written at a moving site parses back, for all payload sizes below 2^28. -/
theorem all_sites_parse (s : Site) (hs : s ∈ Gen.ObuSites.sites) (hres : s.reserved.isSome = true)
    (o : Obu.Obu) (hw : o.wellFormed = true) :
    parseObus (layoutSite s (headerBytes o) o.payload) = .ok [o] :=
  site_layout_parses s hres (all_sites_consistent s hs) o hw

example : (Gen.ObuSites.sites.filter (fun s => s.reserved.isSome)).length ≥ 1 ∧ Gen.ObuSites.sites.length ≥ 2 := by decide

end C02
