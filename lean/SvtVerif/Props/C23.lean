/-
  C23 — the System Resource Manager (EbSystemResourceManager.c).

  "Across any interleaving of producers, consumers and releasers, the system resource manager never gives
   the same object to two holders at once, never loses or duplicates an object, delivers posted objects in
   posting order, wakes a blocked consumer whenever an object is available for it, returns an object to its
   pool exactly when its last reference is released, and on shutdown makes every blocked consumer return."

  All theorems are about `Srm.Reachable` states of the model `Model/Srm.lean`: every state that any sequence
  of atomic steps (one critical section / one semaphore operation each) of any number of threads can produce
  from a freshly constructed SRM with any number of objects and fifos — i.e. all interleavings.
  Caller obligations are explicit: `Srm.WellUsed` (only a handed-out object is posted / released) and one
  thread per `EbFifo` (built into the per-fifo program counter).

  That the C code really executes in such atomic steps is its own obligation: `srm_steps_atomic` /
  `srm_steps_shape` at the end of this file, over the lock/access table `Gen/SrmLocks.lean`, which
  `xlate/srmlocks.py` generates from EbSystemResourceManager.c.
-/
import SvtVerif.Lemmas.Srm
import SvtVerif.Lemmas.LockDiscipline
import SvtVerif.Gen.SrmLocks

namespace C23
open Srm
set_option linter.unusedVariables false  -- `srm_release_last` does not use its `Reachable s`

/-- From `init 2 1 2` (objects, producer fifos, consumer fifos) these steps lead to the state of the non-vacuity
    examples: consumer 0 blocked in `svt_get_full_object`, the producer holding object 0. -/
def exOps : List Op := [.reg .full 0, .reg .empty 0, .semWait .empty 0, .pop .empty 0]

/-- **Invariant.** Every reachable state satisfies `Srm.Inv`: exact object locations without duplicates
    (`LocOk`), no muxing queue with both a queued object and a queued process (`I2`), semaphore accounting
    (`SemOk`), no lost registration (`RegOk`), order bookkeeping (`OrderOk`), single registration on queues
    used with blocking calls only (`ProcOk`). -/
theorem srm_inv {s : State} (h : Reachable s) : Inv s := reachable_Inv h

example : ∃ s, Reachable s ∧ s.pc .full 0 = .waiting ∧ s.loc 0 = .held :=
  exists_reachable_of_run 2 1 2 exOps _ (by decide)

/-- **No object in two places.** In every reachable state an object wrapper is in at most one of: the
    empty ring, the full ring, one producer fifo, one consumer fifo — and at most once there; an object that
    is handed out (`held`) is in none of them. -/
theorem srm_no_double {s : State} (h : Reachable s) (o : Nat) :
    (∀ sd, (s.objQ sd).Nodup) ∧ (∀ sd f, (s.items sd f).Nodup) ∧
    (∀ sd sd', o ∈ s.objQ sd → o ∈ s.objQ sd' → sd = sd') ∧
    (∀ sd sd' f, o ∈ s.objQ sd → o ∉ s.items sd' f) ∧
    (∀ sd sd' f f', o ∈ s.items sd f → o ∈ s.items sd' f' → sd = sd' ∧ f = f') ∧
    (s.loc o = .held → (∀ sd, o ∉ s.objQ sd) ∧ ∀ sd f, o ∉ s.items sd f) := by
  have hl := (srm_inv h).loc
  have hq : ∀ {sd}, o ∈ s.objQ sd → s.loc o = .objQ sd := fun h1 => (hl.objQ_loc _ o h1).2
  have hf : ∀ {sd f}, o ∈ s.items sd f → s.loc o = .fifo sd f := fun h1 => (hl.fifo_loc _ _ o h1).2
  refine ⟨hl.objQ_nodup, hl.fifo_nodup, fun sd sd' h1 h2 => ?_, fun sd sd' f h1 h2 => ?_,
    fun sd sd' f f' h1 h2 => ?_, fun hh => ⟨fun sd h1 => ?_, fun sd f h1 => ?_⟩⟩
  · exact Loc.objQ.inj ((hq h1).symm.trans (hq h2))
  · exact Loc.noConfusion ((hq h1).symm.trans (hf h2))
  · exact Loc.fifo.inj ((hf h1).symm.trans (hf h2))
  · exact Loc.noConfusion (hh.symm.trans (hq h1))
  · exact Loc.noConfusion (hh.symm.trans (hf h1))

/-- **No double hand-out.** When `svt_get_empty_object` / `svt_get_full_object` returns object `o`, nobody
    held `o` before the step, and after the step `o` is in no ring and no fifo: it cannot be handed to a
    second holder until its holder posts or releases it. -/
theorem srm_handout_exclusive {s s' : State} {sd : Side} {f o : Nat} (h : Reachable s)
    (hs : step s (.pop sd f) = .ok s' (.obj o)) :
    s.loc o = .fifo sd f ∧ s'.loc o = .held ∧ (∀ d, o ∉ s'.objQ d) ∧ (∀ d g, o ∉ s'.items d g) := by
  have hr' : Reachable s' := Reachable.step h (by simp [WellUsed]) hs
  have hi := (srm_inv h).loc
  have ht := step_Tr hs
  have hheld : s'.loc o = .held := by
    cases ht <;> simp [upd]
  have hloc : s.loc o = .fifo sd f := by
    cases ht
    case pop rest _ _ hi' => exact (hi.fifo_loc sd f o (by rw [hi']; simp)).2
  have := (srm_no_double hr' o).2.2.2.2.2 hheld
  exact ⟨hloc, hheld, this.1, this.2⟩

example : ∃ s s', Reachable s ∧ step s (.pop .empty 0) = .ok s' (.obj 0) := by
  obtain ⟨s, hr, hp⟩ := exists_reachable_of_run 2 1 2 [.reg .empty 0, .semWait .empty 0]
    (fun s => (step s (.pop .empty 0)).ret? = some (.obj 0)) (by decide)
  obtain ⟨s', hs⟩ := Res.ret?_some hp
  exact ⟨s, s', hr, hs⟩

/-- **No loss.** Every object of the pool is always accounted for: it is handed out, or it is in a ring,
    or it is in the fifo of an existing process (which that process will pop).  Rings never exceed their
    capacity `object_total_count`. -/
theorem srm_no_loss {s : State} (h : Reachable s) (o : Nat) (ho : o < s.nObj) :
    (s.loc o = .held ∨ (∃ sd, o ∈ s.objQ sd) ∨ (∃ sd f, f < s.nProc sd ∧ o ∈ s.items sd f)) ∧
    (∀ sd, (s.objQ sd).length ≤ s.nObj) := by
  have hv := srm_inv h
  constructor
  · cases hl : s.loc o with
    | held => left; rfl
    | objQ sd => right; left; exact ⟨sd, hv.loc.loc_objQ o sd ho hl⟩
    | fifo sd f =>
      right; right
      have hm := hv.loc.loc_fifo o sd f ho hl
      refine ⟨sd, f, ?_, hm⟩
      have hp := hv.order.perFifo sd f
      have : o ∈ ((s.assigned sd).filter (fun x => x.1 = f)).map Prod.snd := by
        rw [hp]; exact List.mem_append_right _ hm
      obtain ⟨x, hx, _⟩ := List.mem_map.1 this
      have hx' := List.mem_filter.1 hx
      have := hv.reg.abound sd x hx'.1
      have hf : x.1 = f := by simpa using hx'.2
      omega
  · intro sd
    exact nodup_bounded_length s.nObj (s.objQ sd) (hv.loc.objQ_nodup sd) (fun x hx => (hv.loc.objQ_loc sd x hx).1)

example : ∃ s, Reachable s ∧ (0 : Nat) < s.nObj := ⟨_, Reachable.init 1 1 1, by decide⟩

/-- **Posting order.** (1) The objects assigned to consumer fifos so far, followed by the objects still in
    the full ring, are exactly the posted objects in posting order.  (2) What each consumer has received,
    followed by what waits in its fifo, is a subsequence of the posting sequence (in posting order).
    (3) With a single consumer fifo: received ++ waiting in fifo ++ waiting in ring = posting sequence. -/
theorem srm_fifo {s : State} (h : Reachable s) :
    (s.assigned .full).map Prod.snd ++ s.objQ .full = s.posted ∧
    (∀ f, (s.taken .full f ++ s.items .full f).Sublist s.posted) ∧
    (s.nProc .full = 1 → s.taken .full 0 ++ s.items .full 0 ++ s.objQ .full = s.posted) := by
  have hv := srm_inv h
  refine ⟨hv.order.posted, ?_, ?_⟩
  · intro f
    rw [← hv.order.perFifo .full f, ← hv.order.posted]
    exact (List.Sublist.map _ List.filter_sublist).trans (List.sublist_append_left _ _)
  · intro h1
    rw [← hv.order.perFifo .full 0, ← hv.order.posted]
    congr 2
    apply List.filter_eq_self.2
    intro x hx
    have := hv.reg.abound .full x hx
    simp only [decide_eq_true_eq]
    omega

/-- a run in which two objects are posted and the consumer has taken the first -/
example : ∃ s, Reachable s ∧ s.posted = [0, 1] ∧ s.taken .full 0 = [0] ∧ s.items .full 0 = [] ∧ s.objQ .full = [1] :=
  exists_reachable_of_run 2 1 1
    [.reg .empty 0, .semWait .empty 0, .pop .empty 0, .reg .empty 0, .semWait .empty 0, .pop .empty 0,
     .post 0, .post 1, .reg .full 0, .semWait .full 0, .pop .full 0] _ (by decide)

/-- **No lost wake-up.** (1) A thread blocked at its fifo's semaphore (`waiting`, count 0) is still
    registered in the process ring and the object ring of its queue is empty — nothing is available for it;
    equivalently, whenever an object is available every waiting thread has a semaphore token.
    (2) An object sitting in a fifo that is not shut down always has its semaphore token (or its thread is
    already past the wait).  (3) Hence a waiting thread whose fifo holds an object can take the semaphore. -/
theorem srm_wake {s : State} (h : Reachable s) (sd : Side) (f : Nat) :
    (s.pc sd f = .waiting → s.sem sd f = 0 → s.objQ sd = [] ∧ f ∈ s.procQ sd) ∧
    (s.items sd f ≠ [] → s.quit sd f = false → s.pc sd f = .popping ∨ 0 < s.sem sd f) ∧
    (s.pc sd f = .waiting → s.items sd f ≠ [] → s.quit sd f = false →
      ∃ s', step s (.semWait sd f) = .ok s' .ok) := by
  have hv := srm_inv h
  refine ⟨fun hp hs => ?_, hv.token, fun hp hi hq => ⟨_, Tr_step (.semWait sd f hp (hv.sem_pos hp hi hq))⟩⟩
  have hm : f ∈ s.procQ sd := (hv.reg.waiting sd f hp).elim id (fun h0 => by omega)
  refine ⟨(hv.i2 sd).elim id (fun h0 => ?_), hm⟩
  rw [h0] at hm; cases hm

example : ∃ s, Reachable s ∧ s.pc .full 0 = .waiting ∧ s.sem .full 0 = 0 :=
  exists_reachable_of_run 2 1 2 exOps _ (by decide)
example : ∃ s, Reachable s ∧ s.pc .full 0 = .waiting ∧ s.items .full 0 ≠ [] ∧ s.quit .full 0 = false :=
  exists_reachable_of_run 2 1 2 (exOps ++ [.post 0]) _ (by decide)

/-- **Release of the last reference.** A release of a handed-out object returns it to the pool (empty ring,
    or directly the fifo of a registered producer) exactly when `release_enable` is set and `live_count` is
    0 or 1 (line 570-573: the decrement saturates at 0); otherwise the object stays handed out and only
    `live_count` is decremented. -/
theorem srm_release_last {s s' : State} {o : Nat} {r : Ret} (h : Reachable s) (hl : s.loc o = .held)
    (hs : step s (.release o) = .ok s' r) :
    ((s.relEn o = true ∧ s.live o ≤ 1) → (s'.loc o = .objQ .empty ∨ ∃ p, s'.loc o = .fifo .empty p) ∧
        s'.live o = released) ∧
    (¬ (s.relEn o = true ∧ s.live o ≤ 1) → s'.loc o = .held ∧ s'.live o = s.live o - 1 ∧
        s'.objQ = s.objQ ∧ s'.items = s.items ∧ s'.sem = s.sem) := by
  have ht := step_Tr hs
  cases ht
  case relPush =>
    constructor
    · intro _
      constructor
      · apply assign_loc_pool; left; simp [upd]
      · exact (congrFun (congrArg State.live (assign_frame ..)) o).trans (by simp [upd])
    · intro hn; exact absurd ⟨‹s.relEn o = true›, ‹s.live o ≤ 1›⟩ hn
  case relKeep =>
    constructor
    · intro hc; exact absurd hc ‹¬ (s.relEn o = true ∧ s.live o ≤ 1)›
    · intro _; exact ⟨hl, by simp [upd], rfl, rfl, rfl⟩

example : ∃ s s', Reachable s ∧ s.loc 0 = .held ∧ step s (.release 0) = .ok s' .ok ∧ s.relEn 0 = true ∧ s.live 0 ≤ 1 := by
  obtain ⟨s, hr, h1, hp, h3, h4⟩ := exists_reachable_of_run 2 1 2 exOps
    (fun s => s.loc 0 = .held ∧ (step s (.release 0)).ret? = some .ok ∧ s.relEn 0 = true ∧ s.live 0 ≤ 1) (by decide)
  obtain ⟨s', h2⟩ := Res.ret?_some hp
  exact ⟨s, s', hr, h1, h2, h3, h4⟩

/-- **A second release is a no-op on the queues.** After the returning release `live_count` holds the marker
    `EB_ObjectWrapperReleasedValue = ~0u`; a further `svt_release_object` only decrements the marker
    (line 570-571) and pushes nothing (the test `live_count == 0` on line 573 fails). -/
theorem srm_second_release_noop (s : State) (o : Nat) (ho : o < s.nObj) (hl : s.live o = released) :
    step s (.release o) = .ok { s with live := upd s.live o (released - 1) } .ok := by
  simp [step, ho, hl, released]

example : ∃ s : State, (0 : Nat) < s.nObj ∧ s.live 0 = released :=
  ⟨{ init 1 1 1 with live := fun _ => released }, by decide, rfl⟩

/-- **Caveat (caller obligation).** The marker protects only until the object is handed out again:
    `svt_get_empty_object` resets `live_count` to 0 (line 617), so a *stale* release by the previous holder
    then returns the object to the pool while the new holder still uses it, and it is handed out a second
    time.  Run: producer gets 0, releases it twice (second is a no-op), gets 0 again, the stale third release
    pushes it back, and the next get hands object 0 out again although its holder never released it. -/
theorem double_release_after_reuse :
    (run (init 1 1 1) [.reg .empty 0, .semWait .empty 0, .pop .empty 0, .release 0, .release 0,
                        .reg .empty 0, .semWait .empty 0, .pop .empty 0, .release 0,
                        .reg .empty 0, .semWait .empty 0, .pop .empty 0]).map (·.2) =
      some [.ok, .ok, .obj 0, .ok, .ok, .ok, .ok, .obj 0, .ok, .ok, .ok, .obj 0] := by
  decide

/-- **Shutdown.** (1) A consumer that is past the semaphore when `quit_signal` is set returns
    `EB_NoErrorFifoShutdown`.  (2) Every `svt_fifo_shutdown` post is a semaphore token: a consumer waiting at
    the semaphore has `sem + shutRets = |items| + shutPosts`; so as long as it has returned the shutdown code
    fewer times than (shutdown posts + objects left in its fifo), it is not blocked — whether it was blocked
    when `svt_shutdown_process` ran or blocks later.  (3) Once a shutdown post happened the fifo's
    `quit_signal` is set, so that wake-up does return the shutdown code. -/
theorem srm_shutdown {s : State} (h : Reachable s) (f : Nat) :
    (s.pc .full f = .popping → s.quit .full f = true →
      ∃ s', step s (.pop .full f) = .ok s' .shutdown ∧ s'.pc .full f = .idle) ∧
    (s.pc .full f = .waiting → s.sem .full f + s.shutRets .full f = (s.items .full f).length + s.shutPosts .full f) ∧
    (s.pc .full f = .waiting → s.shutRets .full f < s.shutPosts .full f + (s.items .full f).length →
      ∃ s', step s (.semWait .full f) = .ok s' .ok) ∧
    (0 < s.shutPosts .full f → s.quit .full f = true) := by
  have hv := srm_inv h
  have hb := hv.sem.bal .full f
  refine ⟨?_, ?_, ?_, ?_⟩
  · intro hp hq
    exact ⟨_, Tr_step (.popShut f hp hq), upd2_same ..⟩
  · intro hp; simp only [hp] at hb; simpa using hb
  · intro hp hlt
    refine ⟨_, Tr_step (.semWait .full f hp ?_)⟩
    simp only [hp] at hb; simp at hb; omega
  · intro hpos
    cases hq : s.quit .full f
    · have := (hv.sem.noquit .full f hq).1; omega
    · rfl

/-- consumer 0 blocked, then svt_fifo_shutdown on its fifo: it can take the semaphore -/
example : ∃ s, Reachable s ∧ s.pc .full 0 = .waiting ∧ s.shutRets .full 0 < s.shutPosts .full 0 + (s.items .full 0).length :=
  exists_reachable_of_run 2 1 2 (exOps ++ [.shutQuit 0, .shutPost 0]) _ (by decide)

/-- **Negative (C15): shutdown does not reach producers.** `svt_shutdown_process` touches consumer fifos
    only; a producer blocked in `svt_get_empty_object` stays blocked. -/
theorem shutdown_misses_producers {s s' : State} {f g : Nat} {r : Ret}
    (hs : step s (.shutQuit f) = .ok s' r ∨ step s (.shutPost f) = .ok s' r)
    (hp : s.pc .empty g = .waiting) (h0 : s.sem .empty g = 0) :
    step s' (.semWait .empty g) = .blocked :=
  shutdown_leaves_producer_blocked hs hp h0

/-- **No NULL dereference / ring overflow.** Under the caller protocol, with in-range arguments, no atomic
    step of a reachable state hits undefined behaviour (NULL `first_ptr` in `svt_fifo_pop_front`, overflow of
    the object ring, overflow of the process ring) — provided the full queue either has a single consumer
    fifo or has been used with blocking gets only and not shut down.
    The excluded case is real: `svt_get_full_object_non_blocking` polled on a resource with two consumer fifos
    overflows `process_queue` (in the model: the second example below). -/
theorem srm_no_ub {s : State} {op : Op} (h : Reachable s) (hw : WellUsed s op) (ha : ArgsOk s op)
    (hc : (s.nbUsed = false ∧ s.shutUsed = false) ∨ s.nProc .full = 1) : ∀ w, step s op ≠ .ub w :=
  no_ub (srm_inv h) hw ha hc

example : ∃ s, Reachable s ∧ WellUsed s (.post 0) ∧ ArgsOk s (.post 0) ∧ (s.nbUsed = false ∧ s.shutUsed = false) :=
  exists_reachable_of_run 2 1 2 exOps _ (by decide)

/-- The excluded case of `srm_no_ub` in the model: three non-blocking polls of an empty fifo on a resource
    with two consumer fifos overflow the 2-slot process ring. -/
example : ∃ w, (match run (init 1 1 2) [.nbReg 0, .peek 0, .nbReg 0, .peek 0] with
    | some (s, _) => step s (.nbReg 0) | none => .badPc) = .ub w := ⟨_, rfl⟩

/-- **The rings are queues.** `svt_circular_buffer_*` (head/tail indices, NULL as the empty-slot sentinel) on an
    array of any capacity implements a list queue: with `Rep b l` = "the array of `b` holds `l` from `head` on,
    cyclically, NULL elsewhere": a fresh ring represents `[]`; `empty_check` answers `l = []`; `push_back` /
    `push_front` of a non-NULL pointer on a ring that is not full give `l ++ [x]` / `x :: l`; `pop_front`
    returns the front and leaves the rest; and `push_front` on a *full one-slot* ring (the double registration
    done by `svt_get_full_object_non_blocking`) leaves the one-element queue `[x]`.
    (`srm_no_ub` shows the "not full" precondition holds at every push of a reachable state.) -/
theorem circbuf_refines_list :
    (∀ cap, 0 < cap → CircBuf.Rep (CircBuf.new cap) []) ∧
    (∀ b l, CircBuf.Rep b l → (b.isEmpty = true ↔ l = [])) ∧
    (∀ b l x, CircBuf.Rep b l → l.length < b.cap → x ≠ 0 → CircBuf.Rep (b.pushBack x) (l ++ [x])) ∧
    (∀ b l x, CircBuf.Rep b l → l.length < b.cap → x ≠ 0 → CircBuf.Rep (b.pushFront x) (x :: l)) ∧
    (∀ b l x, CircBuf.Rep b (x :: l) → b.popFront.1 = x ∧ CircBuf.Rep b.popFront.2 l) ∧
    (∀ b x y, CircBuf.Rep b [y] → b.cap = 1 → x ≠ 0 → CircBuf.Rep (b.pushFront x) [x]) :=
  ⟨CircBuf.rep_new, fun _ _ => CircBuf.rep_isEmpty, fun _ _ _ => CircBuf.rep_pushBack,
   fun _ _ _ => CircBuf.rep_pushFront, fun _ _ _ => CircBuf.rep_popFront,
   fun _ _ _ => CircBuf.rep_pushFront_full_single⟩

/-- a 2-slot ring holding `[5]` after wrap-around (head = 1) -/
example : CircBuf.Rep ((CircBuf.new 2).pushFront 5) [5] :=
  CircBuf.rep_pushFront (CircBuf.rep_new 2 (by decide)) (by decide) (by decide)

/-! ## Step granularity: the C code's critical sections are the model's atomic steps

`Gen.SrmLocks.functions` (generated from the C source by `xlate/srmlocks.py`) lists, for every
non-constructor API function of EbSystemResourceManager.c and every path through it (static helpers inlined, loops
unrolled 0/1/2 times), the ordered lock / unlock / semaphore / read / write events with the access path of each. -/

/-- **Every shared access is inside its critical section.**  On every path of every API function of the system
    resource manager: each read or write of a mutex-protected member (`live_count`, `release_enable`; a fifo's
    `first_ptr` / `last_ptr` / `quit_signal` and the `next_ptr` links of its wrappers; the head / tail / count /
    slots of a muxing queue's two rings — `LockDiscipline.guardOf` is the protection map) happens while the
    protecting `lockout_mutex` is held — including reads in initialisers of locals and in inlined callees; members
    that are immutable after construction are never written; mutexes are named through immutable members only,
    never taken twice, nested only as queue -> fifo and released in reverse order; every path returns with no mutex
    held; a loop body leaves the set of held mutexes unchanged (so the unrolled paths speak for any iteration
    count); `svt_block_on_semaphore` is called with no mutex held.  The only exemptions are the two stores listed
    and justified in `LockDiscipline.allowed`.

    This is what justifies the granularity of `Srm.step`: under sequentially consistent mutexes, two critical
    sections of the same mutex never overlap, and code outside critical sections touches no mutable shared member,
    so every execution of the real functions is equivalent to an interleaving of whole critical sections and
    semaphore operations — i.e. of model steps.  (Not mechanised: the semantics of pthread mutexes itself, and that
    the fifo sections nested inside a queue section by `svt_muxing_queue_assignation` commute with the other
    threads' steps on the same fifo, which is argued from disjointness of the rings and the fifo.)
    A read of `live_count` moved in front of the lock, an early `return` inside a section, or a new function that
    touches a ring without the queue mutex makes this `decide` fail. -/
theorem srm_steps_atomic : ∀ f ∈ Gen.SrmLocks.functions, LockDiscipline.disciplined f = true := by decide +kernel

/-- **Declarative reading of `srm_steps_atomic`** (through `LockDiscipline.disciplinedPath_sound`, which is proved
    for every event list, not only the table's): take any path of any API function and any read (`w = false`) or
    write (`w = true`) on it of a member whose guard in the protection map is mutex `m` and that is not one of the
    two allow-listed stores; then among the events *before* the access there is a `lock m` with no `unlock m` after
    it — the access sits inside a critical section of its own mutex. -/
theorem srm_access_inside_section {f : LockDiscipline.FnEntry} (hf : f ∈ Gen.SrmLocks.functions)
    {evs : List LockDiscipline.Ev} (he : evs ∈ f.paths) {pre post : List LockDiscipline.Ev} {w : Bool}
    {p m : LockDiscipline.Path}
    (hsplit : evs = pre ++ (if w then LockDiscipline.Ev.write p else LockDiscipline.Ev.read p) :: post)
    (hg : LockDiscipline.guardOf p = .mutex m) (ha : LockDiscipline.allowed f.fn w p = false) :
    LockDiscipline.HeldAfter pre m := by
  have hd := srm_steps_atomic f hf
  have hp : LockDiscipline.disciplinedPath f.fn evs = true := by
    simp only [LockDiscipline.disciplined, List.all_eq_true] at hd
    exact hd evs he
  exact LockDiscipline.disciplinedPath_sound hp hsplit hg ha

/-- the hypotheses are satisfiable on the table: the read of `live_count` in svt_object_inc_live_count (c368), guarded
    by the empty queue's mutex, after the four events that evaluate and take that mutex -/
example : ∃ f ∈ Gen.SrmLocks.functions, ∃ evs ∈ f.paths, ∃ pre post p m,
    evs = pre ++ (if false then LockDiscipline.Ev.write p else LockDiscipline.Ev.read p) :: post ∧
    LockDiscipline.guardOf p = .mutex m ∧ LockDiscipline.allowed f.fn false p = false ∧ pre.length = 4 :=
  ⟨Gen.SrmLocks.inc_live_count, .tail _ (.tail _ (.head _)), Gen.SrmLocks.inc_live_count_path0, .head _,
   Gen.SrmLocks.inc_live_count_path0.take 4, Gen.SrmLocks.inc_live_count_path0.drop 5,
   Gen.SrmLocks.inc_live_count_p3, Gen.SrmLocks.inc_live_count_p2, by decide, by decide, by decide, by decide⟩

/-- **The critical sections are the model's steps.**  What other threads can observe of each path — its top-level
    critical sections (by kind of mutex) and semaphore operations, in order — is exactly the `Srm.Op` sequence the
    model (and `Driver/Srm.lean`) uses for that function (`LockDiscipline.expectedShape`): one queue section for
    inc_live_count / release_enable / release_disable / release_object / post_full_object; queue section, semaphore
    wait, fifo section for get_empty_object / get_full_object; queue section + fifo section (+ the three of
    get_full_object) for get_full_object_non_blocking; (fifo section, semaphore post)* for shutdown_process. -/
theorem srm_steps_shape : ∀ f ∈ Gen.SrmLocks.functions, LockDiscipline.atomicBlock f = true := by decide +kernel

/-- The table has a row for every API function the discipline names (a function dropped from the table would
    otherwise pass the two theorems above vacuously). -/
theorem srm_locks_table_complete (fn : LockDiscipline.Fn) : ∃ e ∈ Gen.SrmLocks.functions, e.fn = fn := by
  cases fn <;> decide

/-- non-vacuity of the checker itself: the shape of the seeded defect (the count read in front of the lock), an
    early return inside the section, and the wrong queue's mutex are all rejected; the correct order is accepted. -/
example :
    let w : LockDiscipline.Path := ⟨.param 0, .wrapper, []⟩
    let m := w.extend [.system_resource_ptr, .empty_queue, .lockout_mutex]
    let mFull := w.extend [.system_resource_ptr, .full_queue, .lockout_mutex]
    let lc := w.extend [.live_count]
    LockDiscipline.disciplinedPath .inc_live_count [.lock m, .read lc, .write lc, .unlock m] = true ∧
    LockDiscipline.disciplinedPath .inc_live_count [.read lc, .lock m, .write lc, .unlock m] = false ∧
    LockDiscipline.disciplinedPath .inc_live_count [.lock m, .read lc, .write lc] = false ∧
    LockDiscipline.disciplinedPath .inc_live_count [.lock mFull, .read lc, .write lc, .unlock mFull] = false := by
  decide

end C23
