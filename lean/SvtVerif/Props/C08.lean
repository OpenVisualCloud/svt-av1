/-
  C08 — the decoder's output is correct / consistent (frame-level part).

  No reference AV1 decoder is available.  What is proved here, for ALL streams, is the frame-level behaviour a
  conforming decoder must have (AV1 §7.18 output process, §7.20 reference update, §7.21 reference loading), stated on the
  executable model `Dpb.decStep`/`Dpb.runDec` that `checks/c08.py` runs against the REAL decoder's output list, plus:
  the decoder's configuration (8-bit vs 16-bit internal pipeline, number of threads) can only influence the output
  through the per-frame reconstruction function (`pipelines_agree`), and the encoder's film-grain random-seed rule never
  produces the seed 0.  Sample-level equality of the two pipelines / of the thread counts is H-recon for C08: it is
  exercised on real streams, not proved.
-/
import SvtVerif.Lemmas.DpbRefine

namespace C08
open Dpb

variable {P S : Type}

/-- **Decoder configuration enters only through the reconstruction function.**  Two decoder configurations (internal
    pipeline bit depth, thread count) whose per-frame reconstruction functions agree on the payloads of the stream, for any
    references, leave the same DPB and output the same picture at every position — whatever the headers are. -/
theorem pipelines_agree (R8 R16 : P → List S → S) (d : State S) (fs : List (Frame P))
    (h : ∀ f ∈ fs, ∀ refs, R8 f.payload refs = R16 f.payload refs) :
    runDec R8 d fs = runDec R16 d fs :=
  runDec_congr R8 R16 d fs h

/-- The hypothesis of `pipelines_agree` cannot be dropped: one differing reconstruction shows up in the output. -/
example :
    let R8 : Nat → List Nat → Nat := fun p _ => p
    let R16 : Nat → List Nat → Nat := fun p _ => p + 1
    let d : State Nat := fun _ => { pic := 0, frameType := .inter, showable := false }
    let f : Frame Nat := { frameType := .key, showFrame := true, showableFrame := false, showExisting := none, refreshFlags := 0, refIdx := [], payload := 4 }
    outputs (runDec R8 d [f]).2 = [4] ∧ outputs (runDec R16 d [f]).2 = [5] := by decide

/-- **Output process.**  The decoder outputs one picture for exactly the headers with `show_frame = 1` or
    `show_existing_frame = 1`, in bitstream order (per-position statement and count). -/
theorem dec_output_count (R : P → List S → S) (d : State S) (fs : List (Frame P)) :
    (runDec R d fs).2.map Option.isSome = fs.map producesOutput ∧
    (outputs (runDec R d fs).2).length = (fs.filter producesOutput).length :=
  runDec_outputs R d fs

/-- **What is output.**  The `i`-th header outputs: for `show_existing_frame`, the picture in the designated slot of the DPB
    left by the first `i` headers; for a coded header with `show_frame = 1`, its own reconstruction from that DPB. -/
theorem dec_output_order (R : P → List S → S) (d : State S) (fs : List (Frame P)) (i : Nat) (f : Frame P)
    (h : fs[i]? = some f) :
    (runDec R d fs).2[i]? = some
      (match f.showExisting with
       | some k => some ((runDec R d (fs.take i)).1 k).pic
       | none => if f.showFrame then some (R f.payload (refsOf (runDec R d (fs.take i)).1 f)) else none) :=
  runDec_output_at R d fs i f h

example :
    let R : Nat → List Nat → Nat := fun p refs => p + refs.sum
    let d : State Nat := fun _ => { pic := 0, frameType := .inter, showable := false }
    let fs : List (Frame Nat) :=
      [ { frameType := .key, showFrame := true, showableFrame := false, showExisting := none, refreshFlags := 0, refIdx := [], payload := 100 },
        { frameType := .inter, showFrame := false, showableFrame := true, showExisting := none, refreshFlags := 2, refIdx := [0,0,0,0,0,0,0], payload := 1 },
        { frameType := .inter, showFrame := true, showableFrame := false, showExisting := none, refreshFlags := 0, refIdx := [0,1,0,0,0,0,0], payload := 2 },
        { frameType := .inter, showFrame := true, showableFrame := false, showExisting := some 1, refreshFlags := 0, refIdx := [], payload := 0 } ]
    (runDec R d fs).2 = [some 100, none, some 1303, some 701] := by decide

/-- **Reference update (§7.20)** of the decoder model, bit by bit; `0xFF` is inferred for a shown key frame. -/
theorem dpb_refresh_spec (R : P → List S → S) (d : State S) (f : Frame P) (h : f.showExisting = none) (j : Fin 8) :
    (decStep R d f).1 j =
      if (effRefresh f).testBit j.val
      then { pic := R f.payload (refsOf d f), frameType := f.frameType, showable := f.showableFrame }
      else d j :=
  (decStep_coded R d f h).1 j

/-- A shown key frame refreshes every slot, whatever `refresh_frame_flags` field the header model carries. -/
theorem shown_key_refreshes_all (R : P → List S → S) (d : State S) (f : Frame P) (h : IsShownKey f) (j : Fin 8) :
    ((decStep R d f).1 j).pic = R f.payload [] := by
  rw [decStep_shownKey R d f h]

/-- **`show_existing_frame` (§7.21).**  Showing a stored key frame reloads all eight slots with it; showing any other stored
    frame leaves the DPB untouched; in both cases the stored picture is output. -/
theorem show_existing_key_refreshes_all (R : P → List S → S) (d : State S) (f : Frame P) (i : Fin 8)
    (h : f.showExisting = some i) :
    ((d i).frameType = .key → decStep R d f = (fun _ => d i, some (d i).pic)) ∧
    ((d i).frameType ≠ .key → decStep R d f = (d, some (d i).pic)) :=
  decStep_showExisting R d f i h

example :
    let R : Nat → List Nat → Nat := fun p _ => p
    let d : State Nat := fun j => { pic := j.val, frameType := if j.val = 2 then .key else .inter, showable := true }
    let f2 : Frame Nat := { frameType := .inter, showFrame := true, showableFrame := false, showExisting := some 2, refreshFlags := 0, refIdx := [], payload := 9 }
    let f4 : Frame Nat := { f2 with showExisting := some 4 }
    (List.finRange 8).map (fun j => ((decStep R d f2).1 j).pic) = [2, 2, 2, 2, 2, 2, 2, 2] ∧
    (List.finRange 8).map (fun j => ((decStep R d f4).1 j).pic) = [0, 1, 2, 3, 4, 5, 6, 7] ∧ (decStep R d f4).2 = some 4 := by decide

/-- Every output picture is a reconstruction made while decoding the stream (or was in the DPB at the start): the decoder
    never outputs anything else. -/
theorem output_is_a_reconstruction (R : P → List S → S) (d : State S) (fs : List (Frame P)) (x : S)
    (hx : x ∈ outputs (runDec R d fs).2) : (∃ i, x = (d i).pic) ∨ x ∈ recons R d fs :=
  output_mem R d fs x hx

/-- **Film-grain random seed** (`uint16_t seed += 3381; if (!seed) seed += 7391;`, EbPictureDecisionProcess.c l.5088-5092):
    one update step never yields 0, from ANY 16-bit value. -/
theorem film_grain_seed_step_never_zero (s : BitVec 16) : fgSeedNext s ≠ 0#16 :=
  fgSeedNext_ne_zero s

/-- The seed written into the film-grain parameters of the `n`-th picture (start value 7391, EbSequenceControlSet.c l.188)
    is never 0, for every `n` — including after the 16-bit counter wraps. -/
theorem film_grain_seed_never_zero (n : Nat) : fgSeed n ≠ 0#16 :=
  fgSeed_ne_zero n

/-- The wrap-around branch is real: from 62155 the sum is 65536 ≡ 0, and the rule continues with 7391. -/
example : fgSeedNext 62155#16 = 7391#16 := by decide
example : fgSeed 1 = 10772#16 ∧ fgSeed 2 = 14153#16 := by decide

end C08
