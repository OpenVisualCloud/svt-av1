/-
  C07 (part a) — "every SIMD kernel is a bit-exact drop-in for its C reference", for
    K1  svt_residual_kernel8bit_avx2            vs svt_residual_kernel8bit_c
    K3  svt_picture_average_kernel_sse2_intrin  vs svt_picture_average_kernel_c
    K4  svt_picture_average_kernel1_line_sse2_intrin  vs svt_picture_average_kernel1_line_c
  Models: SvtVerif/Model/SimdKernelsA.lean (intrinsic by intrinsic, file:line in comments) over the lane-level
  intrinsics of SvtVerif/Model/Simd.lean (each validated against the real instruction by harness/simd_ops_a.c).
  Equalities are between the WHOLE output buffers as functions `Nat → BitVec k`: they also say that the SIMD code
  writes nothing outside what the C code writes.  Assumption of the models: the output buffer does not alias the inputs.
-/
import SvtVerif.Lemmas.SimdAverage

namespace C07
open Simd

/-- `_mm256_sub_epi16(_mm256_unpacklo_epi8(a, 0), _mm256_unpacklo_epi8(b, 0))`, one lane: the wrap-around 16-bit difference
    of the two zero-extended bytes IS the C expression `(int16_t)a - (int16_t)b` stored into an `int16_t`
    (EbPictureOperators.c:138). -/
theorem sub_epi16_lane_eq_c (x y : BitVec 8) : le16 x 0 - le16 y 0 = residC x y := (residC_eq x y).symm

/-- `_mm_avg_epu8`, one lane: `avg8 x y` (9-bit sum, +1, >>1) IS the C expression `(src0[i] + src1[i] + 1) >> 1`
    computed in `int` and truncated to `uint8_t` (EbPictureOperators_C.c:24). -/
theorem avg_epu8_lane_eq_c (x y : BitVec 8) : avg8 x y = avgC x y := avg8_eq_avgC x y

/-- Valid domain of `svt_residual_kernel8bit_avx2(.., residual_stride = rs, area_width = w, area_height = h)`:
    * `w ∈ {4, 8, 16, 32, 64, 128}` (the `switch`; any other width runs the 128 kernel),
    * `1 ≤ h < 2^32` (`uint32_t`), `h` a multiple of 4 for `w ∈ {4, 8}` and of 2 for `w = 16`
      (`do { … y -= 4 } while (y)`: any other height wraps `y` around 2^32),
    * for `w = 8` only: `rs ≥ 8`.  `residual_kernel8_avx2` stores the rows of a 4-row group in the order 0, 2, 1, 3, so
      when rows overlap (`rs < 8`) the final memory differs from the C code (see `residual8bit_avx2_w8_overlap_differs`).
      All other widths store in the C order and need no condition on any stride. -/
def validDomainResid (w h rs : Nat) : Prop :=
  0 < h ∧ h < 2 ^ 32 ∧
    ((w = 4 ∧ h % 4 = 0) ∨ (w = 8 ∧ h % 4 = 0 ∧ 8 ≤ rs) ∨ (w = 16 ∧ h % 2 = 0) ∨ w = 32 ∨ w = 64 ∨ w = 128)

/-- **K1.**  On the valid domain `svt_residual_kernel8bit_avx2` leaves the residual buffer in exactly the state
    `svt_residual_kernel8bit_c` leaves it in — every element of the buffer, inside and outside the `w×h` area — for
    every height (induction over the row loop), all six widths, all input/pred strides, all start offsets, all sample
    values and all previous buffer contents. -/
theorem residual8bit_avx2_eq_c {w h rs : Nat} (hd : validDomainResid w h rs) :
    ∀ (inp pred : Mem 8) (is ps ia pa ra : Nat) (res : Mem 16),
      resid8_avx2 inp is ia pred ps pa res rs ra w h = resid8_c inp is ia pred ps pa res rs ra w h := by
  intro inp pred is ps ia pa ra res
  obtain ⟨hpos, hlt, hw⟩ := hd
  rw [resid8_c_eq]
  unfold resid8_avx2
  rcases hw with ⟨rfl, h4⟩ | ⟨rfl, h4, hrs⟩ | ⟨rfl, h2⟩ | rfl | rfl | rfl
  · exact doWhileRows_rows inp is pred ps rs 4 4 (by omega) _ (residual_kernel4_body_rows inp is pred ps rs) h hpos hlt h4 ia pa ra ⟨res⟩
  · exact doWhileRows_rows inp is pred ps rs 8 4 (by omega) _ (fun ia pa ra res => residual_kernel8_body_rows inp is pred ps rs ia pa ra res hrs)
      h hpos hlt h4 ia pa ra ⟨res⟩
  · exact doWhileRows_rows inp is pred ps rs 16 2 (by omega) _ (residual_kernel16_body_rows inp is pred ps rs) h hpos hlt h2 ia pa ra ⟨res⟩
  · exact doWhileRows_rows inp is pred ps rs 32 1 (by omega) _ (fun ia pa ra res => residual32_avx2_row inp ia pred pa res ra) h hpos hlt
      (Nat.mod_one h)
      ia pa ra ⟨res⟩
  · exact doWhileRows_rows inp is pred ps rs 64 1 (by omega) _ (residual_kernel64_body_row inp pred) h hpos hlt (Nat.mod_one h)
      ia pa ra ⟨res⟩
  · exact doWhileRows_rows inp is pred ps rs 128 1 (by omega) _ (residual_kernel128_body_row inp pred) h hpos hlt (Nat.mod_one h)
      ia pa ra ⟨res⟩

example : validDomainResid 4 8 0 := by unfold validDomainResid; omega
example : validDomainResid 8 4 8 := by unfold validDomainResid; omega
example : validDomainResid 16 2 3 := by unfold validDomainResid; omega
example : validDomainResid 128 1 0 := by unfold validDomainResid; omega
/-- the theorem is about non-trivial values: a 4×4 block with input 0 and pred 1 gives -1 = 0xffff -/
example : resid8_avx2 (fun _ => 0) 4 0 (fun _ => 1) 4 0 (fun _ => 0) 4 0 4 4 15 = 0xffff#16 := by decide

/-- **K1, excluded point.**  Width 8 with overlapping residual rows (`residual_stride = 4 < 8`): the AVX2 kernel and the C
    kernel leave DIFFERENT buffers (element 8 is row 2 col 0 in C order but row 1 col 4 in the AVX2 store order 0,2,1,3).
    The encoder never calls the kernel with `residual_stride < area_width`. -/
theorem residual8bit_avx2_w8_overlap_differs :
    resid8_avx2 (fun i => BitVec.ofNat 8 i) 8 0 (fun _ => 0) 8 0 (fun _ => 0) 4 0 8 4
      ≠ resid8_c (fun i => BitVec.ofNat 8 i) 8 0 (fun _ => 0) 8 0 (fun _ => 0) 4 0 8 4 := by
  intro h
  have h8 := congrFun h 8
  revert h8
  decide

/-- Valid domain of `svt_picture_average_kernel_sse2_intrin(.., area_width = w, area_height = h)`:
    `w = 4` or `w = 8` with `h` even (two rows per iteration; `assert((area_height & 1) == 0)`), or `w ≥ 16` a multiple of 4
    (`assert((area_width & 3) == 0)`) with ANY height.  `w = 12` is excluded: see `picture_average_sse2_width12_noop`.
    No condition on any stride: every path stores in the C order. -/
def validDomainAvg (w h : Nat) : Prop :=
  (w = 4 ∧ h % 2 = 0) ∨ (w = 8 ∧ h % 2 = 0) ∨ (16 ≤ w ∧ w % 4 = 0)

/-- **K3.**  On the valid domain `svt_picture_average_kernel_sse2_intrin` leaves the destination buffer in exactly the state
    `svt_picture_average_kernel_c` leaves it in (every byte, inside and outside the area), for every width that is a
    multiple of 4 and ≥ 16 (induction over the 16-byte column loop, then the `& 8` and `& 4` tails), widths 4 and 8, every
    (even, for 4/8) height, all strides, offsets, sample values and previous buffer contents. -/
theorem picture_average_sse2_eq_c {w h : Nat} (hd : validDomainAvg w h) :
    ∀ (s0 s1 : Mem 8) (st0 st1 ds a0 a1 da : Nat) (dst : Mem 8),
      avg_sse2 s0 st0 a0 s1 st1 a1 dst ds da w h = avg_c s0 st0 a0 s1 st1 a1 dst ds da w h := by
  intro s0 s1 st0 st1 ds a0 a1 da dst
  rw [avg_c_eq]
  rcases hd with ⟨rfl, h2⟩ | ⟨rfl, h2⟩ | ⟨h16, h4⟩
  · simp only [avg_sse2, show ¬ (4 ≥ 16) by omega, if_false, if_true]
    exact avg_sse2_rows2_even 4 s0 st0 s1 st1 ds h h2 a0 a1 da dst
  · simp only [avg_sse2, show ¬ (8 ≥ 16) by omega, show ¬ (8 = 4) by omega, if_false, if_true]
    exact avg_sse2_rows2_even 8 s0 st0 s1 st1 ds h h2 a0 a1 da dst
  · simp only [avg_sse2, show w ≥ 16 from h16, if_true]
    exact avg_sse2_rows16_eq s0 st0 s1 st1 ds w h h4 a0 a1 da dst

example : validDomainAvg 4 2 := by unfold validDomainAvg; omega
example : validDomainAvg 8 0 := by unfold validDomainAvg; omega
example : validDomainAvg 28 3 := by unfold validDomainAvg; omega
example : validDomainAvg 1000 1 := by unfold validDomainAvg; omega
/-- non-trivial values: rounding up, (1 + 2 + 1) >> 1 = 2, and no 8-bit overflow, (255 + 255 + 1) >> 1 = 255 -/
example : avg_sse2 (fun _ => 1) 4 0 (fun _ => 2) 4 0 (fun _ => 0) 4 0 4 2 7 = 2#8 := by decide
example : avg_sse2 (fun _ => 255) 20 0 (fun _ => 255) 20 0 (fun _ => 0) 20 0 20 1 19 = 255#8 := by decide

/-- **K3, excluded width.**  For `8 < area_width < 16` (12 is the only multiple of 4) the SSE2 function takes no branch and
    writes NOTHING, for any height and any inputs. -/
theorem picture_average_sse2_width12_noop (s0 s1 : Mem 8) (st0 st1 ds a0 a1 da h : Nat) (dst : Mem 8) :
    avg_sse2 s0 st0 a0 s1 st1 a1 dst ds da 12 h = dst := by
  simp [avg_sse2]

/-- For width 12 the C reference does average, so the two differ: concrete witness (12×1 block of 2s over a zero buffer). -/
theorem picture_average_sse2_width12_differs :
    avg_sse2 (fun _ => 2) 12 0 (fun _ => 2) 12 0 (fun _ => 0) 12 0 12 1
      ≠ avg_c (fun _ => 2) 12 0 (fun _ => 2) 12 0 (fun _ => 0) 12 0 12 1 := by
  intro h
  have h0 := congrFun h 0
  revert h0
  decide

/-- **K3, excluded heights.**  Width 4 with an odd height: the SSE2 loop `for (y = 0; y < area_height; y += 2)` processes
    `area_height + 1` rows — one row more than the C code (here: byte 4 = row 1, which C leaves untouched). -/
theorem picture_average_sse2_odd_height_differs :
    avg_sse2 (fun _ => 2) 4 0 (fun _ => 2) 4 0 (fun _ => 0) 4 0 4 1
      ≠ avg_c (fun _ => 2) 4 0 (fun _ => 2) 4 0 (fun _ => 0) 4 0 4 1 := by
  intro h
  have h4 := congrFun h 4
  revert h4
  decide

/-- Valid domain of `svt_picture_average_kernel1_line_sse2_intrin(src0, src1, dst, area_width = w)`: exactly the six widths
    the branches are written for.  (Any other width > 16 runs the 64-byte branch, any other width ≤ 16 the 12-byte branch.) -/
def validDomainAvg1 (w : Nat) : Prop := w = 4 ∨ w = 8 ∨ w = 12 ∨ w = 16 ∨ w = 32 ∨ w = 64

/-- **K4.**  For widths 4, 8, 12, 16, 32, 64 `svt_picture_average_kernel1_line_sse2_intrin` leaves the destination buffer in
    exactly the state `svt_picture_average_kernel1_line_c` leaves it in (`(a + b + 1) / 2` per byte), for all offsets,
    values and previous contents. -/
theorem picture_average1_line_sse2_eq_c {w : Nat} (hd : validDomainAvg1 w) :
    ∀ (s0 s1 : Mem 8) (a0 a1 da : Nat) (dst : Mem 8),
      avg1_sse2 s0 a0 s1 a1 dst da w = avg1_c s0 a0 s1 a1 dst da w := by
  intro s0 s1 a0 a1 da dst
  rw [avg1_c_eq]
  exact avg1_sse2_eq hd s0 a0 s1 a1 dst da

example : validDomainAvg1 64 := by unfold validDomainAvg1; omega
example : avg1_sse2 (fun _ => 3) 0 (fun _ => 4) 0 (fun _ => 0) 0 8 7 = 4#8 := by decide

/-- **K4, excluded widths.**  Width 48 (> 16, not 32) takes the 64-byte branch: the SSE2 code writes bytes 48..63, which the
    C code leaves untouched. -/
theorem picture_average1_line_sse2_width48_differs :
    avg1_sse2 (fun _ => 2) 0 (fun _ => 2) 0 (fun _ => 0) 0 48 ≠ avg1_c (fun _ => 2) 0 (fun _ => 2) 0 (fun _ => 0) 0 48 := by
  intro h
  have h50 := congrFun h 50
  revert h50
  decide

end C07
