/-
  C07 (part B) — "every SIMD kernel is a bit-exact drop-in for its C reference", for the 32-bit full-distortion kernels.

  Kernels (models in SvtVerif/Model/SimdKernelsB.lean, transcribed intrinsic by intrinsic over the byte-level register
  model of SvtVerif/Model/Simd.lean):
    K2a svt_full_distortion_kernel32_bits_c    (EbPictureOperators.c:156-180)
        svt_full_distortion_kernel32_bits_avx2 (EbPictureOperators_Intrinsic_AVX2.c:1242-1291)
    K2b svt_full_distortion_kernel_cbf_zero32_bits_c    (EbPictureOperators.c:212-231)
        svt_full_distortion_kernel_cbf_zero32_bits_avx2 (EbPictureOperators_Intrinsic_AVX2.c:1293-1325)

  RESULT.  K2b is a bit-exact drop-in on its whole domain.  K2a is NOT: the prediction distortion (result[1]) always
  agrees, but the residual distortion (result[0]) is accumulated with `_mm256_add_epi32` (line 1268) on 64-bit products,
  so in each of the four qword lanes the carry from the low dword into the high dword is lost.  The theorems below give
  the exact closed form of what the AVX2 code computes, the exact condition under which it agrees with C, a concrete
  in-domain counterexample, and input bounds under which the defect is unreachable.

  Vocabulary (`Simd.Blk`, SvtVerif/Lemmas/SimdFullDist.lean): a block `b` bundles the kernel arguments
  (coeff buffer/base/stride, recon buffer/base/stride, area_width `w`, area_height `h`);
    `b.c j i`, `b.r j i` = coeff / recon_coeff at row j, column i;  `b.d j i` = their difference (an integer);
    `b.sq j i = (b.d j i)^2`, `b.sqc j i = (b.c j i)^2`,  `b.sqLow j i` = (sign-extended low dword of the 64-bit difference)^2;
    `b.blockSum F` = Σ_{j<h} Σ_{i<w} F j i;   `b.laneSum l F` = Σ_{j<h} Σ_{g<w/4} F j (4g+l)  (the elements of qword lane l);
    `b.InDomain` : w a positive multiple of 4, h ≥ 1, both < 2^32 (uint32_t);
    `b.runC`, `b.runAvx2` : the two values written to distortion_result[0..1] by the models (`runAvx2 = none` = fuel
    exhausted, impossible in the domain: the theorems prove `some`).
-/
import SvtVerif.Lemmas.SimdFullDist

namespace C07
open Simd

/-- The C reference computes exactly Σ (coeff-recon)^2 and Σ coeff^2, mod 2^64 — for every width/height/stride and all
    int32 inputs (no domain restriction). -/
theorem fullDist32_c_closed_form (b : Blk) :
    b.runC.1.toNat = b.blockSum b.sq % 2 ^ 64 ∧ b.runC.2.toNat = b.blockSum b.sqc % 2 ^ 64 :=
  runC_toNat b

/-- Closed form of the AVX2 kernel on its whole domain, for ALL int32 inputs: it terminates and
    result[1] = Σ coeff^2 mod 2^64, but
    result[0] = Σ_{lane l<4} [ (Σ_lane lo32(p)) mod 2^32 + 2^32 · ((Σ_lane hi32(p)) mod 2^32) ]  mod 2^64,
    where p = (sign-extended low dword of (coeff-recon))^2 is the `_mm256_mul_epi32` product (`b.laneVal l` is the bracket).
    I.e. each qword lane of `sum1` behaves as two independent 32-bit counters. -/
theorem fullDist32_avx2_closed_form (b : Blk) (hd : b.InDomain) :
    ∃ r, b.runAvx2 = some r ∧
      r.1.toNat = (b.laneVal 0 + b.laneVal 1 + b.laneVal 2 + b.laneVal 3) % 2 ^ 64 ∧
      r.2.toNat = b.blockSum b.sqc % 2 ^ 64 := by
  simpa only [sumN, Nat.zero_add] using runAvx2_toNat b hd

/-- the 4x4 block with coeff = 33000 everywhere and recon = 0 (confirmed on the real library: C 17424000000, AVX2 244130816) -/
def witness33000 : Blk :=
  { coeff := fun _ => 33000#32, cp := 0, cs := 4, recon := fun _ => 0#32, rp := 0, rs := 4, w := 4, h := 4 }

/-- the smallest kind of divergence: 4 wide, 2 high, a single lane with coeff-recon = 46341 (46341^2 > 2^31) in both rows -/
def witness4x2 : Blk :=
  { coeff := fun i => if i % 4 = 0 then 46341#32 else 0#32, cp := 0, cs := 4, recon := fun _ => 0#32, rp := 0, rs := 4,
    w := 4, h := 2 }

theorem witness33000_inDomain : witness33000.InDomain := by unfold Blk.InDomain; decide
theorem witness4x2_inDomain : witness4x2.InDomain := by unfold Blk.InDomain; decide

example : ∃ b : Blk, b.InDomain := ⟨witness33000, witness33000_inDomain⟩

/-- `distortion_result[DIST_CALC_PREDICTION]` of the AVX2 kernel equals the C reference for ALL int32 inputs, all widths that
    are a positive multiple of 4, all heights ≥ 1, all strides (arithmetic mod 2^64 on both sides). -/
theorem fullDist32_prediction_eq (b : Blk) (hd : b.InDomain) : ∃ r, b.runAvx2 = some r ∧ r.2 = b.runC.2 :=
  prediction_eq b hd

example : ∃ r, witness33000.runAvx2 = some r ∧ r.2 = witness33000.runC.2 :=
  fullDist32_prediction_eq _ witness33000_inDomain

/-- `distortion_result[DIST_CALC_RESIDUAL]` (and hence the whole result) of the AVX2 kernel equals the C reference if
    (1) `SubFits`: every coeff-recon fits in int32 (so `_mm256_mul_epi32`, which reads only the low dword, squares the true
        difference), and
    (2) `NoLaneCarry`: for each of the 4 column lanes l, Σ over the lane's elements of ((coeff-recon)^2 mod 2^32) < 2^32,
        i.e. the 32-bit low-dword counter of the lane never wraps. -/
theorem fullDist32_residual_eq_of_noCarry (b : Blk) (hd : b.InDomain) (hs : b.SubFits) (hc : b.NoLaneCarry) :
    b.runAvx2 = some b.runC :=
  eq_of_noCarry b hd hs hc

/-- The condition of `fullDist32_residual_eq_of_noCarry` is EXACT: for blocks with at most 2^30 elements per lane (any real block) and differences that
    fit in int32, the AVX2 kernel agrees with C if and only if no lane carries.  So every input with a lane whose low-dword
    sum reaches 2^32 is a counterexample. -/
theorem fullDist32_eq_iff_noCarry (b : Blk) (hd : b.InDomain) (hs : b.SubFits) (hsize : b.h * (b.w / 4) ≤ 2 ^ 30) :
    b.runAvx2 = some b.runC ↔ b.NoLaneCarry :=
  ⟨noCarry_of_eq b hd hs hsize, eq_of_noCarry b hd hs⟩

/-- a block on which the hypotheses hold: 4x4, coeff - recon = 100 everywhere -/
def smallBlock : Blk :=
  { coeff := fun _ => 100#32, cp := 0, cs := 4, recon := fun _ => 0#32, rp := 0, rs := 4, w := 4, h := 4 }

/-- Input-level sufficient condition: if in every column lane the true sum Σ_lane (coeff-recon)^2 is below 2^32, the kernels
    agree (this implies both SubFits and NoLaneCarry). -/
theorem fullDist32_eq_of_laneSq_lt (b : Blk) (hd : b.InDomain) (h : ∀ l, l < 4 → b.laneSum l b.sq < 2 ^ 32) :
    b.runAvx2 = some b.runC :=
  eq_of_laneSq b hd h

/-- Bound form: if |coeff-recon| ≤ D for every element and (elements per lane) · D^2 < 2^32, where elements per lane =
    h · w/4, the kernels agree.  Safe D per block size (w×h, N = w·h/4 per lane, D_max = ⌈sqrt(2^32/N)⌉-1):
      4x4 (N=4): D ≤ 32767;  8x8 (16): 16383;  16x16 (64): 8191;  32x32 (256): 4095  (64x64 is clipped to 32x32 by the
      caller, EbPictureOperators.c:250-251);  4x16/16x4 (16): 16383;  8x32/32x8 (64): 8191;  16x32 (128): 5792;
      64x16 -> 32x16 (128): 5792. -/
theorem fullDist32_eq_of_bound (b : Blk) (hd : b.InDomain) (D : Nat)
    (hD : ∀ j i, j < b.h → i < b.w → (b.d j i).natAbs ≤ D) (hN : b.h * (b.w / 4) * D ^ 2 < 2 ^ 32) :
    b.runAvx2 = some b.runC :=
  eq_of_bound b hd D hD hN

theorem smallBlock_inDomain : smallBlock.InDomain := by unfold Blk.InDomain; decide

/-- non-vacuity of the bound hypothesis (D = 100, 4 elements per lane) -/
example : smallBlock.runAvx2 = some smallBlock.runC :=
  fullDist32_eq_of_bound smallBlock smallBlock_inDomain 100
    (fun j i _ _ => by simp [Blk.d, Blk.c, Blk.r, smallBlock]) (by decide)

/-- non-vacuity of `fullDist32_eq_of_laneSq_lt`, `fullDist32_residual_eq_of_noCarry` and of the `←` direction of the iff:
    smallBlock satisfies SubFits and NoLaneCarry -/
theorem smallBlock_laneSq : ∀ l, l < 4 → smallBlock.laneSum l smallBlock.sq < 2 ^ 32 := by
  intro l hl
  have : l = 0 ∨ l = 1 ∨ l = 2 ∨ l = 3 := by omega
  rcases this with rfl | rfl | rfl | rfl <;> decide

example : smallBlock.SubFits ∧ smallBlock.NoLaneCarry :=
  ⟨subFits_of_laneSq _ smallBlock_inDomain smallBlock_laneSq,
   (fullDist32_eq_iff_noCarry _ smallBlock_inDomain (subFits_of_laneSq _ smallBlock_inDomain smallBlock_laneSq)
      (by decide)).1 (fullDist32_eq_of_laneSq_lt _ smallBlock_inDomain smallBlock_laneSq)⟩

/-- the safe bounds of the table are tight: D = 32768 on a 4x4 block already violates the hypothesis -/
example : ¬ (4 * (4 / 4) * 32768 ^ 2 < 2 ^ 32) ∧ 4 * (4 / 4) * 32767 ^ 2 < 2 ^ 32 ∧ 32 * (32 / 4) * 4095 ^ 2 < 2 ^ 32
    ∧ ¬ (32 * (32 / 4) * 4096 ^ 2 < 2 ^ 32) := by omega

/-- The two byte-level models on the 4x4 / 33000 block: C gives residual 17424000000 = 16·33000^2, the AVX2 model gives
    244130816 = 17424000000 - 4·2^32 (four lost carries, one per lane); prediction equal. -/
theorem fullDist32_witness33000_values :
    witness33000.runC = (17424000000#64, 17424000000#64) ∧
    witness33000.runAvx2 = some (244130816#64, 17424000000#64) := by
  have h := run_ofNat witness33000 witness33000_inDomain
  rwa [show witness33000.blockSum witness33000.sq = 17424000000 by decide,
    show witness33000.blockSum witness33000.sqc = 17424000000 by decide,
    show sumN 4 witness33000.laneVal = 244130816 by decide] at h

/-- The defect: there is a block inside the domain (4x4, all differences 33000 — far below int32 range) on which
    `svt_full_distortion_kernel32_bits_avx2` and `svt_full_distortion_kernel32_bits_c` write different residual
    distortions. -/
theorem fullDist32_avx2_ne_c : ∃ b : Blk, b.InDomain ∧ b.SubFits ∧ b.runAvx2 ≠ some b.runC := by
  refine ⟨witness33000, witness33000_inDomain, ?_, ?_⟩
  · intro j i _ _
    simp [Blk.d, Blk.c, Blk.r, witness33000]
  · rw [fullDist32_witness33000_values.1, fullDist32_witness33000_values.2]
    decide

/-- the minimal shape: area 4x2, one lane with two differences of 46341: C 4294976562 = 2·46341^2, AVX2 9266 (= C - 2^32) -/
theorem fullDist32_witness4x2_values :
    witness4x2.runC = (4294976562#64, 4294976562#64) ∧ witness4x2.runAvx2 = some (9266#64, 4294976562#64) := by
  have h := run_ofNat witness4x2 witness4x2_inDomain
  rwa [show witness4x2.blockSum witness4x2.sq = 4294976562 by decide,
    show witness4x2.blockSum witness4x2.sqc = 4294976562 by decide,
    show sumN 4 witness4x2.laneVal = 9266 by decide] at h

/-- `svt_full_distortion_kernel_cbf_zero32_bits_avx2` writes exactly the two values of
    `svt_full_distortion_kernel_cbf_zero32_bits_c` (both entries = Σ coeff^2 mod 2^64) for ALL int32 inputs, every width that
    is a positive multiple of 4, every height ≥ 1, every stride. -/
theorem fullDistCbfZero32_avx2_eq_c (b : Blk) (hd : b.InDomain) : b.runZAvx2 = some b.runZC :=
  cbfZero_eq b hd

example : witness33000.runZAvx2 = some witness33000.runZC := fullDistCbfZero32_avx2_eq_c _ witness33000_inDomain

end C07
