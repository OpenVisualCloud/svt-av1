/-
  C24 — wavefront EncDec segments.  Property theorems only (the invariant, the geometry and their proofs are in
  SvtVerif/Lemmas/Segments*.lean).

  "For every picture size and segment grid, EncDec segment scheduling processes every superblock exactly
   once, starts a segment only after the segments holding its left, upper and upper-right neighbouring
   superblocks have finished, and always completes the picture regardless of how many worker threads pick
   up segments."

  Model (SvtVerif/Model/Segments.lean, validated against the real C code by harness/seginit.c on every run):
    `Seg.initSeg W H C R MC MR`  = enc_dec_segments_ctor(MC, MR); enc_dec_segments_init(C, R, W, H)
    `Seg.segSbs g W s`           = the SB loop of mode_decision_kernel for segment s
    `Seg.assignStep g st op`     = one atomic step (mutex-protected block) of assign_enc_dec_segments by some worker;
                                   `Seg.Reachable g st` = any interleaving of any number of workers
    `ph t` : 0 = segment t not handed out, 1 = its SBs are being processed, 2/3 = SB loop done, in the CONTINUE
             call (waiting for the row / next-row mutex), 4 = CONTINUE call returned.
  Size hypothesis `Seg.InitOK W H C R MR`: 1 ≤ W,H ≤ 4096 SBs, W*H < 65536 SBs (uint16 counters), C,R,MR ≥ 1,
  segment count < 65536.  `Rr = effR W H R MR` (= min R H MR, and 1 when W = 1: EbEncDecSegments.c:75-83),
  `Cc = min C W` are the effective grid after init's clamps.

  The clamp of line 83 (`segRowCount = 1` for a picture / tile group one SB wide) is what makes the completion
  theorems hold under `InitOK` alone: without it a one-SB-wide grid with `Rr ≥ 2` has a segment row with no
  predecessor edge, and `sched_stuck` (about arbitrary control blocks) shows that such a block never completes
  (`-w 64 -h 256`, default threads; finding F2; checks/c24.py reports it as a VIOLATION).
-/
import SvtVerif.Lemmas.SegmentsGlue
import SvtVerif.Lemmas.SegmentsCover
import SvtVerif.Lemmas.SegmentsMeasure

namespace C24
open Seg

/-- The executable structural check `wfCheck` (evaluated on the model for every grid the correspondence run
    visits) implies the hypotheses `WF` / `Live` of the scheduling theorems. -/
theorem wfCheck_sound (g : SegCtl) : (wfCheck g false = true → WF g) ∧ (wfCheck g true = true → WF g ∧ Live g) :=
  ⟨wf_of_check g false, fun h => ⟨wf_of_check g true h, live_of_check g h⟩⟩

/-- **Safety of the assign protocol**, for any row layout / dependency counts satisfying `WF` (counts = number
    of right/bottom predecessor edges as tested by `assign_enc_dec_segments` itself), any number of workers, any
    interleaving: no segment is handed out twice or out of range and no `dependency_map` index is out of range
    (`err = 0`); `row.current_seg_index` is exactly the boundary between handed-out and not-handed-out segments
    of the row (this justifies the code assigning `current_seg_index` instead of the segment whose count hit 0);
    a segment is handed out only after its right-edge predecessor is past its right block and its bottom-edge
    predecessor has completed its CONTINUE call (in both cases the predecessor's SB loop is finished). -/
theorem sched_safe {g : SegCtl} (hw : WF g) {st : ASt} (hr : Reachable g st) :
    st.err = 0 ∧
    (∀ r, r < g.segRowCount → rowStart g.rows r ≤ aget st.cur r ∧ aget st.cur r ≤ rowEnd g.rows r + 1 ∧
      ∀ t, rowStart g.rows r ≤ t → t ≤ rowEnd g.rows r → (t < aget st.cur r ↔ 1 ≤ aget st.ph t)) ∧
    (∀ r s, r < g.segRowCount → rowStart g.rows r ≤ s → s < rowEnd g.rows r →
      1 ≤ aget st.ph (s + 1) → 3 ≤ aget st.ph s) ∧
    (∀ r s, r + 1 < g.segRowCount → rowStart g.rows r ≤ s → s ≤ rowEnd g.rows r →
      rowStart g.rows (r + 1) ≤ s + g.segBandCount → 1 ≤ aget st.ph (s + g.segBandCount) → aget st.ph s = 4) := by
  have hi := (reachable_inv hw hr).1
  refine ⟨hi.err0, ?_, fun r s a b c d => safe_right hi a b c d, fun r s a b c d e => safe_bottom hw hi a b c d e⟩
  intro r hr'
  refine ⟨hi.cur_lo r hr', hi.cur_hi r hr', fun t h1 h2 => ⟨fun h => hi.ph_started r hr' t h1 h, fun h => ?_⟩⟩
  by_contra hn
  have := hi.ph_unstarted r hr' t (by omega) h2
  omega

/-- **Completion**, for any control block satisfying `WF` and `Live` (every row after the first has its first
    segment fed by a bottom edge): in every reachable state in which no step is enabled (all workers wait for a
    task, pool empty) every segment of every row has been processed and its CONTINUE call has returned. -/
theorem sched_complete {g : SegCtl} (hw : WF g) (hl : Live g) {st : ASt} (hr : Reachable g st)
    (ht : Terminal g st) :
    ∀ r, r < g.segRowCount → ∀ t, rowStart g.rows r ≤ t → t ≤ rowEnd g.rows r → aget st.ph t = 4 :=
  terminal_done hw hl (reachable_inv hw hr) ht

/-- **Termination**: every execution (any interleaving, any number of workers) has at most `4 · #segments`
    steps, so every maximal execution ends in a terminal state (to which `sched_complete` applies). -/
theorem sched_terminates {g : SegCtl} (hw : WF g) {st st' : ASt} {k : Nat} (hr : Reachable g st)
    (h : Steps g st k st') : k ≤ 4 * (g.segRowCount * g.segBandCount) :=
  steps_bounded hw hr h

/-- **Why `Live` is needed** (the structural condition that fails for one-SB-wide pictures without the clamp of
    EbEncDecSegments.c:83): if `Live` fails at row `r` (the first segment of row `r+1` lies beyond
    `ending(r) + band_count`, so it has no predecessor edge at all) then that segment is not handed out in ANY
    reachable state — no schedule completes the picture. -/
theorem sched_stuck {g : SegCtl} (hw : WF g) {r : Nat} (hr1 : r + 1 < g.segRowCount)
    (hgap : rowEnd g.rows r + g.segBandCount < rowStart g.rows (r + 1)) {st : ASt} (h : Reachable g st) :
    aget st.ph (rowStart g.rows (r + 1)) = 0 :=
  orphan_never_starts hw hr1 hgap h

/-- `enc_dec_segments_init` produces a well-formed control block for every accepted size and grid: rows are
    disjoint index intervals `r·B ≤ starting ≤ ending < (r+1)·B`, monotone from row to row, `current = starting`,
    and `dependency_map[t]` is exactly the number of predecessor edges of `t` (0, 1 or 2: no uint8 overflow). -/
theorem init_wf {W H C R MR : Nat} (ok : InitOK W H C R MR) (MC : Nat) : WF (initSeg W H C R MC MR) :=
  initSeg_wf ok MC

/-- `dep_counts_exact`: the count stored for segment `t` of row `r` = [it has a left neighbour in its row] +
    [segment `t − B` exists in row `r−1`]; in particular it is at most 2. -/
theorem dep_counts_exact {W H C R MR : Nat} (ok : InitOK W H C R MR) (MC : Nat) (r t : Nat)
    (hr : r < (initSeg W H C R MC MR).segRowCount)
    (h1 : rowStart (initSeg W H C R MC MR).rows r ≤ t) (h2 : t ≤ rowEnd (initSeg W H C R MC MR).rows r) :
    aget (initSeg W H C R MC MR).dep t =
      (if rowStart (initSeg W H C R MC MR).rows r < t then 1 else 0) +
      (if botPred (initSeg W H C R MC MR) r t then 1 else 0) ∧
    aget (initSeg W H C R MC MR).dep t ≤ 2 := by
  have h := (initSeg_wf ok MC).dep0 r hr t h1 h2
  refine ⟨h, ?_⟩
  rw [h]; split <;> split <;> omega

/-- `bands_contiguous`: every segment index inside a row's `[starting, ending]` holds at least one SB
    (`valid_sb_count ≠ 0`), so the dependency loop never skips a segment inside a row. -/
theorem bands_contiguous {W H C R MR : Nat} (ok : InitOK W H C R MR) (MC : Nat) {r s : Nat}
    (hr : r < effR W H R MR) (h1 : cst W H (min C W) (effR W H R MR) r ≤ s)
    (h2 : s ≤ cen W H (min C W) (effR W H R MR) r) :
    aget (initSeg W H C R MC MR).validSb s ≠ 0 :=
  initSeg_valid_ne_zero ok MC hr h1 h2

/-- The completion hypothesis `Live` holds of the real init for every accepted size and grid: every segment row
    after the first has its first segment fed by a bottom edge from the row above (for `W ≥ 2` by the band
    geometry; a picture one SB wide has a single segment row, line 83). -/
theorem init_live {W H C R MR : Nat} (ok : InitOK W H C R MR) (MC : Nat) : Live (initSeg W H C R MC MR) :=
  initSeg_live ok MC

/-- A picture (tile group) one SB wide is one segment (one row, one band), whatever grid was requested: its SBs
    are processed by a single worker in raster order (`seg_loop_exact`), i.e. each after the SB above it. -/
theorem w1_single_segment {H C R MR : Nat} (ok : InitOK 1 H C R MR) (MC : Nat) :
    (initSeg 1 H C R MC MR).segRowCount = 1 ∧ (initSeg 1 H C R MC MR).segBandCount = 1 ∧
    (initSeg 1 H C R MC MR).segTtlCount = 1 :=
  initSeg_W1 ok MC

/-- `seg_cover`: the SB loops of all segments together visit every superblock of the `W × H` grid exactly once
    (permutation of the raster list), … -/
theorem seg_cover {W H C R MR : Nat} (ok : InitOK W H C R MR) (MC : Nat) :
    ((List.range (initSeg W H C R MC MR).segTtlCount).flatMap
        fun s => (segSbs (initSeg W H C R MC MR) W s).1).Perm (allSbs W H) := by
  exact Seg.seg_cover ok.hW1 ok.hW ok.hH1 ok.hH ok.hC ok.hR ok.hMR (initSeg_wf_static ok MC).small ok.hWH

/-- … each segment's loop visits exactly the SBs whose `SEGMENT_INDEX` is that segment, in raster order, and
    the (unbounded in C) outer loop terminates within the picture. -/
theorem seg_loop_exact {W H C R MR : Nat} (ok : InitOK W H C R MR) (MC : Nat) {s : Nat}
    (hs : s < (initSeg W H C R MC MR).segTtlCount) :
    segSbs (initSeg W H C R MC MR) W s =
      ((allSbs W H).filter (fun p => segOf (initSeg W H C R MC MR) p = s), false) := by
  exact segSbs_initSeg ok.hW1 ok.hW ok.hH1 ok.hH ok.hC ok.hR ok.hMR (initSeg_wf_static ok MC).small ok.hWH hs

theorem segOf_closed {W H C R MR : Nat} (ok : InitOK W H C R MR) (MC : Nat) {x y : Nat} (hx : x < W) (hy : y < H) :
    segOf (initSeg W H C R MC MR) (x, y) = cseg W H (min C W) (effR W H R MR) x y := by
  have sh := initSeg_wf_static ok MC
  unfold segOf
  rw [sh.segRows, sh.segBands, sh.sbBands]
  have hC := ok.hC; have hW1 := ok.hW1
  exact sbSeg_eq ok.hW ok.hH (by omega) (effR_pos ok.hH1 ok.hR ok.hMR) (effR_le_H ok.hH1) ok.hN hx hy

/-- `seg_deps_sound` (geometry): for an SB `(x,y)` and its left / top / top-left / top-right neighbour inside
    the picture, the neighbour lies in the same segment (then it is earlier in that segment's raster-order loop,
    `seg_loop_exact`) or its segment precedes `(x,y)`'s segment through a chain of the right/bottom edges that
    init counts.  (For `W = 1` the edge relation is empty, but then `Rr = 1`: all SBs share one segment.) -/
theorem seg_deps_sound {W H C R MR : Nat} (ok : InitOK W H C R MR)
    {x y x' y' : Nat} (hx : x < W) (hy : y < H)
    (hn : (1 ≤ x ∧ x' = x - 1 ∧ y' = y) ∨ (1 ≤ y ∧ x' = x ∧ y' = y - 1) ∨
          (1 ≤ x ∧ 1 ≤ y ∧ x' = x - 1 ∧ y' = y - 1) ∨ (x + 1 < W ∧ 1 ≤ y ∧ x' = x + 1 ∧ y' = y - 1)) :
    cseg W H (min C W) (effR W H R MR) x' y' = cseg W H (min C W) (effR W H R MR) x y ∨
    Relation.TransGen (cEdge W H (min C W) (effR W H R MR))
      (cseg W H (min C W) (effR W H R MR) x' y') (cseg W H (min C W) (effR W H R MR) x y) := by
  exact Seg.seg_deps_sound (effR_pos ok.hH1 ok.hR ok.hMR) (effR_le_H ok.hH1) (effR_live ok.hW1 H R MR) hx hy hn

/-- **assign_safe (the property's ordering clause, end to end)**: in every state reachable under any
    interleaving of any number of workers, if the segment holding SB `(x,y)` has been handed out then, for each
    of its left / top / top-left / top-right neighbours inside the picture, the neighbour is in the same segment
    or the neighbour's segment has finished its SB loop (`ph ≥ 3`).  Also nothing is handed out twice (`err = 0`). -/
theorem assign_safe {W H C R MR : Nat} (ok : InitOK W H C R MR) (MC : Nat)
    {st : ASt} (hr : Reachable (initSeg W H C R MC MR) st)
    {x y x' y' : Nat} (hx : x < W) (hy : y < H)
    (hn : (1 ≤ x ∧ x' = x - 1 ∧ y' = y) ∨ (1 ≤ y ∧ x' = x ∧ y' = y - 1) ∨
          (1 ≤ x ∧ 1 ≤ y ∧ x' = x - 1 ∧ y' = y - 1) ∨ (x + 1 < W ∧ 1 ≤ y ∧ x' = x + 1 ∧ y' = y - 1))
    (hs : 1 ≤ aget st.ph (segOf (initSeg W H C R MC MR) (x, y))) :
    st.err = 0 ∧
    (segOf (initSeg W H C R MC MR) (x', y') = segOf (initSeg W H C R MC MR) (x, y) ∨
     3 ≤ aget st.ph (segOf (initSeg W H C R MC MR) (x', y'))) := by
  have hi := (reachable_inv (initSeg_wf ok MC) hr).1
  have hx' : x' < W := by rcases hn with ⟨_, rfl, _⟩ | ⟨_, rfl, _⟩ | ⟨_, _, rfl, _⟩ | ⟨h, _, rfl, _⟩ <;> omega
  have hy' : y' < H := by rcases hn with ⟨_, _, rfl⟩ | ⟨_, _, rfl⟩ | ⟨_, _, _, rfl⟩ | ⟨_, _, _, rfl⟩ <;> omega
  rw [segOf_closed ok MC hx hy] at hs ⊢
  rw [segOf_closed ok MC hx' hy']
  refine ⟨hi.err0, ?_⟩
  rcases seg_deps_sound ok hx hy hn with h | h
  · exact Or.inl h
  · exact Or.inr (safe_transGen ok MC hi h hs)

/-- **assign_complete**: for every accepted picture size and segment grid, every terminal state reachable under
    any interleaving of any number of workers has processed the segment of every SB (no quiescent state with
    unfinished work: the picture always completes). -/
theorem assign_complete {W H C R MR : Nat} (ok : InitOK W H C R MR) (MC : Nat)
    {st : ASt} (hr : Reachable (initSeg W H C R MC MR) st) (ht : Terminal (initSeg W H C R MC MR) st)
    {x y : Nat} (hx : x < W) (hy : y < H) :
    aget st.ph (segOf (initSeg W H C R MC MR) (x, y)) = 4 := by
  have sh := initSeg_wf_static ok MC
  have eR := sh.segRows; have hrows := sh.rows
  have hRr : 0 < effR W H R MR := effR_pos ok.hH1 ok.hR ok.hMR
  have hH1 := ok.hH1
  have hrow : rowOf (effR W H R MR) H y < (initSeg W H C R MC MR).segRowCount := by
    rw [eR]; exact rowOf_lt hRr hy
  obtain ⟨e1, e2, _⟩ := hrows _ hrow
  rw [segOf_closed ok MC hx hy]
  exact sched_complete (initSeg_wf ok MC) (initSeg_live ok MC) hr ht _ hrow _
    (by rw [e1]; exact cst_le_cseg hRr (by omega) x y) (by rw [e2]; exact cseg_le_cen hRr (by omega) hx y)

/-- every execution of the real grid is finite (at most `4 · segment_ttl_count` atomic steps) -/
theorem assign_terminates {W H C R MR : Nat} (ok : InitOK W H C R MR) (MC : Nat) {st st' : ASt} {k : Nat}
    (hr : Reachable (initSeg W H C R MC MR) st) (h : Steps (initSeg W H C R MC MR) st k st') :
    k ≤ 4 * ((initSeg W H C R MC MR).segRowCount * (initSeg W H C R MC MR).segBandCount) :=
  steps_bounded (initSeg_wf ok MC) hr h

/-- the size hypotheses are met by 1080p with 64x64 SBs (30x17 SBs, segment grid 30x17 as computed by
    `EbEncHandle.c` for many cores) and by the 64x256 picture of finding F2 (1x4 SBs, 4 segment rows requested) -/
example : InitOK 30 17 30 17 17 := by constructor <;> decide
example : InitOK 1 4 1 4 4 := by constructor <;> decide
/-- hypothesis `Reachable`: the initial state is reachable -/
example : Reachable (initSeg 30 17 30 17 30 17) (initASt (initSeg 30 17 30 17 30 17)) := Reachable.init
example : Reachable (initSeg 1 4 1 4 1 4) (initASt (initSeg 1 4 1 4 1 4)) := Reachable.init
/-- the abstract theorems' hypotheses `WF`/`Live` are met by the real init, also for `W = 1` -/
example : WF (initSeg 30 17 30 17 30 17) ∧ Live (initSeg 30 17 30 17 30 17) :=
  ⟨init_wf (by constructor <;> decide) 30, init_live (by constructor <;> decide) 30⟩
example : WF (initSeg 1 4 1 4 1 4) ∧ Live (initSeg 1 4 1 4 1 4) :=
  ⟨init_wf (by constructor <;> decide) 1, init_live (by constructor <;> decide) 1⟩
/-- `sched_stuck`'s hypotheses are satisfiable: `preFixW1x2` is the control block `enc_dec_segments_init` produces
    WITHOUT the clamp of line 83 for a 1x2-SB picture with 2 segment rows (rows {0}, {3}; band count 2; all
    dependency counts 0) — well-formed, with a gap between `ending(0) + band_count = 2` and `starting(1) = 3` -/
example : WF preFixW1x2 ∧ 0 + 1 < preFixW1x2.segRowCount ∧
    rowEnd preFixW1x2.rows 0 + preFixW1x2.segBandCount < rowStart preFixW1x2.rows (0 + 1) :=
  ⟨preFixW1x2_wf, by decide, by decide⟩
example (st : ASt) (h : Reachable preFixW1x2 st) : aget st.ph 3 = 0 :=
  sched_stuck preFixW1x2_wf (r := 0) (by decide) (by decide) h

end C24
