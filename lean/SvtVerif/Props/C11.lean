/-
  C11 — encoding never corrupts memory, hits undefined behaviour or hangs.

  This family cannot prove memory safety of ~100 k lines of encoder.  What IS proved here (for all sizes / inputs):
  (a) the padding arithmetic of `set_param_based_on_input`, for every picture size the validator accepts;
  (b) the recon output buffer is large enough for the three planes `recon_output` writes, for every accepted size and depth;
  (c) the per-picture bitstream buffers are two constants, the copies into them are unchecked, the raw picture alone
      exceeds them for accepted configurations (NEGATIVE theorem `bitbuf_not_bounded`; checks/c11.py runs its witness on the real encoder);
  (d) `copy_api_from_app` writes outside the HME arrays for configurations that are later accepted (re-export of C12);
  (e) the liveness pieces proved elsewhere, re-exported: EncDec segments always complete (C24), no lost wake-up in the
      system resource manager (C23), the pre-assignment buffer never strands a picture at EOS (C03).
  Everything else (pixel kernels, mode decision, rate control, …) is exercised under ASan/UBSan by checks/c11.py, not proved.
-/
import SvtVerif.Lemmas.PadRecon
import SvtVerif.Props.C12
import SvtVerif.Props.C24
import SvtVerif.Props.C23
import SvtVerif.Props.C03

namespace C11
open CSem Padding ReconSize BitBuf Lemmas.PadRecon

/-- Tie to the translated validator: every configuration `svt_av1_enc_set_parameter` accepts (generated model of
    `copy_api_from_app; verify_settings`, C12) has a picture size in `AcceptedSize` — the size `copy_api_from_app` stores in
    `max_input_luma_width/height` is `source_width/height` truncated to 16 bits (EbEncHandle.c:2192-2193). -/
theorem accepted_cfg_size (s : Gen.Config.Scs) (c : Gen.Config.Cfg) (hs : s.WellTyped) (hc : c.WellTyped)
    (h : Gen.Config.setParameterAccepts s c = true) :
    AcceptedSize (c.source_width % 65536) (c.source_height % 65536) := by
  have d := (C12.accept_iff_codeDomain s c hs hc).1 h
  exact ⟨d.d2, d.d8, d.d3, d.d9, d.d6, d.d7⟩

/-- **pad_spec.** For every accepted picture size (4:2:0: both subsampling shifts 1) `set_param_based_on_input` leaves:
    padded luma dimensions that are the least multiple of 8 (`MIN_BLOCK_SIZE`) not below the input, pads `< 8` equal to the
    difference, chroma dimensions exactly half the padded luma dimensions, everything still inside the accepted maxima and
    inside `uint16_t`. -/
theorem pad_spec (w h : Int) (ha : AcceptedSize w h) :
    (setParamPad w h 1 1).lumaW % 8 = 0 ∧ w ≤ (setParamPad w h 1 1).lumaW ∧ (setParamPad w h 1 1).lumaW < w + 8 ∧
    (setParamPad w h 1 1).padRight = (setParamPad w h 1 1).lumaW - w ∧
    0 ≤ (setParamPad w h 1 1).padRight ∧ (setParamPad w h 1 1).padRight < 8 ∧
    (setParamPad w h 1 1).lumaH % 8 = 0 ∧ h ≤ (setParamPad w h 1 1).lumaH ∧ (setParamPad w h 1 1).lumaH < h + 8 ∧
    (setParamPad w h 1 1).padBottom = (setParamPad w h 1 1).lumaH - h ∧
    0 ≤ (setParamPad w h 1 1).padBottom ∧ (setParamPad w h 1 1).padBottom < 8 ∧
    (setParamPad w h 1 1).chromaW * 2 = (setParamPad w h 1 1).lumaW ∧
    (setParamPad w h 1 1).chromaH * 2 = (setParamPad w h 1 1).lumaH ∧
    (setParamPad w h 1 1).lumaW ≤ 4096 ∧ (setParamPad w h 1 1).lumaH ≤ 2160 := by
  obtain ⟨hw0, hw1, hh0, hh1, hw2, hh2⟩ := ha
  have w0 : 0 ≤ w := by omega
  have h0 : 0 ≤ h := by omega
  obtain ⟨w1, w2, w3, w4, w5, w6⟩ := padDim_spec w w0 (by omega)
  obtain ⟨h1, h2, h3, h4, h5, h6⟩ := padDim_spec h h0 (by omega)
  have w7 := padDim_least w 4096 w0 (by omega) (by decide) hw1
  have h7 := padDim_least h 2160 h0 (by omega) (by decide) hh1
  simp only [setParamPad]
  exact ⟨w1, w2, w3, w4, w5, w6, h1, h2, h3, h4, h5, h6, chroma_half _ (w0.trans w2) (by omega) w1,
    chroma_half _ (h0.trans h2) (by omega) h1, w7, h7⟩

/-- "Least": no smaller multiple of 8 covers the input. -/
theorem pad_least (w h m : Int) (ha : AcceptedSize w h) (hm : m % 8 = 0) :
    (w ≤ m → (setParamPad w h 1 1).lumaW ≤ m) ∧ (h ≤ m → (setParamPad w h 1 1).lumaH ≤ m) := by
  obtain ⟨hw0, hw1, hh0, hh1, hw2, hh2⟩ := ha
  simp only [setParamPad]
  exact ⟨padDim_least w m (by omega) (by omega) hm, padDim_least h m (by omega) (by omega) hm⟩

/-- The closed form of one padded dimension (`Lemmas.PadRecon.padDim_closed`) holds for every 16-bit size up to 65528; beyond
    it the padded width wraps (the validator's 4096 limit is what keeps the arithmetic exact, not the code itself). -/
theorem pad_wraps_beyond_u16 : padDim 65530 = (6, 0) := by decide

example : setParamPad 66 70 1 1 = { lumaW := 72, lumaH := 72, padRight := 6, padBottom := 2, chromaW := 36, chromaH := 36 } := by decide
example : AcceptedSize 66 70 := by decide

/-- **recon_sizes_fit.** For every accepted size and every `encoder_bit_depth`, with the buffer allocated by
    `svt_output_recon_buffer_header_creator` from the padded dimensions and `recon_ptr->max_width/height` the padded
    dimensions (EbEncHandle.c:1090-1091, 1190-1191): each of the three `CHECK_REPORT_ERROR(n_filled_len + sample_total_count <=
    n_alloc_len)` of `recon_output` holds (no `EB_ENC_ROB_OF_ERROR` error packet), `n_filled_len` runs through
    `w·h`, `w·h + w·h/4`, `w·h·3/2` (times 2 at high bit depth) — the size of the visible 4:2:0 picture, which is what the
    application's buffer must hold — and no `uint32_t` / `int` intermediate wraps. -/
theorem recon_sizes_fit (w h bd : Int) (ha : AcceptedSize w h) :
    checksPass (reconAlloc (setParamPad w h 1 1).lumaW (setParamPad w h 1 1).lumaH bd) 0
      (reconIncs (setParamPad w h 1 1).lumaW (setParamPad w h 1 1).lumaH (setParamPad w h 1 1).padRight
        (setParamPad w h 1 1).padBottom bd) = true ∧
    filledAfter 0 (reconIncs (setParamPad w h 1 1).lumaW (setParamPad w h 1 1).lumaH (setParamPad w h 1 1).padRight
        (setParamPad w h 1 1).padBottom bd) =
      [w * h * 2 ^ is16 bd, (w * h + w * h / 4) * 2 ^ is16 bd, (w * h + w * h / 2) * 2 ^ is16 bd] ∧
    (w * h + w * h / 2) * 2 ^ is16 bd ≤ reconAlloc (setParamPad w h 1 1).lumaW (setParamPad w h 1 1).lumaH bd ∧
    reconAlloc (setParamPad w h 1 1).lumaW (setParamPad w h 1 1).lumaH bd < 2 ^ 31 := by
  obtain ⟨hw0, hw1, hh0, hh1, hw2, hh2⟩ := ha
  have w0 : 0 ≤ w := by omega
  have h0 : 0 ≤ h := by omega
  obtain ⟨_, p2, _, p4, _, _⟩ := padDim_spec w w0 (by omega)
  obtain ⟨_, p8, _, p10, _, _⟩ := padDim_spec h h0 (by omega)
  have p15 := padDim_least w 4096 w0 (by omega) (by decide) hw1
  have p16 := padDim_least h 2160 h0 (by omega) (by decide) hh1
  have b1 : w * h ≤ (padDim w).2 * (padDim h).2 := Int.mul_le_mul p2 p8 h0 (w0.trans p2)
  have b2 : (padDim w).2 * (padDim h).2 ≤ 4096 * 2160 := Int.mul_le_mul p15 p16 (h0.trans p8) (by decide)
  simp only [setParamPad]
  exact recon_fit _ _ _ _ bd (w * h)
    (by rw [p4, p10, Int.sub_sub_self, Int.sub_sub_self]) (Int.mul_nonneg w0 h0) b1 (by omega) (mul_even_even w h hw2 hh2)

/-- The bytes `picture_copy_kernel` actually writes for each plane never exceed that plane's `sample_total_count`
    increment, also when the coded width/height are smaller than the maximum (super-resolution / `pad_right` handling):
    for `0 ≤ area ≤ stride`, extent ≤ stride · rows · bytes-per-sample. -/
theorem recon_copy_within_increment (stride aw ah bps : Int) (hs : aw ≤ stride) (hb : 0 ≤ bps) (hah : 0 ≤ ah) (hst : 0 ≤ stride) :
    copyExtent stride aw ah bps ≤ stride * ah * bps := copyExtent_le stride aw ah bps hs hb hah hst

example : reconAlloc 72 72 10 = 15552 ∧ filledAfter 0 (reconIncs 72 72 6 2 10) = [9240, 11550, 13860] ∧
    checksPass (reconAlloc 72 72 10) 0 (reconIncs 72 72 6 2 10) = true := by decide

/-- The per-picture bitstream buffer size is one of two constants — it does not depend on bit depth, quantizer, preset or
    anything but which side of 0x16DA00 luma samples the padded picture is on. -/
theorem bitbuf_two_values (padW padH : Int) : bufSize padW padH = 2000000 ∨ bufSize padW padH = 3000000 := by
  unfold bufSize; split <;> simp

/-- Tiles do not add room: the per-tile entropy-coder buffers together are at most the picture buffer. -/
theorem tile_buffers_sum_le (padW padH n : Int) (hn : 0 < n) : tileBufSize padW padH n * n ≤ bufSize padW padH := by
  have h2 := bitbuf_two_values padW padH
  have hw : wrapU 32 (bufSize padW padH) = bufSize padW padH := by
    rcases h2 with h | h <;> rw [h] <;> decide
  unfold tileBufSize
  rw [hw]
  exact Int.ediv_mul_le _ (by omega)

/-- **bitbuf_not_bounded** (the honest, NEGATIVE theorem).  There is an accepted configuration whose *uncompressed picture*
    is larger than the buffer the coded picture is copied into: 1920x1080, 8 bit (3 110 400 > 3 000 000 bytes).  A coded frame of
    incompressible content at a small quantizer is larger still (noise at qp 0 codes to about 1.85 bytes/pixel at 8 bit and 2.43 at 10 bit,
    against 1.5 / 1.875 raw), so no size-independent constant can be a bound; checks/c11.py encodes 1280x720 10-bit noise at
    qp 0 on the real encoder. -/
theorem bitbuf_not_bounded :
    ∃ w h bd : Int, AcceptedSize w h ∧ (bd = 8 ∨ bd = 10) ∧
      bufSize (setParamPad w h 1 1).lumaW (setParamPad w h 1 1).lumaH < rawBytes w h bd :=
  ⟨1920, 1080, 8, by decide, by decide, by decide⟩

/-- At the largest accepted size a frame must compress more than 4.4 : 1 (8 bit) / 5.5 : 1 (10 bit) to fit. -/
theorem bitbuf_max_size_ratio :
    4 * bufSize (setParamPad 4096 2160 1 1).lumaW (setParamPad 4096 2160 1 1).lumaH < rawBytes 4096 2160 8 ∧
    5 * bufSize (setParamPad 4096 2160 1 1).lumaW (setParamPad 4096 2160 1 1).lumaH < rawBytes 4096 2160 10 := by decide

/-- `svt_aom_daala_stop_encode` copies every byte the range coder produced, whatever the size of the tile's buffer; the
    copy leaves the buffer exactly when there are more bytes than the buffer has. -/
theorem stop_encode_unchecked (tileBuf n : Int) (hn : 0 ≤ n) :
    (stopEncode tileBuf n).1 = n ∧ ((stopEncode tileBuf n).2 = false ↔ tileBuf < n) := by
  simp only [stopEncode, copyInBounds, decide_eq_false_iff_not, true_and]
  omega

/-- `write_frame_header_av1`: the picture buffer receives header + all tiles + one size field per tile but the last … -/
theorem append_tiles_total (picBuf tsz cur : Int) (tiles : List Int) (hne : tiles ≠ []) :
    (appendTiles picBuf tsz cur tiles).1 = cur + tiles.sum + tsz * ((tiles.length : Int) - 1) :=
  appendTiles_total picBuf tsz tiles cur hne

/-- … and some copy leaves the buffer exactly when that total exceeds it (sizes non-negative). -/
theorem append_tiles_in_bounds_iff (picBuf tsz cur : Int) (tiles : List Int) (hne : tiles ≠ []) (ht : 0 ≤ tsz) (hc : 0 ≤ cur)
    (hpos : ∀ t ∈ tiles, 0 ≤ t) :
    (appendTiles picBuf tsz cur tiles).2 = true ↔ cur + tiles.sum + tsz * ((tiles.length : Int) - 1) ≤ picBuf :=
  appendTiles_inBounds picBuf tsz ht tiles cur hne hc hpos

/-- The witness of checks/c11.py: a 1280x720 10-bit noise frame at qp 0 codes to about 2 241 500 bytes in one tile;
    the tile buffer has 2 000 000. The uncompressed picture (1 728 000 bytes) would have fitted: the raw size is NOT an upper
    bound of the coded size. -/
theorem stop_encode_overflow_720p10 :
    (stopEncode (tileBufSize (setParamPad 1280 720 1 1).lumaW (setParamPad 1280 720 1 1).lumaH 1) 2241000).2 = false ∧
    rawBytes 1280 720 10 < bufSize 1280 720 := by decide

example : (appendTiles 100 4 10 [30, 30, 20]).1 = 98 ∧ (appendTiles 100 4 10 [30, 30, 20]).2 = true ∧
    (appendTiles 100 4 10 [30, 30, 23]).2 = false := by decide

/-- A HME region count of 3 makes `copy_api_from_app` write outside the two-entry arrays of the sequence control set
    (the configuration is rejected afterwards, the write has already happened). -/
theorem copy_out_of_bounds_witness :
    Gen.Config.setParameterOob {} { Lemmas.Config.dfltWH 64 64 with number_hme_search_region_in_width := 3 } = true :=
  C12.copy_out_of_bounds_witness

/-- With HME disabled the counts are not validated at all: an ACCEPTED configuration whose copy loop runs 1000 entries past
    two-entry arrays (checks/c11.py runs it on the real API under ASan/UBSan). -/
theorem accepted_yet_out_of_bounds :
    Gen.Config.setParameterAccepts {} { Lemmas.Config.dfltWH 64 64 with enable_hme_flag := 0, number_hme_search_region_in_width := 1000 } = true ∧
    Gen.Config.setParameterOob {} { Lemmas.Config.dfltWH 64 64 with enable_hme_flag := 0, number_hme_search_region_in_width := 1000 } = true :=
  C12.accepted_yet_out_of_bounds

open Seg in
/-- C24: for every accepted picture size and segment grid, under any interleaving of any number of EncDec workers, every
    terminal state has processed the segment of every superblock — the picture always completes. -/
theorem encdec_segments_complete {W H C R MR : Nat} (ok : InitOK W H C R MR) (MC : Nat)
    {st : ASt} (hr : Reachable (initSeg W H C R MC MR) st) (ht : Terminal (initSeg W H C R MC MR) st)
    {x y : Nat} (hx : x < W) (hy : y < H) :
    aget st.ph (segOf (initSeg W H C R MC MR) (x, y)) = 4 :=
  C24.assign_complete ok MC hr ht hx hy

open Srm in
/-- C23: no lost wake-up in the system resource manager (see `C23.srm_wake`). -/
theorem srm_no_lost_wakeup {s : State} (h : Reachable s) (sd : Side) (f : Nat) :
    (s.pc sd f = .waiting → s.sem sd f = 0 → s.objQ sd = [] ∧ f ∈ s.procQ sd) ∧
    (s.items sd f ≠ [] → s.quit sd f = false → s.pc sd f = .popping ∨ 0 < s.sem sd f) ∧
    (s.pc sd f = .waiting → s.items sd f ≠ [] → s.quit sd f = false →
      ∃ s', step s (.semWait sd f) = .ok s' .ok) :=
  C23.srm_wake h sd f

open MiniGop in
/-- C03: with the code's own `is_delayed_intra`, after the EOS picture every submitted picture has left the pre-assignment
    buffer exactly once (nothing stranded, for every stream length, level count and intra period). -/
theorem eos_flush_complete (levels : Nat) (lowDelay : Bool) (P : Int) (period : Nat) (split : List Pic → List (List Pic))
    (hsplit : ∀ b, ((split b).flatten).Perm b) (ps : List Pic) (last : Pic) (hlast : last.eos = true) :
    (MiniGop.run levels lowDelay (isDelayedIntra P period) split (ps ++ [last])).sent.Perm (ps ++ [last]) ∧
    (MiniGop.run levels lowDelay (isDelayedIntra P period) split (ps ++ [last])).buf = [] ∧
    (MiniGop.run levels lowDelay (isDelayedIntra P period) split (ps ++ [last])).delayed = none :=
  C03.flush_complete_code levels lowDelay P period split hsplit ps last hlast

end C11
