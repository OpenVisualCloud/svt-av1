/-
  C03 — one packet per submitted picture, in order, with timestamps and EOS.
  Property theorems about the executable model `Model/Packetize.lean` of the tail of `packetization_kernel`
  (EbPacketizationProcess.c l.621-912: reorder queue, `count_frames_in_next_tu`, `collect_frames_info`,
  `encode_tu`, undisplayed-frame stack, EOS flag movement, `release_frames`) and about `Model/MiniGop.lean`, the
  pre-assignment buffer of `picture_decision_kernel` (EbPictureDecisionProcess.c l.4738-4816, 5570-5593).
-/
import SvtVerif.Lemmas.Packetize
import SvtVerif.Lemmas.MiniGop
import SvtVerif.Lemmas.CSem

namespace C03
open Packetize

/-- **Property (model level), all stream lengths, all GOP shapes, all window-respecting arrival orders.**

    Let `fs` be the frames reaching packetization listed in decode order (N' = `fs.length` ≥ 1 frames for `N`
    submitted pictures: alt-ref pictures contribute two frames), such that
    * `validGop fs N`: the display process over `fs` shows pictures `0 … N−1` in order, each once, at most
      `REF_FRAMES = 8` decoded frames wait for their show-existing at any time, the last decoded frame is shown;
    * no more than `T < D` consecutive frames are non-shown;
    * `terminating_picture_number` is the last decode order and the pts are monotone in the display number;
    and let `arrivals` be ANY order in which these frames reach the kernel (each decode order exactly once) that
    never runs `D − T` or more ahead of the oldest missing decode order (`D = 2048` in the code).  Then the
    kernel posts exactly `N` packets; the k-th packet carries the pts of the k-th submitted picture; `dts = pts`;
    exactly the last packet carries EOS and nothing follows it; no queue slot is overwritten while occupied; the
    undisplayed stack ends empty.  There is no bound on `N` (the queue wraps around any number of times). -/
theorem packetize_spec (D T : Nat) (hT : T < D) (term : Option Nat) (ptsOf : Nat → Int) (fs : List Frame)
    (N : Nat) (arrivals : List (Nat × Frame))
    (hmono : ∀ a b, a ≤ b → ptsOf a ≤ ptsOf b) (hne : fs ≠ [])
    (hvalid : validGop fs N = true) (hruns : hiddenRunsLe T 0 fs = true)
    (hpts : ∀ f ∈ fs, f.pts = ptsOf f.disp) (hterm : term = some (fs.length - 1))
    (hperm : (arrivals.map (·.1)).Perm (List.range fs.length))
    (hfr : ∀ x, x ∈ arrivals → fs[x.1]? = some x.2)
    (hwin : Reorder.Windowed (D - T) (arrivals.map (·.1))) :
    (packets (runQ D term arrivals)).length = N ∧
    (packets (runQ D term arrivals)).map (·.pts) = (List.range N).map ptsOf ∧
    (∀ b ∈ packets (runQ D term arrivals), b.dts = b.pts) ∧
    (packets (runQ D term arrivals)).map (·.eos) = List.replicate (N - 1) false ++ [true] ∧
    (runQ D term arrivals).clobbered = false ∧
    (runQ D term arrivals).out.stack = [] := by
  obtain ⟨r, hclob⟩ := run_spec D T hT term ptsOf fs N arrivals hmono hne hvalid hruns hpts hterm hperm hfr hwin
  obtain ⟨lastP, rest, hpk, hle, hre⟩ := r.eos
  refine ⟨by rw [packets, List.length_reverse]; exact r.length, r.pts,
    fun b hb => r.dts b (List.mem_reverse.1 hb), ?_, hclob, r.stack⟩
  have hl : rest.length = N - 1 := by rw [← r.length, hpk]; rfl
  show ((runQ D term arrivals).out.pktsRev.reverse).map (·.eos) = _
  rw [hpk, List.reverse_cons, List.map_append, List.map_cons, List.map_nil, hle]
  congr 1
  rw [List.eq_replicate_iff]
  refine ⟨by rw [List.length_map, List.length_reverse, hl], ?_⟩
  intro x hx
  obtain ⟨b, hb, rfl⟩ := List.mem_map.1 hx
  exact hre b (List.mem_reverse.1 hb)

/-- Key frame + one 3-level mini-GOP in decode order: pictures 0, 4, 2, 1, 3; pictures 4 and 2 are decoded without being
    shown and displayed later through show-existing frames. -/
def exFrames : List Frame :=
  [ { disp := 0, pts := 1000, shown := true,  hse := false, alt := false, priv := 11, outMeta := 0 },
    { disp := 4, pts := 1040, shown := false, hse := false, alt := false, priv := 15, outMeta := 0 },
    { disp := 2, pts := 1020, shown := false, hse := false, alt := false, priv := 13, outMeta := 0 },
    { disp := 1, pts := 1010, shown := true,  hse := true,  alt := false, priv := 12, outMeta := 0 },
    { disp := 3, pts := 1030, shown := true,  hse := true,  alt := false, priv := 14, outMeta := 0 } ]

def exArrivals : List (Nat × Frame) :=
  [2, 0, 1, 4, 3].filterMap (fun d => (exFrames[d]?).map (fun f => (d, f)))

/-- Non-vacuity of `packetize_spec`: the frames `exFrames` arriving out of decode order, depth 8, `T = 2`; the model
    posts pts 1000, 1010, …, 1040 with EOS on the last packet. -/
example :
    (packets (runQ 8 (some 4) exArrivals)).map (·.pts) = [1000, 1010, 1020, 1030, 1040] ∧
    (packets (runQ 8 (some 4) exArrivals)).map (·.eos) = [false, false, false, false, true] := by
  have h := packetize_spec 8 2 (by decide) (some 4) (fun k => 1000 + 10 * (k : Int)) exFrames 5 exArrivals
    (by intro a b hab; show (1000 : Int) + 10 * (a : Int) ≤ 1000 + 10 * (b : Int); omega) (by decide) (by decide) (by decide) (by decide) (by decide)
    (by decide) (by decide) (by decide)
  exact ⟨h.2.1, h.2.2.2.1⟩

/-- `N = 0`: nothing reaches packetization, no packet is posted — in particular no EOS packet comes out of this
    kernel (whether the library synthesises one elsewhere is outside this model; checked end to end). -/
theorem packetize_empty (D : Nat) (term : Option Nat) :
    packets (runQ D term []) = [] ∧ (runQ D term []).clobbered = false := ⟨rfl, rfl⟩

/-- The only `N` accepted for an empty frame list is 0. -/
theorem validGop_nil (N : Nat) : validGop [] N = true ↔ N = 0 := by
  simp only [validGop, lastShown, List.foldl_nil, Bool.true_and, beq_iff_eq, Option.some.injEq, Prod.mk.injEq,
    and_true]
  exact eq_comm

/-- **What `p_app_private` of a packet is, as the code stands** (every GOP, every arrival order, no hypothesis):
    the `out_meta_data` of one of the frames (`collect_frames_info` l.501) — not the application's pointer. -/
theorem packet_priv_is_out_meta (D : Nat) (term : Option Nat) (arrivals : List (Nat × Frame)) :
    ∀ b ∈ packets (runQ D term arrivals), ∃ x ∈ arrivals, b.priv = x.2.outMeta := by
  intro b hb
  have h0 : PrivInv (fun n => ∃ x ∈ arrivals, n = x.2.outMeta) (init D) :=
    ⟨(fun i e he => nomatch (slotAt_replicate D i).symm.trans he), (fun _ hy => nomatch hy),
      (fun _ hy => nomatch hy)⟩
  have := privInv_run (fun n => ∃ x ∈ arrivals, n = x.2.outMeta) D
    (arrivals.map (fun x => (x.1, mkEntry term x.1 x.2))) (init D) h0
    (by
      intro y hy
      obtain ⟨x, hx, rfl⟩ := List.mem_map.1 hy
      exact ⟨x, hx, rfl⟩)
  exact this.out.2 b (List.mem_reverse.1 hb)

/-- In `/repo` `out_meta_data` is always NULL (`data_ll_head_ptr` / `app_out_data_ll_head_ptr` are only ever
    initialised, EbPictureControlSet.c:1217-1218), so every packet comes back with `p_app_private = NULL`. -/
theorem packet_priv_null (D : Nat) (term : Option Nat) (arrivals : List (Nat × Frame))
    (hmeta : ∀ x ∈ arrivals, x.2.outMeta = 0) : ∀ b ∈ packets (runQ D term arrivals), b.priv = 0 := by
  intro b hb
  obtain ⟨x, hx, he⟩ := packet_priv_is_out_meta D term arrivals b hb
  rw [he]; exact hmeta x hx

example : ∀ x ∈ exArrivals, x.2.outMeta = 0 := by decide

/-- **Refuted sub-claim of C03 (finding F14).**  The packet does NOT carry the application-private pointer of the
    submitted picture: `collect_frames_info` (l.501) overwrites `p_app_private` with `out_meta_data`, which is
    NULL in `/repo` (both source lists are never populated).  Witness: the stream above — every submitted picture
    has a non-NULL `priv` (11…15), every packet has `priv = 0`. -/
theorem app_private_not_roundtripped :
    exFrames.map (·.priv) = [11, 15, 13, 12, 14] ∧
    (packets (runQ 8 (some 4) exArrivals)).map (·.priv) = [0, 0, 0, 0, 0] := by decide

/-- **Excluded point of `validGop` (run on the real functions by harness/packetize.c).**  If the terminating
    frame has `has_show_existing` but the undisplayed stack is empty, the EOS flag is cleared on the TU packet
    (l.894-895) and never set on any other packet (`pop_undisplayed_frame` returns NULL, l.899-900): the stream
    ends without an EOS packet. -/
theorem eos_lost_when_show_existing_has_no_frame :
    (packets (runQ 8 (some 0)
      [(0, { disp := 0, pts := 0, shown := true, hse := true, alt := false, priv := 0, outMeta := 0 })])).map (·.eos)
      = [false] := by decide

/-- **Excluded point of `validGop` (room ≤ `REF_FRAMES`).**  A 9th pending frame is dropped silently by
    `push_undisplayed_frame` (l.340-343); its picture is never delivered: 10 frames in, 9 non-shown, then
    requested by a show-existing frame — the frame decoded first (picture 1, pushed last) was dropped, so the
    show-existing packet after picture 0 carries picture 2: picture 1 is never delivered. -/
theorem ninth_pending_frame_is_dropped :
    let hidden := (List.range 9).map (fun k =>
      (k, ({ disp := k + 1, pts := k + 1, shown := false, hse := false, alt := false, priv := 0, outMeta := 0 } : Frame)))
    let shownF : Nat × Frame :=
      (9, { disp := 0, pts := 0, shown := true, hse := true, alt := false, priv := 0, outMeta := 0 })
    (runQ 16 none (hidden ++ [shownF])).out.stack.length = 7 ∧
    (packets (runQ 16 none (hidden ++ [shownF]))).map (·.pts) = [0, 2] := by decide

/-- **When the model's sort is the code's sort.**  `pts_descend` returns `(int)(b->pts - a->pts)`.  If the two pts differ by
    less than 2^31 in magnitude, its sign is the sign of the true difference (negative iff `b` is earlier, zero iff equal,
    positive iff `b` is later), i.e. the qsort of l.361-366 orders the pending frames exactly as `Packetize.sortStack` does.
    This is the assumption under which `packetize_spec` speaks about the C code. -/
theorem pts_descend_agrees (a b : Int) (h0 : -(2 ^ 31) ≤ b - a) (h1 : b - a < 2 ^ 31) :
    (ptsDescendC a b < 0 ↔ b < a) ∧ (ptsDescendC a b = 0 ↔ b = a) ∧ (0 < ptsDescendC a b ↔ a < b) := by
  have e : ptsDescendC a b = b - a := by
    show CSem.wrapS 32 (CSem.wrapS 64 (b - a)) = b - a
    rw [CSem.wrapS_of_range (n := 64) (by omega) (by omega) (by decide), CSem.wrapS_of_range (n := 32) h0 h1 (by decide)]
  rw [e]
  refine ⟨by omega, by omega, by omega⟩

example : ptsDescendC 1000 1010 = 10 := by decide

/-- **Excluded point of the assumption (finding F15), as the code stands.**  With pts `2·2^30` and `8·2^30` (pictures 2 and 8
    of a stream with pts step 2^30, both pending in a 4-layer mini-GOP) the comparator is NEGATIVE although picture 8 is
    later: the stack is mis-sorted and the show-existing packet of picture 2 carries the pts of picture 8 (reproduced on the
    real functions by harness/packetize.c and on the real encoder by harness/gop_e2e.c).  With a difference of exactly 2^32 the
    comparator returns 0. -/
theorem pts_descend_truncates :
    ptsDescendC (2 * 2 ^ 30) (8 * 2 ^ 30) < 0 ∧ ptsDescendC 0 (2 ^ 32) = 0 := by decide

open MiniGop in
/-- **flush_complete.**  For every number of hierarchical levels, every pattern of intra pictures, every stream length (in
    particular every `N mod 2^levels`), low-delay or random-access, every split of a released buffer into mini-GOPs that
    covers each buffered picture exactly once (`hsplit`; the split itself, `generate_picture_window_split` /
    `handle_incomplete_picture_window_map`, is not transcribed) and every `is_delayed_intra` that is FALSE for non-intra
    pictures and for the picture carrying `end_of_sequence_flag` (`hdelay`): if the last picture of the stream
    carries the EOS flag, then after it every picture of the stream has been handed to `send_picture_out` exactly once, the
    pre-assignment buffer is empty and no intra picture is left parked in `prev_delayed_intra`. -/
theorem flush_complete (levels : Nat) (lowDelay : Bool) (delay : Nat → Pic → Bool) (split : List Pic → List (List Pic))
    (hsplit : ∀ b, ((split b).flatten).Perm b)
    (hdelay : ∀ n p, delay n p = true → p.intra = true ∧ p.eos = false)
    (ps : List Pic) (last : Pic) (hlast : last.eos = true) :
    (MiniGop.run levels lowDelay delay split (ps ++ [last])).sent.Perm (ps ++ [last]) ∧
    (MiniGop.run levels lowDelay delay split (ps ++ [last])).buf = [] ∧
    (MiniGop.run levels lowDelay delay split (ps ++ [last])).delayed = none :=
  flush_complete_cand levels lowDelay delay split hsplit
    (fun n p h => by obtain ⟨h1, h2⟩ := hdelay n p h; simp [cand, h1, h2]) ps last hlast

open MiniGop in
/-- `flush_complete` with `is_delayed_intra` as the code has it (l.3739-3750, `MiniGop.isDelayedIntra`): for every
    `intra_period_length` and every `pred_struct_period` the hypothesis on the delay rule is discharged — the `end_of_sequence_flag`
    test in `is_delayed_intra` is exactly what prevents the last intra picture of a stream from being parked forever. -/
theorem flush_complete_code (levels : Nat) (lowDelay : Bool) (P : Int) (period : Nat) (split : List Pic → List (List Pic))
    (hsplit : ∀ b, ((split b).flatten).Perm b) (ps : List Pic) (last : Pic) (hlast : last.eos = true) :
    (MiniGop.run levels lowDelay (isDelayedIntra P period) split (ps ++ [last])).sent.Perm (ps ++ [last]) ∧
    (MiniGop.run levels lowDelay (isDelayedIntra P period) split (ps ++ [last])).buf = [] ∧
    (MiniGop.run levels lowDelay (isDelayedIntra P period) split (ps ++ [last])).delayed = none :=
  flush_complete_cand levels lowDelay (isDelayedIntra P period) split hsplit (isDelayedIntra_cand P period) ps last hlast

/-- Non-vacuity / test of `flush_complete_code`: 3 levels (mini-GOP 8), 13 pictures, IDR at 0 and 6 (the second one is delayed
    by `is_delayed_intra` and sent with the next release), EOS on picture 12, the released buffer taken as one mini-GOP in
    reverse (an arbitrary "decode") order: all 13 pictures are sent. -/
example :
    let pics := (List.range 13).map fun k => ({ num := k, idr := k == 0 || k == 6, cra := false, eos := k == 12 } : MiniGop.Pic)
    let r := MiniGop.run 3 false (MiniGop.isDelayedIntra 5 8) (fun b => [b.reverse]) pics
    r.sent.map (·.num) = [0, 5, 4, 3, 2, 1, 6, 12, 11, 10, 9, 8, 7] ∧ r.buf = [] ∧ r.delayed = none := by decide

/-- What the EOS test in `is_delayed_intra` buys: a delay rule WITHOUT it (`fun _ p => p.intra`) strands the last picture of a
    stream that ends on an intra picture — it stays in `prev_delayed_intra`, is never sent, and the stream has no EOS packet. -/
theorem delay_without_eos_test_strands :
    let pics := (List.range 7).map fun k => ({ num := k, idr := k == 0 || k == 6, cra := false, eos := k == 6 } : MiniGop.Pic)
    let r := MiniGop.run 3 false (fun _ p => p.intra) (fun b => [b]) pics
    r.sent.map (·.num) = [0, 1, 2, 3, 4, 5] ∧ (r.delayed.map (·.num)) = some 6 := by decide

end C03
