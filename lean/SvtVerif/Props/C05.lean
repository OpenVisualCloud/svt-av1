/-
  C05 — encoder output independent of thread count / pinning: what the configuration code derives from the core count.

  Model: `Gen/BufCfg.lean`, TRANSLATED (xlate/bufcfg.py, clang AST) from
  `load_default_buffer_configuration_settings` + `set_parent_pcs` (Source/Lib/Encoder/Globals/EbEncHandle.c):
      coreCount lpCount numGroups inp   the local `core_count` (lines 366-374): the only place where
                                        get_num_processors(), num_groups, logical_processors, target_socket enter
      bufCfgCore cc inp : Out           every member the function writes, as a function of `cc` and the members it reads
      bufCfg lp ng inp = bufCfgCore (coreCount lp ng inp) inp
  and the list `geometryAccesses` of every textual access to a core-dependent member elsewhere in Source/Lib/Encoder.

  What is proved here is about that configuration step.  That the *coding* result does not depend on the members of
  `parallelGeometry` is hypothesis H-noread, made checkable by `geometry_reads_classified`, plus C24 (segment grids: every
  grid covers the picture and respects the dependencies) and C23 (pool size does not change FIFO order); the check's
  end-to-end sweep over logical_processors/unpin/target_socket tests it on the real encoder.
-/
import SvtVerif.Gen.BufCfg
import SvtVerif.Lemmas.BufCfg
namespace C05
open Gen.BufCfg CSem BufCfgLemmas

/-- The members that are *allowed* to vary with the core count: segment grids of the picture-level parallel stages
    (ME / EncDec / CDEF / temporal filter), sizes of the picture and buffer pools, and numbers of worker processes.
    NOT in the list, hence proved independent of the core count below: `scd_delay` (changes which
    pictures the scene-change detector sees), the tile-group arrays (derived from `tile_rows` only), the restoration
    segment grid (derived from the picture size only), every inter-process FIFO size, `output_stream_buffer_fifo_init_count`,
    `source_based_operations_process_init_count` (1 on both branches) and `static_config.use_cpu_flags`. -/
def parallelGeometry : List FieldName := [
  -- segment grids
  .me_segment_row_count_array_0, .me_segment_row_count_array_1, .me_segment_row_count_array_2,
  .me_segment_row_count_array_3, .me_segment_row_count_array_4, .me_segment_row_count_array_5,
  .me_segment_column_count_array_0, .me_segment_column_count_array_1, .me_segment_column_count_array_2,
  .me_segment_column_count_array_3, .me_segment_column_count_array_4, .me_segment_column_count_array_5,
  .enc_dec_segment_row_count_array_0, .enc_dec_segment_row_count_array_1, .enc_dec_segment_row_count_array_2,
  .enc_dec_segment_row_count_array_3, .enc_dec_segment_row_count_array_4, .enc_dec_segment_row_count_array_5,
  .enc_dec_segment_col_count_array_0, .enc_dec_segment_col_count_array_1, .enc_dec_segment_col_count_array_2,
  .enc_dec_segment_col_count_array_3, .enc_dec_segment_col_count_array_4, .enc_dec_segment_col_count_array_5,
  .cdef_segment_column_count, .cdef_segment_row_count, .tf_segment_column_count, .tf_segment_row_count,
  -- pool / buffer counts
  .input_buffer_fifo_init_count, .picture_control_set_pool_init_count, .picture_control_set_pool_init_count_child,
  .reference_picture_buffer_init_count, .pa_reference_picture_buffer_init_count, .output_recon_buffer_fifo_init_count,
  .overlay_input_picture_buffer_init_count, .me_pool_init_count,
  -- worker process counts
  .total_process_init_count, .picture_analysis_process_init_count, .motion_estimation_process_init_count,
  .inlme_process_init_count, .mode_decision_configuration_process_init_count, .enc_dec_process_init_count,
  .entropy_coding_process_init_count, .dlf_process_init_count, .cdef_process_init_count, .rest_process_init_count]

/-- The syntactic statement: every member whose translated value mentions `core_count` at all is in the list. -/
theorem core_count_taint_subset_geometry : ∀ f ∈ coreDependent, f ∈ parallelGeometry := by decide +kernel

/-- Semantic non-interference, for ALL values of every member read: two runs of the function body that differ only in the
    value of `core_count` write the same value to every member outside `parallelGeometry`. -/
theorem core_count_only_affects_geometry_core (cc₁ cc₂ : Int) (inp : Inputs) (f : FieldName) (hf : f ∉ parallelGeometry) :
    (bufCfgCore cc₁ inp).get f = (bufCfgCore cc₂ inp).get f := by
  cases f <;> dsimp only [Out.get, bufCfgCore] <;> first | with_reducible rfl | exact absurd (by decide) hf

/-- The same for the whole function: whatever get_num_processors() and num_groups return (any two hosts), the members
    outside `parallelGeometry` get the same values. -/
theorem core_count_only_affects_geometry (lp₁ ng₁ lp₂ ng₂ : Int) (inp : Inputs) (f : FieldName) (hf : f ∉ parallelGeometry) :
    (bufCfg lp₁ ng₁ inp).get f = (bufCfg lp₂ ng₂ inp).get f :=
  core_count_only_affects_geometry_core _ _ inp f hf

example : FieldName.scd_delay ∉ parallelGeometry ∧ FieldName.tile_group_row_count_array_3 ∉ parallelGeometry ∧
    FieldName.rest_segment_row_count ∉ parallelGeometry ∧ FieldName.static_config_use_cpu_flags ∉ parallelGeometry := by decide +kernel

def wit : Inputs :=
  { max_input_luma_width := 1920, max_input_luma_height := 1080, static_config_super_block_size := 64,
    static_config_hierarchical_levels := 5, static_config_frame_rate := 30, input_resolution := 4,
    static_config_look_ahead_distance := 0, static_config_enable_overlays := 1, static_config_tf_level := 1,
    static_config_enable_tpl_la := 0, static_config_intra_period_length := 31 }

/-- The list is tight: every member in it really takes different values for core_count 1 and 16 (on `wit`), so nothing
    is listed that could have been proved independent. -/
theorem parallelGeometry_tight : ∀ f ∈ parallelGeometry, (bufCfgCore 1 wit).get f ≠ (bufCfgCore 16 wit).get f := by decide +kernel

/-- The early-return decision and the return code are the only other outputs; they depend on `cc` only through
    `set_parent_pcs(...) == -1`, which never holds for accepted inputs (`no_early_return` below). -/
theorem bufCfg_factors (lp ng : Int) (inp : Inputs) :
    bufCfg lp ng inp = bufCfgCore (coreCount lp ng inp) inp ∧
    returnCode lp ng inp = returnCodeCore (coreCount lp ng inp) inp ∧
    earlyReturn lp ng inp = earlyReturnCore (coreCount lp ng inp) inp := ⟨rfl, rfl, rfl⟩

/-! ## 2. Inside this function, logical_processors / target_socket / unpin enter only through `coreCount`
   (their uses OUTSIDE the function — thread affinity, and the two places where `logical_processors` itself steers
   coding/scheduling — are in the classified list of section 4) -/

/-- After `core_count` is computed the function never looks at `logical_processors` or `target_socket` again:
    overwriting them changes neither the members written nor the return code. -/
theorem processor_settings_not_read_after_coreCount (cc : Int) (inp : Inputs) (lp' sock' : Int) :
    bufCfgCore cc { inp with static_config_logical_processors := lp', static_config_target_socket := sock' } = bufCfgCore cc inp ∧
    returnCodeCore cc { inp with static_config_logical_processors := lp', static_config_target_socket := sock' } = returnCodeCore cc inp := by
  constructor <;> rfl

/-- Hence two configurations (on possibly different hosts) that differ only in `logical_processors` / `target_socket`
    and arrive at the same core count get exactly the same members. -/
theorem same_coreCount_same_configuration (lp₁ ng₁ lp₂ ng₂ : Int) (inp₁ inp₂ : Inputs)
    (hrest : { inp₂ with static_config_logical_processors := inp₁.static_config_logical_processors,
                         static_config_target_socket := inp₁.static_config_target_socket } = inp₁)
    (hcc : coreCount lp₁ ng₁ inp₁ = coreCount lp₂ ng₂ inp₂) :
    bufCfg lp₁ ng₁ inp₁ = bufCfg lp₂ ng₂ inp₂ := by
  unfold bufCfg
  rw [hcc, ← hrest]
  exact (processor_settings_not_read_after_coreCount _ inp₂ _ _).1

example : coreCount 16 1 { wit with static_config_logical_processors := 4 } =
          coreCount 8 2 { wit with static_config_logical_processors := 0, static_config_target_socket := 1 } := by decide

/-- `unpin` is not read by the function at all (it only selects whether threads get an affinity mask,
    EbEncHandle.c:1803), and `coreCount` reads nothing but the two other settings. -/
theorem unpin_not_read : "static_config_unpin" ∉ inputNames ∧
    coreCountInputNames = ["static_config_target_socket", "static_config_logical_processors"] :=
  ⟨by simp [inputNames], rfl⟩

/-- `core_count` is min(logical_processors, processors available): at least 1 when every processor group has a
    processor, never more than requested, and exactly 1 for `logical_processors = 1` ("lp 1"). -/
theorem coreCount_range (lp ng : Int) (inp : Inputs) (hng : 1 ≤ ng) (hlp : ng ≤ lp) (hlp32 : lp < 4294967296)
    (hs : 0 ≤ inp.static_config_logical_processors) :
    1 ≤ coreCount lp ng inp ∧ coreCount lp ng inp ≤ lp ∧
    (inp.static_config_logical_processors ≠ 0 → coreCount lp ng inp ≤ inp.static_config_logical_processors) ∧
    (inp.static_config_logical_processors = 1 → coreCount lp ng inp = 1) := by
  have hdiv : 1 ≤ lp / ng ∧ lp / ng ≤ lp :=
    ⟨Int.le_ediv_of_mul_le (by omega) (by omega), Int.ediv_le_self _ (by omega)⟩
  unfold coreCount
  bufcfg_unfold_locals
  bufcfg_norm
  omega

/-- `coreCount_range`'s hypotheses at lp 16, ng 2, `wit` -/
example : 1 ≤ (2 : Int) ∧ (2 : Int) ≤ 16 ∧ (16 : Int) < 4294967296 ∧ 0 ≤ wit.static_config_logical_processors := by decide

/-- the part of verify_settings' accepted domain (and of the C types) that the range facts use -/
structure Accepted (inp : Inputs) : Prop where
  width  : 64 ≤ inp.max_input_luma_width ∧ inp.max_input_luma_width ≤ 65535
  height : 64 ≤ inp.max_input_luma_height ∧ inp.max_input_luma_height ≤ 65535
  levels : 0 ≤ inp.static_config_hierarchical_levels ∧ inp.static_config_hierarchical_levels ≤ 5
  lad    : 0 ≤ inp.static_config_look_ahead_distance ∧ inp.static_config_look_ahead_distance ≤ 120
  rate   : 0 ≤ inp.static_config_frame_rate ∧ inp.static_config_frame_rate < 4294967296
  tiles  : 0 ≤ inp.static_config_tile_rows ∧ inp.static_config_tile_rows ≤ 6

example : Accepted wit := by constructor <;> decide

/-- all six temporal layers get the same grid (the arrays are filled cell by cell with one value) -/
theorem segment_arrays_uniform (cc : Int) (inp : Inputs) :
    let o := bufCfgCore cc inp
    (o.enc_dec_segment_row_count_array_1 = o.enc_dec_segment_row_count_array_0 ∧ o.enc_dec_segment_row_count_array_2 = o.enc_dec_segment_row_count_array_0 ∧
     o.enc_dec_segment_row_count_array_3 = o.enc_dec_segment_row_count_array_0 ∧ o.enc_dec_segment_row_count_array_4 = o.enc_dec_segment_row_count_array_0 ∧
     o.enc_dec_segment_row_count_array_5 = o.enc_dec_segment_row_count_array_0) ∧
    (o.enc_dec_segment_col_count_array_1 = o.enc_dec_segment_col_count_array_0 ∧ o.enc_dec_segment_col_count_array_2 = o.enc_dec_segment_col_count_array_0 ∧
     o.enc_dec_segment_col_count_array_3 = o.enc_dec_segment_col_count_array_0 ∧ o.enc_dec_segment_col_count_array_4 = o.enc_dec_segment_col_count_array_0 ∧
     o.enc_dec_segment_col_count_array_5 = o.enc_dec_segment_col_count_array_0) ∧
    (o.me_segment_row_count_array_1 = o.me_segment_row_count_array_0 ∧ o.me_segment_row_count_array_2 = o.me_segment_row_count_array_0 ∧
     o.me_segment_row_count_array_3 = o.me_segment_row_count_array_0 ∧ o.me_segment_row_count_array_4 = o.me_segment_row_count_array_0 ∧
     o.me_segment_row_count_array_5 = o.me_segment_row_count_array_0) ∧
    (o.me_segment_column_count_array_1 = o.me_segment_column_count_array_0 ∧ o.me_segment_column_count_array_2 = o.me_segment_column_count_array_0 ∧
     o.me_segment_column_count_array_3 = o.me_segment_column_count_array_0 ∧ o.me_segment_column_count_array_4 = o.me_segment_column_count_array_0 ∧
     o.me_segment_column_count_array_5 = o.me_segment_column_count_array_0) ∧
    (o.cdef_segment_row_count = o.me_segment_row_count_array_0 ∧ o.cdef_segment_column_count = o.me_segment_column_count_array_0 ∧
     o.tf_segment_row_count = o.me_segment_row_count_array_0 ∧ o.tf_segment_column_count = o.me_segment_column_count_array_0) := by
  intro o
  simp only [o, bufCfgCore, and_self]

/-- EncDec segment grid: at least one row and one column, for EVERY value of core_count and every accepted picture size.
    This discharges the `R ≥ 1`, `C ≥ 1` premises of the C24 theorems for every thread count; the C24 theorems themselves
    hold for every grid, so no further relation between grid and core count is needed. -/
theorem enc_dec_segments_pos (cc : Int) (inp : Inputs) (ha : Accepted inp) :
    1 ≤ (bufCfgCore cc inp).enc_dec_segment_row_count_array_0 ∧ 1 ≤ (bufCfgCore cc inp).enc_dec_segment_col_count_array_0 := by
  have hw := ha.width
  have hh := ha.height
  -- the full-grid count `x` or, for 2 and 3 cores, `MAX(1, x / 2)`
  refine ⟨le_ite (le_cMAX 1 _) ?_, le_ite (le_cMAX 1 _) ?_⟩
  all_goals
    bufcfg_unfold_locals
    bufcfg_norm
    omega

/-- ME / CDEF / temporal-filter grids are 1x1, 1..3 x 1..5 or 6x10; restoration grid 1..4 x 1..6; tile-group rows 1..64. -/
theorem other_segments_pos (cc : Int) (inp : Inputs) (ha : Accepted inp) :
    let o := bufCfgCore cc inp
    (1 ≤ o.me_segment_row_count_array_0 ∧ o.me_segment_row_count_array_0 ≤ 6) ∧
    (1 ≤ o.me_segment_column_count_array_0 ∧ o.me_segment_column_count_array_0 ≤ 10) ∧
    (1 ≤ o.rest_segment_row_count ∧ o.rest_segment_row_count ≤ 4) ∧
    (1 ≤ o.rest_segment_column_count ∧ o.rest_segment_column_count ≤ 6) ∧
    (1 ≤ o.tile_group_row_count_array_0 ∧ o.tile_group_row_count_array_0 ≤ 64) ∧ o.tile_group_col_count_array_0 = 1 := by
  have hw := ha.width
  have hh := ha.height
  have ht := shlRaw_range (a := 1) 6 (by decide) ha.tiles
  intro o
  dsimp only [o, bufCfgCore]
  bufcfg_unfold_members
  bufcfg_unfold_locals
  bufcfg_unfold_conds
  bufcfg_norm
  refine ⟨?_, ?_, ?_, ?_, ?_, trivial⟩ <;> omega

/-- Every stage gets at least one worker process, for every core_count ≥ 1 (32-bit): nothing is left without a thread. -/
theorem process_counts_pos (cc : Int) (inp : Inputs) (hcc : 1 ≤ cc ∧ cc < 4294967296) :
    let o := bufCfgCore cc inp
    1 ≤ o.picture_analysis_process_init_count ∧ 1 ≤ o.motion_estimation_process_init_count ∧
    1 ≤ o.source_based_operations_process_init_count ∧ 1 ≤ o.inlme_process_init_count ∧
    1 ≤ o.mode_decision_configuration_process_init_count ∧ 1 ≤ o.enc_dec_process_init_count ∧
    1 ≤ o.entropy_coding_process_init_count ∧ 1 ≤ o.dlf_process_init_count ∧ 1 ≤ o.cdef_process_init_count ∧
    1 ≤ o.rest_process_init_count := by
  intro o
  -- 1 for one core, else `MAX(MIN(K, core_count >> 1), ·)`
  have proc {K b : Int} (hK : 1 ≤ K := by decide) :
      1 ≤ if decide (cc > 1) then cMAX (cMIN K (shr cc 1)) b else 1 := by
    simp only [cMAX, cMIN, decide_eq_true_eq]
    simp only [shr_lit1]
    omega
  dsimp only [o, bufCfgCore]
  refine ⟨proc, ?_, by decide, proc, proc, proc, proc, proc, proc, proc⟩
  -- motion estimation: below 4 cores `MAX(core_count, ·)` of that
  bufcfg_unfold_members
  bufcfg_unfold_conds
  bufcfg_norm
  omega

/-- `process_counts_pos`'s hypothesis at cc 3 -/
example : (1 : Int) ≤ 3 ∧ (3 : Int) < 4294967296 := by decide

/-- `total_process_init_count` (number of producers of the output-stream FIFO) = the ten per-stage counts + the 6 single
    processes, except for core_count 2 and 3 where lines 624 and 636 both add a motion-estimation count: the total is one
    too large there (harmless over-sizing), shown here on concrete core counts. -/
example : ([1, 2, 3, 4, 8, 16, 48, 224].map fun cc =>
    let o := bufCfgCore cc wit
    o.total_process_init_count - (o.picture_analysis_process_init_count + o.motion_estimation_process_init_count +
      o.source_based_operations_process_init_count + o.inlme_process_init_count +
      o.mode_decision_configuration_process_init_count + o.enc_dec_process_init_count +
      o.entropy_coding_process_init_count + o.dlf_process_init_count + o.cdef_process_init_count +
      o.rest_process_init_count + 6)) = [0, 1, 1, 0, 0, 0, 0, 0] := by decide +kernel

/-- Pools never drop below the minimum the function itself computes for the pipeline to keep flowing (`min_input`,
    `min_parent`, `min_child`, `min_paref`, `min_overlay`, `min_me` — EbEncHandle.c:504-565), for EVERY core_count and
    for ALL input values (no range hypothesis: the final value is either the minimum or `MAX(minimum, ·)`). -/
theorem pool_counts_ge_min (cc : Int) (inp : Inputs) :
    let o := bufCfgCore cc inp
    let l := localsCore cc inp
    l.min_input ≤ o.input_buffer_fifo_init_count ∧ l.min_parent ≤ o.picture_control_set_pool_init_count ∧
    l.min_child ≤ o.picture_control_set_pool_init_count_child ∧ l.min_paref ≤ o.pa_reference_picture_buffer_init_count ∧
    l.min_overlay ≤ o.overlay_input_picture_buffer_init_count ∧ l.min_me ≤ o.me_pool_init_count := by
  have keep {c₁ c₂ : Prop} [Decidable c₁] [Decidable c₂] {m x : Int} :
      m ≤ if c₁ then m else if c₂ then m else cMAX m x :=
    le_ite (Int.le_refl m) (le_ite (Int.le_refl m) (le_cMAX m x))
  exact ⟨keep, keep, keep, keep, keep, le_ite (Int.le_refl _) (le_ite (le_cMAX _ _) (le_cMAX _ _))⟩

/-- The reference-picture pool is at least `min_ref` = 18 for every core_count and every accepted configuration (here a
    range hypothesis is needed: `2 * MAX(...)` is computed in uint32_t).  The recon FIFO is NOT re-synchronised with it on
    the core_count ≥ 3 path (line 575/587 do it for 1 and 2 only): there it keeps the line-494 value, which can be as low
    as 9 = (1 << 0) + 2 + 0 + SCD_LAD; what holds for every core count is `≥ 9`. -/
theorem reference_pool_ge_min (cc : Int) (inp : Inputs) (ha : Accepted inp) :
    let o := bufCfgCore cc inp
    (localsCore cc inp).min_ref = 18 ∧ 18 ≤ o.reference_picture_buffer_init_count ∧ 9 ≤ o.output_recon_buffer_fifo_init_count := by
  -- `x` is the line-488 count
  have shape {c₁ c₂ : Prop} [Decidable c₁] [Decidable c₂] {x : Int} (hx : 9 ≤ x ∧ x ≤ 306) :
      18 ≤ (if c₁ then 18 else if c₂ then 18 else wrapU 32 (2 * cMAX 18 x)) ∧
      9 ≤ (if c₁ then 18 else if c₂ then 18 else x) := by
    refine ⟨le_ite (Int.le_refl _) (le_ite (Int.le_refl _) ?_), le_ite (by decide) (le_ite (by decide) hx.1)⟩
    rw [wrapU32_eq]; unfold cMAX; split <;> omega
  refine ⟨rfl, shape ?_⟩
  -- x = MAX(input_pic >> 1, (1 << levels) + 2) + look_ahead_distance + 6
  have hpp := setParentPcs_range inp.static_config_frame_rate inp.static_config_hierarchical_levels cc inp.input_resolution ha.levels ha.rate
  have hlad := ha.lad
  have hs := shlRaw_range (a := 1) 5 (by decide) ha.levels
  bufcfg_unfold_members
  bufcfg_unfold_locals
  bufcfg_norm
  omega

/-- The early `return EB_ErrorInsufficientResources` (line 391-392) is dead for every accepted configuration and every
    core_count, so `bufCfgCore` describes every real call; the return code is EB_ErrorNone. -/
theorem no_early_return (cc : Int) (inp : Inputs) (ha : Accepted inp) :
    earlyReturnCore cc inp = false ∧ returnCodeCore cc inp = 0 := by
  have hpp := setParentPcs_range inp.static_config_frame_rate inp.static_config_hierarchical_levels cc inp.input_resolution ha.levels ha.rate
  have h1 : earlyReturnCore cc inp = false := by
    dsimp only [earlyReturnCore]
    bufcfg_unfold_conds
    bufcfg_unfold_locals
    simp only [beq_eq_false_iff_ne, ne_eq]
    omega
  refine ⟨h1, ?_⟩
  unfold earlyReturnCore at h1
  unfold returnCodeCore
  rw [h1]
  rfl

/-! ## 4. Every access to a core-dependent member elsewhere in the encoder is classified (H-noread made checkable) -/

inductive ReadClass where
  | alloc           -- sizes an allocation / a constructor argument / a system resource
  | segInit         -- copied into the per-picture segment bookkeeping (grid-independence is C24 / C04's `dag_confluence`)
  | threads         -- thread creation, destruction, affinity
  | copy            -- verbatim copy into another SCS instance / from the API structure
  | init            -- constant initialisation (constructor, library defaults)
  | log             -- printed only
  | validation      -- range check in verify_settings
  | scheduling      -- selects an order of work (decode-order start in the picture manager); bytes must not change (C04)
  | codingDecision  -- selects between two CODING behaviours: a leak of thread geometry into the bitstream
  deriving DecidableEq, Repr

/-- Reviewed allow-list: (file, function, member, read|write) ↦ class.  A new access in the source makes
    `geometry_reads_classified` fail. -/
def allowList : List ((String × String × String × String) × ReadClass) := [
  (("Encoder/Codec/EbDlfProcess.c", "dlf_kernel", "cdef_segment_column_count", "read"), .segInit),
  (("Encoder/Codec/EbDlfProcess.c", "dlf_kernel", "cdef_segment_row_count", "read"), .segInit),
  (("Encoder/Codec/EbEncDecProcess.c", "mode_decision_kernel", "enc_dec_segment_col_count_array", "read"), .codingDecision),
  (("Encoder/Codec/EbEncDecProcess.c", "mode_decision_kernel", "enc_dec_segment_row_count_array", "read"), .codingDecision),
  (("Encoder/Codec/EbPictureDecisionProcess.c", "mctf_frame", "tf_segment_column_count", "read"), .segInit),
  (("Encoder/Codec/EbPictureDecisionProcess.c", "mctf_frame", "tf_segment_row_count", "read"), .segInit),
  (("Encoder/Codec/EbPictureDecisionProcess.c", "picture_decision_kernel", "me_segment_column_count_array", "read"), .segInit),
  (("Encoder/Codec/EbPictureDecisionProcess.c", "picture_decision_kernel", "me_segment_row_count_array", "read"), .segInit),
  (("Encoder/Codec/EbPictureDecisionProcess.c", "process_first_pass_frame", "me_segment_column_count_array", "read"), .segInit),
  (("Encoder/Codec/EbPictureDecisionProcess.c", "process_first_pass_frame", "me_segment_row_count_array", "read"), .segInit),
  (("Encoder/Codec/EbPictureManagerProcess.c", "init_enc_dec_segement", "enc_dec_segment_col_count_array", "read"), .segInit),
  (("Encoder/Codec/EbPictureManagerProcess.c", "init_enc_dec_segement", "enc_dec_segment_row_count_array", "read"), .segInit),
  (("Encoder/Codec/EbSequenceControlSet.c", "copy_sequence_control_set", "cdef_segment_column_count", "read"), .copy),
  (("Encoder/Codec/EbSequenceControlSet.c", "copy_sequence_control_set", "cdef_segment_column_count", "write"), .copy),
  (("Encoder/Codec/EbSequenceControlSet.c", "copy_sequence_control_set", "cdef_segment_row_count", "read"), .copy),
  (("Encoder/Codec/EbSequenceControlSet.c", "copy_sequence_control_set", "cdef_segment_row_count", "write"), .copy),
  (("Encoder/Codec/EbSequenceControlSet.c", "copy_sequence_control_set", "enc_dec_process_init_count", "read"), .copy),
  (("Encoder/Codec/EbSequenceControlSet.c", "copy_sequence_control_set", "enc_dec_process_init_count", "write"), .copy),
  (("Encoder/Codec/EbSequenceControlSet.c", "copy_sequence_control_set", "enc_dec_segment_col_count_array", "read"), .copy),
  (("Encoder/Codec/EbSequenceControlSet.c", "copy_sequence_control_set", "enc_dec_segment_col_count_array", "write"), .copy),
  (("Encoder/Codec/EbSequenceControlSet.c", "copy_sequence_control_set", "enc_dec_segment_row_count_array", "read"), .copy),
  (("Encoder/Codec/EbSequenceControlSet.c", "copy_sequence_control_set", "enc_dec_segment_row_count_array", "write"), .copy),
  (("Encoder/Codec/EbSequenceControlSet.c", "copy_sequence_control_set", "entropy_coding_process_init_count", "read"), .copy),
  (("Encoder/Codec/EbSequenceControlSet.c", "copy_sequence_control_set", "entropy_coding_process_init_count", "write"), .copy),
  (("Encoder/Codec/EbSequenceControlSet.c", "copy_sequence_control_set", "input_buffer_fifo_init_count", "read"), .copy),
  (("Encoder/Codec/EbSequenceControlSet.c", "copy_sequence_control_set", "input_buffer_fifo_init_count", "write"), .copy),
  (("Encoder/Codec/EbSequenceControlSet.c", "copy_sequence_control_set", "me_pool_init_count", "read"), .copy),
  (("Encoder/Codec/EbSequenceControlSet.c", "copy_sequence_control_set", "me_pool_init_count", "write"), .copy),
  (("Encoder/Codec/EbSequenceControlSet.c", "copy_sequence_control_set", "me_segment_column_count_array", "read"), .copy),
  (("Encoder/Codec/EbSequenceControlSet.c", "copy_sequence_control_set", "me_segment_column_count_array", "write"), .copy),
  (("Encoder/Codec/EbSequenceControlSet.c", "copy_sequence_control_set", "me_segment_row_count_array", "read"), .copy),
  (("Encoder/Codec/EbSequenceControlSet.c", "copy_sequence_control_set", "me_segment_row_count_array", "write"), .copy),
  (("Encoder/Codec/EbSequenceControlSet.c", "copy_sequence_control_set", "mode_decision_configuration_process_init_count", "read"), .copy),
  (("Encoder/Codec/EbSequenceControlSet.c", "copy_sequence_control_set", "mode_decision_configuration_process_init_count", "write"), .copy),
  (("Encoder/Codec/EbSequenceControlSet.c", "copy_sequence_control_set", "motion_estimation_process_init_count", "read"), .copy),
  (("Encoder/Codec/EbSequenceControlSet.c", "copy_sequence_control_set", "motion_estimation_process_init_count", "write"), .copy),
  (("Encoder/Codec/EbSequenceControlSet.c", "copy_sequence_control_set", "output_recon_buffer_fifo_init_count", "read"), .copy),
  (("Encoder/Codec/EbSequenceControlSet.c", "copy_sequence_control_set", "output_recon_buffer_fifo_init_count", "write"), .copy),
  (("Encoder/Codec/EbSequenceControlSet.c", "copy_sequence_control_set", "overlay_input_picture_buffer_init_count", "read"), .copy),
  (("Encoder/Codec/EbSequenceControlSet.c", "copy_sequence_control_set", "overlay_input_picture_buffer_init_count", "write"), .copy),
  (("Encoder/Codec/EbSequenceControlSet.c", "copy_sequence_control_set", "pa_reference_picture_buffer_init_count", "read"), .copy),
  (("Encoder/Codec/EbSequenceControlSet.c", "copy_sequence_control_set", "pa_reference_picture_buffer_init_count", "write"), .copy),
  (("Encoder/Codec/EbSequenceControlSet.c", "copy_sequence_control_set", "picture_analysis_process_init_count", "read"), .copy),
  (("Encoder/Codec/EbSequenceControlSet.c", "copy_sequence_control_set", "picture_analysis_process_init_count", "write"), .copy),
  (("Encoder/Codec/EbSequenceControlSet.c", "copy_sequence_control_set", "picture_control_set_pool_init_count", "read"), .copy),
  (("Encoder/Codec/EbSequenceControlSet.c", "copy_sequence_control_set", "picture_control_set_pool_init_count", "write"), .copy),
  (("Encoder/Codec/EbSequenceControlSet.c", "copy_sequence_control_set", "picture_control_set_pool_init_count_child", "read"), .copy),
  (("Encoder/Codec/EbSequenceControlSet.c", "copy_sequence_control_set", "picture_control_set_pool_init_count_child", "write"), .copy),
  (("Encoder/Codec/EbSequenceControlSet.c", "copy_sequence_control_set", "reference_picture_buffer_init_count", "read"), .copy),
  (("Encoder/Codec/EbSequenceControlSet.c", "copy_sequence_control_set", "reference_picture_buffer_init_count", "write"), .copy),
  (("Encoder/Codec/EbSequenceControlSet.c", "copy_sequence_control_set", "tf_segment_column_count", "read"), .copy),
  (("Encoder/Codec/EbSequenceControlSet.c", "copy_sequence_control_set", "tf_segment_column_count", "write"), .copy),
  (("Encoder/Codec/EbSequenceControlSet.c", "copy_sequence_control_set", "tf_segment_row_count", "read"), .copy),
  (("Encoder/Codec/EbSequenceControlSet.c", "copy_sequence_control_set", "tf_segment_row_count", "write"), .copy),
  (("Encoder/Codec/EbSequenceControlSet.c", "copy_sequence_control_set", "total_process_init_count", "read"), .copy),
  (("Encoder/Codec/EbSequenceControlSet.c", "copy_sequence_control_set", "total_process_init_count", "write"), .copy),
  (("Encoder/Codec/EbSequenceControlSet.c", "svt_sequence_control_set_ctor", "enc_dec_segment_col_count_array", "write"), .init),
  (("Encoder/Codec/EbSequenceControlSet.c", "svt_sequence_control_set_ctor", "enc_dec_segment_row_count_array", "write"), .init),
  (("Encoder/Codec/EbSequenceControlSet.c", "svt_sequence_control_set_ctor", "me_segment_column_count_array", "write"), .init),
  (("Encoder/Codec/EbSequenceControlSet.c", "svt_sequence_control_set_ctor", "me_segment_row_count_array", "write"), .init),
  (("Encoder/Globals/EbEncHandle.c", "copy_api_from_app", "logical_processors", "read"), .codingDecision),
  (("Encoder/Globals/EbEncHandle.c", "copy_api_from_app", "logical_processors", "write"), .copy),
  (("Encoder/Globals/EbEncHandle.c", "copy_api_from_app", "target_socket", "read"), .copy),
  (("Encoder/Globals/EbEncHandle.c", "copy_api_from_app", "target_socket", "write"), .copy),
  (("Encoder/Globals/EbEncHandle.c", "copy_api_from_app", "unpin", "read"), .copy),
  (("Encoder/Globals/EbEncHandle.c", "copy_api_from_app", "unpin", "write"), .copy),
  (("Encoder/Globals/EbEncHandle.c", "create_down_scaled_buf_descs", "input_buffer_fifo_init_count", "read"), .alloc),
  (("Encoder/Globals/EbEncHandle.c", "create_pa_ref_buf_descs", "pa_reference_picture_buffer_init_count", "read"), .alloc),
  (("Encoder/Globals/EbEncHandle.c", "create_ref_buf_descs", "reference_picture_buffer_init_count", "read"), .alloc),
  (("Encoder/Globals/EbEncHandle.c", "print_lib_params", "cdef_process_init_count", "read"), .log),
  (("Encoder/Globals/EbEncHandle.c", "print_lib_params", "dlf_process_init_count", "read"), .log),
  (("Encoder/Globals/EbEncHandle.c", "print_lib_params", "enc_dec_process_init_count", "read"), .log),
  (("Encoder/Globals/EbEncHandle.c", "print_lib_params", "enc_dec_segment_col_count_array", "read"), .log),
  (("Encoder/Globals/EbEncHandle.c", "print_lib_params", "enc_dec_segment_row_count_array", "read"), .log),
  (("Encoder/Globals/EbEncHandle.c", "print_lib_params", "entropy_coding_process_init_count", "read"), .log),
  (("Encoder/Globals/EbEncHandle.c", "print_lib_params", "input_buffer_fifo_init_count", "read"), .log),
  (("Encoder/Globals/EbEncHandle.c", "print_lib_params", "me_segment_column_count_array", "read"), .log),
  (("Encoder/Globals/EbEncHandle.c", "print_lib_params", "me_segment_row_count_array", "read"), .log),
  (("Encoder/Globals/EbEncHandle.c", "print_lib_params", "mode_decision_configuration_process_init_count", "read"), .log),
  (("Encoder/Globals/EbEncHandle.c", "print_lib_params", "motion_estimation_process_init_count", "read"), .log),
  (("Encoder/Globals/EbEncHandle.c", "print_lib_params", "pa_reference_picture_buffer_init_count", "read"), .log),
  (("Encoder/Globals/EbEncHandle.c", "print_lib_params", "picture_analysis_process_init_count", "read"), .log),
  (("Encoder/Globals/EbEncHandle.c", "print_lib_params", "picture_control_set_pool_init_count_child", "read"), .log),
  (("Encoder/Globals/EbEncHandle.c", "print_lib_params", "reference_picture_buffer_init_count", "read"), .log),
  (("Encoder/Globals/EbEncHandle.c", "print_lib_params", "rest_process_init_count", "read"), .log),
  (("Encoder/Globals/EbEncHandle.c", "set_param_based_on_input", "logical_processors", "read"), .scheduling),
  (("Encoder/Globals/EbEncHandle.c", "svt_av1_enc_init", "cdef_process_init_count", "read"), .alloc),
  (("Encoder/Globals/EbEncHandle.c", "svt_av1_enc_init", "dlf_process_init_count", "read"), .alloc),
  (("Encoder/Globals/EbEncHandle.c", "svt_av1_enc_init", "enc_dec_process_init_count", "read"), .alloc),
  (("Encoder/Globals/EbEncHandle.c", "svt_av1_enc_init", "enc_dec_segment_col_count_array", "read"), .alloc),
  (("Encoder/Globals/EbEncHandle.c", "svt_av1_enc_init", "enc_dec_segment_row_count_array", "read"), .alloc),
  (("Encoder/Globals/EbEncHandle.c", "svt_av1_enc_init", "entropy_coding_process_init_count", "read"), .alloc),
  (("Encoder/Globals/EbEncHandle.c", "svt_av1_enc_init", "inlme_process_init_count", "read"), .alloc),
  (("Encoder/Globals/EbEncHandle.c", "svt_av1_enc_init", "input_buffer_fifo_init_count", "read"), .alloc),
  (("Encoder/Globals/EbEncHandle.c", "svt_av1_enc_init", "me_pool_init_count", "read"), .alloc),
  (("Encoder/Globals/EbEncHandle.c", "svt_av1_enc_init", "mode_decision_configuration_process_init_count", "read"), .alloc),
  (("Encoder/Globals/EbEncHandle.c", "svt_av1_enc_init", "motion_estimation_process_init_count", "read"), .alloc),
  (("Encoder/Globals/EbEncHandle.c", "svt_av1_enc_init", "output_recon_buffer_fifo_init_count", "read"), .alloc),
  (("Encoder/Globals/EbEncHandle.c", "svt_av1_enc_init", "overlay_input_picture_buffer_init_count", "read"), .alloc),
  (("Encoder/Globals/EbEncHandle.c", "svt_av1_enc_init", "picture_analysis_process_init_count", "read"), .alloc),
  (("Encoder/Globals/EbEncHandle.c", "svt_av1_enc_init", "picture_control_set_pool_init_count", "read"), .alloc),
  (("Encoder/Globals/EbEncHandle.c", "svt_av1_enc_init", "picture_control_set_pool_init_count_child", "read"), .alloc),
  (("Encoder/Globals/EbEncHandle.c", "svt_av1_enc_init", "rest_process_init_count", "read"), .alloc),
  (("Encoder/Globals/EbEncHandle.c", "svt_av1_enc_init", "total_process_init_count", "read"), .alloc),
  (("Encoder/Globals/EbEncHandle.c", "svt_av1_enc_init", "unpin", "read"), .threads),
  (("Encoder/Globals/EbEncHandle.c", "svt_enc_handle_dctor", "cdef_process_init_count", "read"), .threads),
  (("Encoder/Globals/EbEncHandle.c", "svt_enc_handle_dctor", "dlf_process_init_count", "read"), .threads),
  (("Encoder/Globals/EbEncHandle.c", "svt_enc_handle_dctor", "enc_dec_process_init_count", "read"), .threads),
  (("Encoder/Globals/EbEncHandle.c", "svt_enc_handle_dctor", "entropy_coding_process_init_count", "read"), .threads),
  (("Encoder/Globals/EbEncHandle.c", "svt_enc_handle_dctor", "inlme_process_init_count", "read"), .threads),
  (("Encoder/Globals/EbEncHandle.c", "svt_enc_handle_dctor", "mode_decision_configuration_process_init_count", "read"), .threads),
  (("Encoder/Globals/EbEncHandle.c", "svt_enc_handle_dctor", "motion_estimation_process_init_count", "read"), .threads),
  (("Encoder/Globals/EbEncHandle.c", "svt_enc_handle_dctor", "picture_analysis_process_init_count", "read"), .threads),
  (("Encoder/Globals/EbEncHandle.c", "svt_enc_handle_dctor", "rest_process_init_count", "read"), .threads),
  (("Encoder/Globals/EbEncHandle.c", "svt_enc_handle_stop_threads", "cdef_process_init_count", "read"), .threads),
  (("Encoder/Globals/EbEncHandle.c", "svt_enc_handle_stop_threads", "dlf_process_init_count", "read"), .threads),
  (("Encoder/Globals/EbEncHandle.c", "svt_enc_handle_stop_threads", "enc_dec_process_init_count", "read"), .threads),
  (("Encoder/Globals/EbEncHandle.c", "svt_enc_handle_stop_threads", "entropy_coding_process_init_count", "read"), .threads),
  (("Encoder/Globals/EbEncHandle.c", "svt_enc_handle_stop_threads", "inlme_process_init_count", "read"), .threads),
  (("Encoder/Globals/EbEncHandle.c", "svt_enc_handle_stop_threads", "mode_decision_configuration_process_init_count", "read"), .threads),
  (("Encoder/Globals/EbEncHandle.c", "svt_enc_handle_stop_threads", "motion_estimation_process_init_count", "read"), .threads),
  (("Encoder/Globals/EbEncHandle.c", "svt_enc_handle_stop_threads", "picture_analysis_process_init_count", "read"), .threads),
  (("Encoder/Globals/EbEncHandle.c", "svt_enc_handle_stop_threads", "rest_process_init_count", "read"), .threads),
  (("Encoder/Globals/EbEncHandle.c", "svt_set_thread_management_parameters", "logical_processors", "read"), .threads),
  (("Encoder/Globals/EbEncHandle.c", "svt_set_thread_management_parameters", "target_socket", "read"), .threads),
  (("Encoder/Globals/EbEncHandle.c", "svt_svt_enc_init_parameter", "logical_processors", "write"), .init),
  (("Encoder/Globals/EbEncHandle.c", "svt_svt_enc_init_parameter", "target_socket", "write"), .init),
  (("Encoder/Globals/EbEncHandle.c", "svt_svt_enc_init_parameter", "unpin", "write"), .init),
  (("Encoder/Globals/EbEncHandle.c", "verify_settings", "target_socket", "read"), .validation)
  ]

/-- Every access found by the scan is in the reviewed list.  (Both lists are kept in the scan's sort order, so "is a
    sublist of" is a linear walk; a new access anywhere in the source breaks it.) -/
theorem geometry_reads_classified : geometryAccesses.isSublist (allowList.map (·.1)) = true := by decide +kernel

/-- The accesses classified as coding decisions — each is a finding, exercised by the end-to-end sweep — and they are
    really present in the scanned source:
    * EbEncDecProcess.c mode_decision_kernel (l.4468-4470): with `pic_based_rate_est`, CDF propagation is sequential iff
      the EncDec grid is 1x1 — documented "only active with lp 1" (also active for lp 2,3 on small pictures);
    * EbEncHandle.c copy_api_from_app (l.2293): `pic_based_rate_est` is forced to 0 when logical_processors > 1. -/
theorem coding_decision_reads :
    (allowList.filter (·.2 == ReadClass.codingDecision)).map (·.1) =
      [("Encoder/Codec/EbEncDecProcess.c", "mode_decision_kernel", "enc_dec_segment_col_count_array", "read"),
       ("Encoder/Codec/EbEncDecProcess.c", "mode_decision_kernel", "enc_dec_segment_row_count_array", "read"),
       ("Encoder/Globals/EbEncHandle.c", "copy_api_from_app", "logical_processors", "read")] ∧
    ((allowList.filter (·.2 == ReadClass.codingDecision)).all fun e => geometryAccesses.contains e.1) = true := by decide +kernel

/-- …and the one scheduling decision keyed on the setting itself: `logical_processors == 1` turns on decode-order
    starts in the picture manager (EbEncHandle.c set_param_based_on_input, l.2152/2160). -/
theorem scheduling_reads :
    (allowList.filter (·.2 == ReadClass.scheduling)).map (·.1) =
      [("Encoder/Globals/EbEncHandle.c", "set_param_based_on_input", "logical_processors", "read")] := by decide +kernel

/-- The scan covered the three settings and every member of `parallelGeometry` (by C member name). -/
theorem scan_covers_geometry :
    (["logical_processors", "target_socket", "unpin", "me_segment_row_count_array", "me_segment_column_count_array",
      "enc_dec_segment_row_count_array", "enc_dec_segment_col_count_array", "cdef_segment_column_count", "cdef_segment_row_count",
      "tf_segment_column_count", "tf_segment_row_count", "input_buffer_fifo_init_count", "picture_control_set_pool_init_count",
      "picture_control_set_pool_init_count_child", "reference_picture_buffer_init_count", "pa_reference_picture_buffer_init_count",
      "output_recon_buffer_fifo_init_count", "overlay_input_picture_buffer_init_count", "me_pool_init_count",
      "total_process_init_count", "picture_analysis_process_init_count", "motion_estimation_process_init_count",
      "inlme_process_init_count", "mode_decision_configuration_process_init_count", "enc_dec_process_init_count",
      "entropy_coding_process_init_count", "dlf_process_init_count", "cdef_process_init_count", "rest_process_init_count"].all
        fun m => scannedMembers.contains m) = true := by decide +kernel

end C05
