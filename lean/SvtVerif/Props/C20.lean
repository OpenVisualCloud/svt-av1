/-
  C20 — a coding tool the configuration switches OFF never appears in the bitstream; the requested tiling is used.
  The theorems are statements about `Model/ToolGate.lean`, a hand transcription (file:line in the
  model) of the ~40 derivation sites between the configuration and the sequence / frame header writers; a site the
  transcription missed is only caught by the real-encode oracle and the decoder's block counters (checks/c20.py).
  Quantifiers: every theorem holds for ALL presets (`encMode : Int`, not just 0..8), all picture kinds / temporal
  layers / reference flags / screen-content verdicts and all search results (`Pic` is universally quantified).
-/
import SvtVerif.Model.ToolGate
import SvtVerif.Lemmas.ToolGate
import SvtVerif.Lemmas.ToolGateTile

namespace C20
open ToolGate

/-! ## 1. `tool_off_flag_off`: configuration says OFF ⇒ the modelled header says OFF -/

/-- `disable_dlf_flag = 1` ⇒ loop_filter_mode = 0 for every picture and the frame header carries loop-filter
    levels 0 (so the decoder's deblocking is a no-op), whatever svt_av1_pick_filter_level would have picked. -/
theorem tool_off_flag_off_dlf (c : Cfg) (p : Pic) (h : c.disableDlf = 1) :
    loopFilterMode c p = 0 ∧ hdrLf c p = (0, 0, 0, 0) := by
  have h0 : loopFilterMode c p = 0 := by rw [loopFilterMode, h]; rfl
  refine ⟨h0, ?_⟩
  rw [hdrLf, h0]
  exact ite_self _
example : ∃ c : Cfg, c.disableDlf = 1 := ⟨{ disableDlf := 1 }, rfl⟩
/-- ON: the picked levels reach the header (the lemma is not true for a trivial reason). -/
example : hdrLf {} { pickLf := (7, 7, 3, 3) } = (7, 7, 3, 3) := by decide

/-- `cdef_level = 0` ⇒ sequence enable_cdef = 0, picture cdef_level = 0, decoded CDEF strengths all 0. -/
theorem tool_off_flag_off_cdef (c : Cfg) (p : Pic) (h : c.cdefLevel = 0) :
    (∀ s, (seqHdr c s).cdef = 0) ∧ picCdefLevel c p = 0 ∧ hdrCdef c p = (0, [0], [0]) := by
  have hs : seqCdef c = 0 := by rw [seqCdef, h]; rfl
  exact ⟨fun _ => hs, by rw [picCdefLevel, hs]; rfl, by rw [hdrCdef, hs]; rfl⟩
example : ∃ c : Cfg, c.cdefLevel = 0 := ⟨{ cdefLevel := 0 }, rfl⟩
example : hdrCdef {} { pickCdefY := [58], pickCdefUv := [12] } = (0, [58], [12]) := by decide

/-- `enable_restoration_filtering = 0` ⇒ sequence enable_restoration = 0 and every frame_restoration_type NONE. -/
theorem tool_off_flag_off_restoration (c : Cfg) (p : Pic) (h : c.enableRestoration = 0) :
    (∀ s, (seqHdr c s).restoration = 0) ∧ hdrLr c p = (0, 0, 0) := by
  have hs : seqRestoration c = 0 := by rw [seqRestoration, h]; rfl
  exact ⟨fun _ => hs, by rw [hdrLr, hs]; rfl⟩
example : ∃ c : Cfg, c.enableRestoration = 0 := ⟨{ enableRestoration := 0 }, rfl⟩
example : hdrLr { enableRestoration := 1 } { pickLr := (1, 2, 0) } = (1, 2, 0) := by decide

/-- `palette_level = 0` ⇒ the picture palette level and the MD palette level are 0 for every picture and PD pass:
    no palette candidate is injected and `svt_av1_allow_palette` is false where the palette syntax is written.
    (There is no header bit for palette alone: allow_screen_content_tools may still be 1.) -/
theorem tool_off_flag_off_palette (c : Cfg) (p : Pic) (pd : Nat) (h : c.paletteLevel = 0) :
    picPaletteLevel c p = 0 ∧ mdPaletteLevel c p pd = 0 := by
  have h0 : picPaletteLevel c p = 0 := by
    rw [picPaletteLevel, h]
    exact ite_self _
  exact ⟨h0, mdPalette_zero_of_pic_zero c p pd h0⟩
example : ∃ c : Cfg, c.paletteLevel = 0 := ⟨{ paletteLevel := 0 }, rfl⟩
example : picPaletteLevel { screenContentMode := 1 } {} = 6 := by decide

/-- `screen_content_mode = 0` ⇒ allow_screen_content_tools = 0 and allow_intrabc = 0 in every frame and the palette
    level is 0, whatever palette_level / intrabc_mode say. -/
theorem tool_off_flag_off_screen_content (c : Cfg) (p : Pic) (pd : Nat) (h : c.screenContentMode = 0) :
    (frameHdr c p).allowSct = false ∧ (frameHdr c p).allowIntrabc = false ∧ mdPaletteLevel c p pd = 0 := by
  have hs : allowSct c p = false := by rw [allowSct, scDetected, h]; rfl
  refine ⟨hs, by show hdrAllowIntrabc c p = false; rw [hdrAllowIntrabc, hs]; rfl, ?_⟩
  exact mdPalette_zero_of_pic_zero c p pd (palette_zero_of_no_sct c p hs)
example : ∃ c : Cfg, c.screenContentMode = 0 := ⟨{ screenContentMode := 0 }, rfl⟩
example : (frameHdr { screenContentMode := 1 } { iSlice := true, frameType := 0 }).allowIntrabc = true := by decide

/-- `intrabc_mode = 0` ⇒ allow_intrabc = 0 in every frame header (and inside the encoder). -/
theorem tool_off_flag_off_intrabc (c : Cfg) (p : Pic) (h : c.intrabcMode = 0) :
    allowIntrabc c p = false ∧ (frameHdr c p).allowIntrabc = false := by
  have h0 : allowIntrabc c p = false := by
    rw [allowIntrabc, h]
    exact ite_self _
  exact ⟨h0, by show hdrAllowIntrabc c p = false; rw [hdrAllowIntrabc, h0, Bool.and_false]⟩
example : ∃ c : Cfg, c.intrabcMode = 0 := ⟨{ intrabcMode := 0 }, rfl⟩

/-- `enable_global_motion = 0` ⇒ gm level 0 and every reference's global-motion type is IDENTITY in every frame. -/
theorem tool_off_flag_off_global_motion (c : Cfg) (p : Pic) (h : c.enableGlobalMotion = 0) :
    gmLevel c p = 0 ∧ (frameHdr c p).gm = [0, 0, 0, 0, 0, 0, 0] := by
  have h0 : gmLevel c p = 0 := by rw [gmLevel, h]; rfl
  refine ⟨h0, ?_⟩
  show hdrGm c p = _
  rw [hdrGm, h0]
  exact ite_self _
example : ∃ c : Cfg, c.enableGlobalMotion = 0 := ⟨{ enableGlobalMotion := 0 }, rfl⟩
example : (frameHdr {} { pickGm := [2, 0, 0, 3, 0, 0, 0] }).gm = [2, 0, 0, 3, 0, 0, 0] := by decide

/-- `enable_warped_motion = 0` ⇒ sequence enable_warped_motion = 0 and allow_warped_motion = 0 in every frame. -/
theorem tool_off_flag_off_warped_motion (c : Cfg) (p : Pic) (h : c.enableWarpedMotion = 0) :
    (∀ s, (seqHdr c s).warped = 0) ∧ allowWarped c p = false ∧ (frameHdr c p).warped = false := by
  have hw : enableWm c p = false := by rw [enableWm, h]; rfl
  have ha : allowWarped c p = false := by rw [allowWarped, hw]; rfl
  exact ⟨fun _ => by show seqWarped c = 0; rw [seqWarped, h]; rfl, ha,
    by show hdrAllowWarped c p = false; rw [hdrAllowWarped, ha]; rfl⟩
example : ∃ c : Cfg, c.enableWarpedMotion = 0 := ⟨{ enableWarpedMotion := 0 }, rfl⟩
example : (frameHdr {} {}).warped = true := by decide

/-- `obmc_level = 0` ⇒ the MD OBMC level is 0 in every PD pass and is_motion_mode_switchable is exactly
    allow_warped_motion (inter frames): OBMC no longer contributes to it. -/
theorem tool_off_flag_off_obmc (c : Cfg) (p : Pic) (pd : Nat) (h : c.obmcLevel = 0) :
    mdObmcLevel c pd = 0 ∧
    (frameHdr c p).switchable = ((p.frameType == 1 || p.frameType == 3) && allowWarped c p) := by
  have h0 : picObmcLevel c = 0 := by rw [picObmcLevel, h]; rfl
  refine ⟨by rw [mdObmcLevel, h0]; exact ite_self _, ?_⟩
  show hdrSwitchableMotion c p = _
  rw [hdrSwitchableMotion, h0]
  exact congrArg _ (Bool.or_false _)
example : ∃ c : Cfg, c.obmcLevel = 0 := ⟨{ obmcLevel := 0 }, rfl⟩
example : (frameHdr { encMode := 4, enableWarpedMotion := 0 } {}).switchable = true := by decide

/-- OBMC and warped motion both OFF ⇒ is_motion_mode_switchable = 0: no block carries a motion_mode symbol. -/
theorem tool_off_flag_off_motion_modes (c : Cfg) (p : Pic) (ho : c.obmcLevel = 0) (hw : c.enableWarpedMotion = 0) :
    (frameHdr c p).switchable = false := by
  rw [(tool_off_flag_off_obmc c p 2 ho).2, (tool_off_flag_off_warped_motion c p hw).2.1, Bool.and_false]
example : ∃ c : Cfg, c.obmcLevel = 0 ∧ c.enableWarpedMotion = 0 := ⟨{ obmcLevel := 0, enableWarpedMotion := 0 }, rfl, rfl⟩

/-- `filter_intra_level = 0` ⇒ sequence enable_filter_intra = 0 and the MD filter-intra level is 0. -/
theorem tool_off_flag_off_filter_intra (c : Cfg) (pd : Nat) (h : c.filterIntraLevel = 0) :
    (∀ s, (seqHdr c s).filterIntra = 0) ∧ mdFilterIntraLevel c pd = 0 := by
  have h0 : picFilterIntraLevel c = 0 := by rw [picFilterIntraLevel, h]; rfl
  exact ⟨fun _ => by show seqFilterIntra c = 0; rw [seqFilterIntra, h]; rfl,
    by rw [mdFilterIntraLevel, h0]; exact ite_self _⟩
example : ∃ c : Cfg, c.filterIntraLevel = 0 := ⟨{ filterIntraLevel := 0 }, rfl⟩
example : (seqHdr { encMode := 4 } false).filterIntra = 1 := by decide

/-- `inter_intra_compound = 0` ⇒ sequence enable_interintra_compound = 0 and the MD inter-intra level is 0. -/
theorem tool_off_flag_off_inter_intra (c : Cfg) (p : Pic) (pd : Nat) (h : c.interIntraCompound = 0) :
    (∀ s, (seqHdr c s).interintra = 0) ∧ mdInterIntraLevel c p pd = 0 := by
  have hs : seqInterintra c = 0 := by rw [seqInterintra, h]; rfl
  exact ⟨fun _ => hs, by rw [mdInterIntraLevel, hs]; cases p.iSlice <;> rfl⟩
example : ∃ c : Cfg, c.interIntraCompound = 0 := ⟨{ interIntraCompound := 0 }, rfl⟩
example : (seqHdr { encMode := 2 } false).interintra = 1 := by decide

/-- `compound_level = 0` ⇒ sequence enable_masked_compound = enable_jnt_comp = 0 and inter_compound_mode = 0
    (average only: no wedge, no difference-weighted, no distance-weighted compound). -/
theorem tool_off_flag_off_compound (c : Cfg) (pd : Nat) (h : c.compoundLevel = 0) :
    (∀ s, (seqHdr c s).masked = 0 ∧ (seqHdr c s).jntComp = 0) ∧ interCompoundMode c pd = 0 := by
  have hm : compoundMode c = 0 := by rw [compoundMode, h]; rfl
  have hb : (if compoundMode c != 0 then 1 else 0) = 0 := by rw [hm]; rfl
  exact ⟨fun _ => ⟨hb, hb⟩, by rw [interCompoundMode, hm]; rfl⟩
example : ∃ c : Cfg, c.compoundLevel = 0 := ⟨{ compoundLevel := 0 }, rfl⟩
example : (seqHdr {} false).masked = 1 := by decide

/-- `superres_mode = 0` ⇒ sequence enable_superres = 0 and use_superres = 0 in every frame, even if the picture
    bookkeeping claimed a scaled frame. -/
theorem tool_off_flag_off_superres (c : Cfg) (p : Pic) (h : c.superresMode = 0) :
    (∀ s, (seqHdr c s).superres = 0) ∧ (frameHdr c p).useSuperres = false := by
  exact ⟨fun s => by show seqSuperres c s = 0; rw [seqSuperres, h]; rfl,
    by show hdrUseSuperres c p = false; rw [hdrUseSuperres, h]; rfl⟩
example : ∃ c : Cfg, c.superresMode = 0 := ⟨{ superresMode := 0 }, rfl⟩
example : (seqHdr { superresMode := 1 } true).superres = 1 := by decide

/-- `disable_cfl_flag = 1` ⇒ the CfL-disable local of every intra-candidate injector is true for every block size and
    either value of md_disable_cfl: no candidate ever gets UV_CFL_PRED. -/
theorem tool_off_flag_off_cfl (c : Cfg) (blkMax : Nat) (md : Bool) (h : c.disableCfl = 1) :
    cflDisabled c blkMax md = true := by
  unfold cflDisabled
  cases md <;> by_cases hb : blkMax > 32 <;> simp [h, hb, truthy_one, one_bne_default]
example : ∃ c : Cfg, c.disableCfl = 1 := ⟨{ disableCfl := 1 }, rfl⟩
example : cflDisabled {} 16 false = false := by decide

/-- `enable_intra_edge_filter = 0` ⇒ sequence enable_intra_edge_filter = 0. -/
theorem tool_off_flag_off_intra_edge (c : Cfg) (h : c.enableIntraEdgeFilter = 0) :
    ∀ s, (seqHdr c s).intraEdge = 0 := fun _ => by show seqIntraEdge c = 0; rw [seqIntraEdge, h]; rfl
example : ∃ c : Cfg, c.enableIntraEdgeFilter = 0 := ⟨{ enableIntraEdgeFilter := 0 }, rfl⟩

/-- `enable_mfmv = 0` ⇒ use_ref_frame_mvs = 0 in every frame (the sequence bit enable_ref_frame_mvs stays 1: it is
    a constant of the encoder, EbSequenceControlSet.c:147). -/
theorem tool_off_flag_off_mfmv (c : Cfg) (p : Pic) (h : c.enableMfmv = 0) : (frameHdr c p).refMvs = false := by
  show hdrUseRefMvs c p = false
  rw [hdrUseRefMvs, mfmvEnabled, h]
  exact ite_self _
example : ∃ c : Cfg, c.enableMfmv = 0 := ⟨{ enableMfmv := 0 }, rfl⟩
example : (frameHdr {} {}).refMvs = true := by decide

/-- The preset-default branch is taken only when the member is DEFAULT: for an explicit 0/1 the sequence bits
    do not depend on the preset. -/
theorem preset_branch_only_when_default (c : Cfg) (m : Int) (s : Bool)
    (h1 : c.filterIntraLevel ≠ DEFAULT) (h2 : c.interIntraCompound ≠ DEFAULT) (h3 : c.enableRestoration ≠ DEFAULT)
    (h4 : c.compoundLevel ≠ DEFAULT) :
    let c' := { c with encMode := m }
    (seqHdr c' s).filterIntra = (seqHdr c s).filterIntra ∧ (seqHdr c' s).interintra = (seqHdr c s).interintra ∧
    (seqHdr c' s).restoration = (seqHdr c s).restoration ∧ (seqHdr c' s).masked = (seqHdr c s).masked := by
  simp [seqHdr, seqFilterIntra, seqInterintra, seqRestoration, compoundMode, h1, h2, h3, h4]
example : ∃ c : Cfg, c.filterIntraLevel ≠ DEFAULT ∧ c.interIntraCompound ≠ DEFAULT ∧ c.enableRestoration ≠ DEFAULT ∧
    c.compoundLevel ≠ DEFAULT :=
  ⟨{ filterIntraLevel := 1, interIntraCompound := 0, enableRestoration := 1, compoundLevel := 2 }, by decide⟩

/-! ## 2. `flag_off_block_off`: the AV1 block syntax has no element for a tool whose header flag is 0 -/

/-- Statement about the specification table `mayBePresent`: with the header flag of a tool at 0 a conforming block
    parser reports "not used" for that tool in every block, whatever bits follow in the tile data. -/
theorem flag_off_block_off (f : Flags) (coded : Elem → Nat) :
    (f.seqFilterIntra = false → decodedUse f coded .useFilterIntra = 0) ∧
    (f.allowSct = false → decodedUse f coded .hasPaletteY = 0 ∧ decodedUse f coded .hasPaletteUv = 0) ∧
    (f.allowIntrabc = false → decodedUse f coded .useIntrabc = 0) ∧
    (f.seqInterintra = false → decodedUse f coded .interintra = 0) ∧
    (f.switchableMotion = false → decodedUse f coded .motionModeObmc = 0 ∧ decodedUse f coded .motionModeWarp = 0) ∧
    (f.allowWarped = false → decodedUse f coded .motionModeWarp = 0) ∧
    (f.seqMasked = false → decodedUse f coded .compGroupIdx = 0) ∧
    (f.seqJntComp = false → decodedUse f coded .compoundIdx = 0) ∧
    (f.seqCdef = false → decodedUse f coded .cdefIdx = 0 ∧ cdefApplied f = false) ∧
    (f.cdefStrengthsAllZero = true → cdefApplied f = false) ∧
    (f.lrTypeNonNone = false → decodedUse f coded .lrUnit = 0) := by
  refine ⟨?_, ?_, ?_, ?_, ?_, ?_, ?_, ?_, ?_, ?_, ?_⟩ <;> intro h <;>
    simp [decodedUse, mayBePresent, cdefApplied, h]
example : ∃ f : Flags, f.seqFilterIntra = false ∧ f.allowSct = false := ⟨default, rfl, rfl⟩
example : decodedUse { (default : Flags) with allowSct := true } (fun _ => 1) .hasPaletteY = 1 := by decide

/-- Chroma-from-luma has no sequence- or frame-level gate in AV1: header inspection can never show that CfL is off.
    (That is why the check needs the decoder's per-block counter for `disable_cfl_flag`.) -/
theorem cfl_has_no_header_gate (f : Flags) : mayBePresent f .cflAlphas = true := rfl

/-- Palette alone has no header gate either: with screen content tools on and `palette_level = 0` the palette
    syntax may still be present in blocks; only the MD gate (tool_off_flag_off_palette) keeps it unused. -/
theorem palette_off_not_visible_in_headers :
    ∃ c : Cfg, ∃ p : Pic, c.paletteLevel = 0 ∧ mayBePresent (flagsOf c p false) .hasPaletteY = true :=
  ⟨{ paletteLevel := 0, screenContentMode := 1 }, {}, rfl, by decide⟩

/-- End to end on the model: switch OFF ⇒ headers ⇒ no block of any frame can use the tool (for the tools that DO
    have a header gate). -/
theorem tool_off_block_off (c : Cfg) (p : Pic) (s : Bool) (coded : Elem → Nat) :
    (c.filterIntraLevel = 0 → decodedUse (flagsOf c p s) coded .useFilterIntra = 0) ∧
    (c.intrabcMode = 0 → decodedUse (flagsOf c p s) coded .useIntrabc = 0) ∧
    (c.screenContentMode = 0 → decodedUse (flagsOf c p s) coded .hasPaletteY = 0 ∧
        decodedUse (flagsOf c p s) coded .hasPaletteUv = 0 ∧ decodedUse (flagsOf c p s) coded .useIntrabc = 0) ∧
    (c.interIntraCompound = 0 → decodedUse (flagsOf c p s) coded .interintra = 0) ∧
    (c.enableWarpedMotion = 0 → decodedUse (flagsOf c p s) coded .motionModeWarp = 0) ∧
    (c.obmcLevel = 0 → c.enableWarpedMotion = 0 → decodedUse (flagsOf c p s) coded .motionModeObmc = 0) ∧
    (c.compoundLevel = 0 → decodedUse (flagsOf c p s) coded .compGroupIdx = 0 ∧
        decodedUse (flagsOf c p s) coded .compoundIdx = 0) ∧
    (c.cdefLevel = 0 → decodedUse (flagsOf c p s) coded .cdefIdx = 0 ∧ cdefApplied (flagsOf c p s) = false) ∧
    (c.enableRestoration = 0 → decodedUse (flagsOf c p s) coded .lrUnit = 0) := by
  obtain ⟨fi, sct, ibc, ii, sw, wm, mk, jc, cd, _, lr⟩ := flag_off_block_off (flagsOf c p s) coded
  refine ⟨fun h => fi ?_, fun h => ibc ?_, fun h => ?_, fun h => ii ?_, fun h => wm ?_, fun ho hw => (sw ?_).1,
    fun h => ?_, fun h => cd ?_, fun h => lr ?_⟩
  · exact bne_eq_false_iff_eq.2 ((tool_off_flag_off_filter_intra c 2 h).1 s)
  · exact (tool_off_flag_off_intrabc c p h).2
  · have t := tool_off_flag_off_screen_content c p 2 h
    exact ⟨(sct t.1).1, (sct t.1).2, ibc t.2.1⟩
  · exact bne_eq_false_iff_eq.2 ((tool_off_flag_off_inter_intra c p 2 h).1 s)
  · exact (tool_off_flag_off_warped_motion c p h).2.2
  · exact tool_off_flag_off_motion_modes c p ho hw
  · have t := (tool_off_flag_off_compound c 2 h).1 s
    exact ⟨mk (bne_eq_false_iff_eq.2 t.1), jc (bne_eq_false_iff_eq.2 t.2)⟩
  · exact bne_eq_false_iff_eq.2 ((tool_off_flag_off_cdef c p h).1 s)
  · exact bne_eq_false_iff_eq.2 (tool_off_flag_off_restoration c p h).2
example : ∃ c : Cfg, c.filterIntraLevel = 0 ∧ c.cdefLevel = 0 := ⟨{ filterIntraLevel := 0, cdefLevel := 0 }, rfl, rfl⟩


/-! ## 3. `tile_info_spec`: the tile layout the encoder signals -/

/-- For ALL frame sizes (in mi units, ≥ 1), SB sizes and requested log2 values, by arithmetic (no enumeration):
    * the signalled log2 values are the requested ones clamped to the limits of AV1 5.9.15
      (maxLog2 = tile_log2(1, min(sb count, 64)), minLog2TileCols = tile_log2(maxTileWidthSb, sbCols),
       rows bounded below by max(minLog2Tiles − TileColsLog2, 0));
    * the uniform layout has at most 2^k tiles per dimension and more than 2^(k−1) (so tile_log2(1, count) = k: a
      decoder that recomputes the log2 from the count gets the signalled value);
    * every tile is non-empty and at most the nominal size, the widths sum to the frame width in SBs (no SB is
      lost or covered twice), starts are the multiples of the nominal size. -/
theorem tile_info_spec (miCols miRows log2Sb reqCols reqRows : Nat) (hc : 1 ≤ miCols) (hr : 1 ≤ miRows) :
    let L := tileLimits miCols miRows log2Sb
    let t := tileInfo miCols miRows log2Sb reqCols reqRows
    t.colsLog2 = min (max reqCols L.minLog2Cols) L.maxLog2Cols ∧
    t.rowsLog2 = min (max reqRows (L.minLog2Tiles - t.colsLog2)) L.maxLog2Rows ∧
    L.maxLog2Cols = tileLog2 1 (min L.sbCols 64) ∧ L.maxLog2Rows = tileLog2 1 (min L.sbRows 64) ∧
    L.minLog2Cols = tileLog2 L.maxTileWidthSb L.sbCols ∧
    t.tileCols ≤ 2 ^ t.colsLog2 ∧ t.tileRows ≤ 2 ^ t.rowsLog2 ∧
    1 ≤ t.tileCols ∧ 1 ≤ t.tileRows ∧
    tileLog2 1 t.tileCols = t.colsLog2 ∧ tileLog2 1 t.tileRows = t.rowsLog2 ∧
    (∀ w ∈ tileWidths L.sbCols t.colsLog2, 1 ≤ w ∧ w ≤ t.colSizeSb) ∧ (tileWidths L.sbCols t.colsLog2).sum = L.sbCols ∧
    (∀ w ∈ tileWidths L.sbRows t.rowsLog2, 1 ≤ w ∧ w ≤ t.rowSizeSb) ∧ (tileWidths L.sbRows t.rowsLog2).sum = L.sbRows ∧
    t.colStartsSb = (List.range t.tileCols).map (· * t.colSizeSb) ∧
    t.rowStartsSb = (List.range t.tileRows).map (· * t.rowSizeSb) := by
  intro L t
  obtain ⟨c1, c2, c3, c4, c5, c6⟩ := uniform_layout L.sbCols t.colsLog2 (sbCount_pos miCols log2Sb hc) (clampLog2_le_hi _ _ _)
  obtain ⟨r1, r2, r3, r4, r5, r6⟩ := uniform_layout L.sbRows t.rowsLog2 (sbCount_pos miRows log2Sb hr) (clampLog2_le_hi _ _ _)
  exact ⟨rfl, rfl, rfl, rfl, rfl, c1, r1, c2, r2, c3, r3, c4, c5, r4, r5, c6, r6⟩
example : ∃ a b : Nat, 1 ≤ a ∧ 1 ≤ b := ⟨1, 1, by decide, by decide⟩
/-- 640x384, 64x64 SBs, request 4 x 2 tiles: granted, 10 SB columns split 3+3+3+1. -/
example : (tileInfo (miOf 640) (miOf 384) 4 2 1).colStartsSb = [0, 3, 6, 9] ∧
    (tileInfo (miOf 640) (miOf 384) 4 2 1).tileRows = 2 := by decide
/-- 320 wide = 5 SB columns, request 4 columns: log2 stays 2 but only 3 tiles exist (2+2+1). -/
example : (tileInfo (miOf 320) (miOf 384) 4 2 0).colsLog2 = 2 ∧ (tileInfo (miOf 320) (miOf 384) 4 2 0).tileCols = 3 := by decide

/-- "The bitstream signals the tile layout requested by the configuration, limited only by the frame size":
    when the frame is no wider than one maximal tile and no larger than one maximal tile area (always the case for the
    sizes the API accepts, see `api_sizes_need_no_minimum_tiling`), the signalled log2 values are min(requested,
    maxLog2); if in addition the frame has at least 2^requested SBs in that dimension the request is granted as is,
    and if 2^requested divides the SB count the layout has exactly 2^requested equal tiles. -/
theorem tile_requested_used (miCols miRows log2Sb reqCols reqRows : Nat) (hc : 1 ≤ miCols) (hr : 1 ≤ miRows)
    (hw : (tileLimits miCols miRows log2Sb).sbCols ≤ (tileLimits miCols miRows log2Sb).maxTileWidthSb)
    (ha : (tileLimits miCols miRows log2Sb).sbCols * (tileLimits miCols miRows log2Sb).sbRows ≤
          MAX_TILE_AREA / 2 ^ (2 * (log2Sb + 2))) :
    let L := tileLimits miCols miRows log2Sb
    let t := tileInfo miCols miRows log2Sb reqCols reqRows
    t.colsLog2 = min reqCols L.maxLog2Cols ∧ t.rowsLog2 = min reqRows L.maxLog2Rows ∧
    minLog2RowsSpec miCols miRows log2Sb reqCols = 0 ∧
    (2 ^ reqCols ≤ min L.sbCols 64 → t.colsLog2 = reqCols) ∧
    (2 ^ reqRows ≤ min L.sbRows 64 → t.rowsLog2 = reqRows) ∧
    (2 ^ reqCols ≤ min L.sbCols 64 → 2 ^ reqCols ∣ L.sbCols → t.tileCols = 2 ^ reqCols) ∧
    (2 ^ reqRows ≤ min L.sbRows 64 → 2 ^ reqRows ∣ L.sbRows → t.tileRows = 2 ^ reqRows) := by
  intro L t
  have hminc : L.minLog2Cols = 0 := minLog2Cols_zero miCols miRows log2Sb hw
  have hmint : L.minLog2Tiles = 0 := by
    show max (tileLog2 (MAX_TILE_AREA / 2 ^ (2 * (log2Sb + 2))) (L.sbCols * L.sbRows)) L.minLog2Cols = 0
    rw [tileLog2_eq_zero_of_le _ _ ha, hminc]; rfl
  have hrows : L.minLog2Tiles - t.colsLog2 = 0 := by rw [hmint, Nat.zero_sub]
  obtain ⟨c1, c2, c3⟩ := requested_layout L.sbCols reqCols L.minLog2Cols (sbCount_pos miCols log2Sb hc) (hminc ▸ Nat.zero_le _)
  obtain ⟨r1, r2, r3⟩ := requested_layout L.sbRows reqRows _ (sbCount_pos miRows log2Sb hr) (hrows ▸ Nat.zero_le _)
  exact ⟨c1, r1, hrows, c2, r2, c3, r3⟩
example : (tileLimits (miOf 1920) (miOf 1080) 4).sbCols ≤ (tileLimits (miOf 1920) (miOf 1080) 4).maxTileWidthSb ∧
    (tileLimits (miOf 1920) (miOf 1080) 4).sbCols * (tileLimits (miOf 1920) (miOf 1080) 4).sbRows ≤
      MAX_TILE_AREA / 2 ^ (2 * (4 + 2)) := by decide

/-- Every picture size the API accepts (width ≤ 4096, height ≤ 2160; verify_settings, EbEncHandle.c) satisfies the two
    hypotheses of `tile_requested_used`, for both superblock sizes: no minimum tiling is ever forced, and the row
    increment bits that write_tile_info_max_tile counts from 0 (its min_log2_tile_rows was just reset by
    svt_av1_get_tile_limits, EbEntropyCoding.c:3001/:3123) are what a decoder counting from
    max(minLog2Tiles − TileColsLog2, 0) expects. -/
theorem api_sizes_need_no_minimum_tiling (w h log2Sb : Nat) (hw : w ≤ 4096) (hh : h ≤ 2160)
    (hs : log2Sb = 4 ∨ log2Sb = 5) :
    let L := tileLimits (miOf w) (miOf h) log2Sb
    L.sbCols ≤ L.maxTileWidthSb ∧ L.sbCols * L.sbRows ≤ MAX_TILE_AREA / 2 ^ (2 * (log2Sb + 2)) := by
  intro L
  -- superblock counts are monotone in the picture size: evaluate at the largest
  have hc : L.sbCols ≤ sbCount (miOf 4096) log2Sb := sbCount_mono log2Sb (miOf_mono hw)
  have hr : L.sbRows ≤ sbCount (miOf 2160) log2Sb := sbCount_mono log2Sb (miOf_mono hh)
  rcases hs with rfl | rfl
  · exact ⟨Nat.le_trans hc (by decide : _ ≤ MAX_TILE_WIDTH / 2 ^ (4 + 2)), Nat.le_trans (Nat.mul_le_mul hc hr) (by decide)⟩
  · exact ⟨Nat.le_trans hc (by decide : _ ≤ MAX_TILE_WIDTH / 2 ^ (5 + 2)), Nat.le_trans (Nat.mul_le_mul hc hr) (by decide)⟩
example : ∃ w h : Nat, w ≤ 4096 ∧ h ≤ 2160 := ⟨1920, 1080, by decide, by decide⟩
/-- The excluded point (not reachable through the API: height ≤ 2160): at 4096x4096 a decoder expects the row
    increments to start at 1, the writer starts at 0 — the model keeps the discrepancy visible. -/
example : minLog2RowsSpec (miOf 4096) (miOf 4096) 4 0 = 1 := by decide

end C20
