/-
  C26 — reported per-frame distortion statistics (`stat_report`) are exact.

  Property theorems about the model of `psnr_calculations` (Model/Sse.lean; EbEncDecProcess.c l.967-1451):
  the value stored in `luma_sse / cb_sse / cr_sse` is the sum of squared differences between the chosen
  source and the chosen reconstruction over the visible (unpadded) `w × h` window, truncated to 32 bits —
  for ALL sizes, origins, strides and padding contents; the 64-bit accumulator never wraps, so the
  `(uint32_t)` cast is the only truncation; the buffers chosen are the pre-filter source and the buffer
  `recon_output` hands out.

  What ties "chosen reconstruction" to "the picture decoded from that packet" is C01 (recon == decode) and
  is checked here only empirically (checks/c26.py compares with the REAL decoder's output).
-/
import SvtVerif.Model.Sse
import SvtVerif.Lemmas.Sse

namespace C26
open Sse Finset

/-- (8-bit path) For every size `w × h`, every origin and stride of either buffer and whatever lies
    outside the visible window, the value the C code stores in the 32-bit field is
    `(Σ_{y<h, x<w} (src(x,y) − rec(x,y))²) mod 2^32`, where `src(x,y) = inB[inOrg + y·inStride + x]` etc.
    Hypotheses: the samples *inside the window* are `uint8_t` values. -/
theorem sse_spec (inB recB : Buf) (inOrg inStride recOrg recStride w h : Nat)
    (hs : WinLt inB inOrg inStride w h 256) (hr : WinLt recB recOrg recStride w h 256) :
    ((ssePlane inB recB inOrg inStride recOrg recStride w h : Nat) : Int) =
      (∑ y ∈ range h, ∑ x ∈ range w,
        ((inB (inOrg + y * inStride + x) : Int) - (recB (recOrg + y * recStride + x) : Int)) ^ 2) % 2 ^ 32 := by
  rw [ssePlane_mod, ssePlane64_eq _ _ _ _ _ _ _ _ (hs.mono (by decide)) (hr.mono (by decide))]
  exact cast_sum_sq_mod _ _ w h

/- non-vacuity: a 3×2 window at origin 7, pitch 10 of an all-255 source against an all-0 reconstruction at origin 4, pitch 12
    satisfies the hypotheses, and the theorem evaluates the C loops to 6·255². -/
example : ((ssePlane (fun _ => 255) (fun _ => 0) 7 10 4 12 3 2 : Nat) : Int) = 390150 := by
  rw [sse_spec _ _ _ _ _ _ _ _ (fun _ _ _ _ => by decide) (fun _ _ _ _ => by decide)]
  simp

/-- (8-bit path) The `uint64_t residual_distortion` accumulator holds the *exact* sum for every picture
    whose dimensions fit `uint16_t` (the type of `EbPictureBufferDesc.width/height`): `w·h·255² < 2^64`. Hence the only
    truncation between the true SSE and the reported field is the final `(uint32_t)` cast (`ssePlane = toU32 ∘ ssePlane64`). -/
theorem sse64_no_wrap (inB recB : Buf) (inOrg inStride recOrg recStride w h : Nat)
    (hw : w < 2 ^ 16) (hh : h < 2 ^ 16)
    (hs : WinLt inB inOrg inStride w h 256) (hr : WinLt recB recOrg recStride w h 256) :
    ssePlane64 inB recB inOrg inStride recOrg recStride w h =
      ∑ y ∈ range h, ∑ x ∈ range w, sq (inB (inOrg + y * inStride + x)) (recB (recOrg + y * recStride + x)) := by
  rw [ssePlane64_eq _ _ _ _ _ _ _ _ (hs.mono (by decide)) (hr.mono (by decide))]
  exact Nat.mod_eq_of_lt (sum_sq_lt_u64 _ _ w h hw hh (hs.mono (by decide)) (hr.mono (by decide)))

/-- The reported 32-bit value equals the 64-bit sum exactly when that sum is below 2^32;
    otherwise the reported value is strictly smaller (it is the sum mod 2^32). -/
theorem sse_exact_iff (inB recB : Buf) (inOrg inStride recOrg recStride w h : Nat) :
    (ssePlane inB recB inOrg inStride recOrg recStride w h = ssePlane64 inB recB inOrg inStride recOrg recStride w h ↔
      ssePlane64 inB recB inOrg inStride recOrg recStride w h < 2 ^ 32) ∧
    ssePlane inB recB inOrg inStride recOrg recStride w h ≤ ssePlane64 inB recB inOrg inStride recOrg recStride w h := by
  rw [ssePlane_mod]
  exact ⟨⟨fun h1 => h1 ▸ Nat.mod_lt _ (by decide), Nat.mod_eq_of_lt⟩, Nat.mod_le _ _⟩

/-- For pictures with `w·h·255² < 2^32` (e.g. up to 256×258 luma samples) the reported field IS the true SSE. -/
theorem sse_small_exact (inB recB : Buf) (inOrg inStride recOrg recStride w h : Nat)
    (hsmall : h * w * 255 ^ 2 < 2 ^ 32)
    (hs : WinLt inB inOrg inStride w h 256) (hr : WinLt recB recOrg recStride w h 256) :
    ssePlane inB recB inOrg inStride recOrg recStride w h =
      ∑ y ∈ range h, ∑ x ∈ range w, sq (inB (inOrg + y * inStride + x)) (recB (recOrg + y * recStride + x)) := by
  have hb := sum_sq_le (fun y x => inB (inOrg + y * inStride + x)) (fun y x => recB (recOrg + y * recStride + x)) w h 255
    (fun y hy x hx => Nat.le_of_lt_succ (hs y hy x hx)) (fun y hy x hx => Nat.le_of_lt_succ (hr y hy x hx))
  rw [ssePlane_mod, ssePlane64_eq _ _ _ _ _ _ _ _ (hs.mono (by decide)) (hr.mono (by decide)),
    Nat.mod_mod_of_dvd _ (by decide : 2 ^ 32 ∣ 2 ^ 64)]
  exact Nat.mod_eq_of_lt (Nat.lt_of_le_of_lt hb hsmall)

/- non-vacuity: 200×120 all-255 vs all-0 is below the threshold and reports 200·120·255². -/
example : ssePlane (fun _ => 255) (fun _ => 0) 5 300 9 264 200 120 = 1560600000 := by
  rw [sse_small_exact _ _ _ _ _ _ _ _ (by decide) (fun _ _ _ _ => by decide) (fun _ _ _ _ => by decide)]
  rw [sum_window_const]
  decide

/-- The 32-bit truncation does bite inside the supported picture sizes: for a 4096×2160
    plane with source 255 and reconstruction 0 everywhere the true SSE is 575 299 584 000 ≥ 2^32 and the reported
    field is that number mod 2^32 = 4 068 933 632 (so an application that reads the field as "the SSE" is off by 133·2^32). -/
theorem sse_truncation_witness :
    ssePlane (fun _ => 255) (fun _ => 0) 0 4096 0 4096 4096 2160 = 4068933632 ∧
    ssePlane64 (fun _ => 255) (fun _ => 0) 0 4096 0 4096 4096 2160 = 575299584000 ∧
    (575299584000 : Nat) = 133 * 2 ^ 32 + 4068933632 := by
  have h64 : ssePlane64 (fun _ => 255) (fun _ => 0) 0 4096 0 4096 4096 2160 = 575299584000 := by
    rw [sse64_no_wrap _ _ _ _ _ _ _ _ (by decide) (by decide) (fun _ _ _ _ => by decide) (fun _ _ _ _ => by decide)]
    rw [sum_window_const]
    decide
  refine ⟨?_, h64, by decide⟩
  rw [ssePlane_mod, h64]
  decide

/- non-vacuity of `sse64_no_wrap`: 4096×2160, all-255 against all-0: the 64-bit accumulator holds 4096·2160·255² exactly. -/
example : ssePlane64 (fun _ => 255) (fun _ => 0) 0 4096 0 4096 4096 2160 = 575299584000 :=
  sse_truncation_witness.2.1

/-- Independence of strides, origins and padding contents — with *no* assumption on sample ranges:
    two (source, reconstruction) buffer pairs, each with its own origin and stride, that agree on the visible `w × h`
    window give the same 64-bit accumulator and the same reported value. -/
theorem sse_window_only (inB recB inB' recB' : Buf)
    (inOrg inStride recOrg recStride inOrg' inStride' recOrg' recStride' w h : Nat)
    (hsrc : ∀ y, y < h → ∀ x, x < w → inB (inOrg + y * inStride + x) = inB' (inOrg' + y * inStride' + x))
    (hrec : ∀ y, y < h → ∀ x, x < w → recB (recOrg + y * recStride + x) = recB' (recOrg' + y * recStride' + x)) :
    ssePlane64 inB recB inOrg inStride recOrg recStride w h = ssePlane64 inB' recB' inOrg' inStride' recOrg' recStride' w h ∧
    ssePlane inB recB inOrg inStride recOrg recStride w h = ssePlane inB' recB' inOrg' inStride' recOrg' recStride' w h := by
  have h64 := ssePlane64_congr inB recB inB' recB' inOrg inStride recOrg recStride inOrg' inStride' recOrg' recStride' w h hsrc hrec
  exact ⟨h64, congrArg toU32 h64⟩

/- non-vacuity: a tightly packed 2×2 picture and the same picture embedded at origin 3 with pitch 5 in a buffer full of other
    values (`if` chain) agree on the window, so they report the same SSE against any common reconstruction. -/
example (recB : Buf) :
    ssePlane (fun i => [10, 20, 30, 40].getD i 0) recB 0 2 0 2 2 2 =
    ssePlane (fun i => [9, 9, 9, 10, 20, 77, 78, 79, 30, 40, 99].getD i 0) recB 3 5 0 2 2 2 := by
  refine (sse_window_only _ _ _ _ _ _ _ _ _ _ _ _ 2 2 ?_ (fun _ _ _ _ => rfl)).2
  intro y hy x hx
  have : y = 0 ∨ y = 1 := by omega
  have : x = 0 ∨ x = 1 := by omega
  rcases ‹y = 0 ∨ y = 1› with rfl | rfl <;> rcases ‹x = 0 ∨ x = 1› with rfl | rfl <;> rfl

/-- (unpacked 16-bit path, l.1320-1449) Same statement for the high-bit-depth path: the source sample is
    assembled as `4·msb + (inc / 64) mod 4` from the 8-MSB plane and the bit-increment plane (each with its own origin
    and stride), the reconstruction is a `uint16_t` plane. -/
theorem sse_spec16 (inB incB recB : Buf) (inOrg inStride incOrg incStride recOrg recStride w h : Nat)
    (hs : WinLt inB inOrg inStride w h 256) (hr : WinLt recB recOrg recStride w h (2 ^ 16)) :
    ((ssePlane16 inB incB recB inOrg inStride incOrg incStride recOrg recStride w h : Nat) : Int) =
      (∑ y ∈ range h, ∑ x ∈ range w,
        (((4 * inB (inOrg + y * inStride + x) + incB (incOrg + y * incStride + x) / 64 % 4 : Nat) : Int)
          - (recB (recOrg + y * recStride + x) : Int)) ^ 2) % 2 ^ 32 := by
  rw [ssePlane16_mod, ssePlane64_16_eq _ _ _ _ _ _ _ _ _ _ _ hs hr]
  exact cast_sum_sq_mod _ _ w h

/- non-vacuity: msb 255, increment byte 0xC0 (two LSBs = 3) gives the 10-bit sample 1023; against reconstruction 0 on a 3×2 window. -/
example : ((ssePlane16 (fun _ => 255) (fun _ => 192) (fun _ => 0) 7 10 2 9 4 12 3 2 : Nat) : Int) = 6279174 := by
  rw [sse_spec16 _ _ _ _ _ _ _ _ _ _ _ (fun _ _ _ _ => by decide) (fun _ _ _ _ => by decide)]
  simp

/-- No wrap of the 64-bit accumulator in the 16-bit path either (`w·h·65535² < 2^64` for `uint16_t` dimensions). -/
theorem sse64_no_wrap16 (inB incB recB : Buf) (inOrg inStride incOrg incStride recOrg recStride w h : Nat)
    (hw : w < 2 ^ 16) (hh : h < 2 ^ 16)
    (hs : WinLt inB inOrg inStride w h 256) (hr : WinLt recB recOrg recStride w h (2 ^ 16)) :
    ssePlane64_16 inB incB recB inOrg inStride incOrg incStride recOrg recStride w h =
      ∑ y ∈ range h, ∑ x ∈ range w,
        sq (4 * inB (inOrg + y * inStride + x) + incB (incOrg + y * incStride + x) / 64 % 4) (recB (recOrg + y * recStride + x)) := by
  rw [ssePlane64_16_eq _ _ _ _ _ _ _ _ _ _ _ hs hr]
  exact Nat.mod_eq_of_lt (sum_sq_lt_u64 _ _ w h hw hh (fun y hy x hx => by have := hs y hy x hx; omega) hr)

example : ssePlane64_16 (fun _ => 255) (fun _ => 192) (fun _ => 0) 0 4096 0 4096 0 4096 4096 2160 = 4096 * 2160 * 1023 ^ 2 := by
  rw [sse64_no_wrap16 _ _ _ _ _ _ _ _ _ _ _ (by decide) (by decide) (fun _ _ _ _ => by decide) (fun _ _ _ _ => by decide)]
  rw [sum_window_const]
  decide

/-- The picture-level function measures, plane by plane, the *chosen* source planes against the *chosen*
    reconstruction, over `(width − max_input_pad_right) × (height − max_input_pad_bottom)` luma samples and that size
    `>> ss_x`, `>> ss_y` for Cb and Cr, starting at `origin_x + origin_y·stride` (chroma: `origin_x/2 + origin_y/2·stride`);
    Cb is computed from the Cb buffers into the second component and Cr into the third (no swap). -/
theorem psnr8_planes (p : Pcs) (s : Scs) :
    psnr8 p s =
      ( ssePlane (chooseSrc p).y (chooseRecon p).bufY
          (p.enhancedUnscaled.originX + p.enhancedUnscaled.originY * p.enhancedUnscaled.strideY) p.enhancedUnscaled.strideY
          ((chooseRecon p).originX + (chooseRecon p).originY * (chooseRecon p).strideY) (chooseRecon p).strideY
          (p.enhancedUnscaled.width - s.maxInputPadRight) (p.enhancedUnscaled.height - s.maxInputPadBottom),
        ssePlane (chooseSrc p).cb (chooseRecon p).bufCb
          (p.enhancedUnscaled.originX / 2 + p.enhancedUnscaled.originY / 2 * p.enhancedUnscaled.strideCb) p.enhancedUnscaled.strideCb
          ((chooseRecon p).originX / 2 + (chooseRecon p).originY / 2 * (chooseRecon p).strideCb) (chooseRecon p).strideCb
          ((p.enhancedUnscaled.width - s.maxInputPadRight) / 2 ^ s.ssX) ((p.enhancedUnscaled.height - s.maxInputPadBottom) / 2 ^ s.ssY),
        ssePlane (chooseSrc p).cr (chooseRecon p).bufCr
          (p.enhancedUnscaled.originX / 2 + p.enhancedUnscaled.originY / 2 * p.enhancedUnscaled.strideCr) p.enhancedUnscaled.strideCr
          ((chooseRecon p).originX / 2 + (chooseRecon p).originY / 2 * (chooseRecon p).strideCr) (chooseRecon p).strideCr
          ((p.enhancedUnscaled.width - s.maxInputPadRight) / 2 ^ s.ssX) ((p.enhancedUnscaled.height - s.maxInputPadBottom) / 2 ^ s.ssY) ) := by
  simp only [psnr8, lumaW, lumaH, chromaW, chromaH, Nat.shiftRight_eq_div_pow]

/-- With `stat_report` the packet carries exactly the three values of the picture's own PCS, in the order
    (luma, cb, cr); without it, zeros (EbPacketizationProcess.c l.686-700). -/
theorem packet_fields (p : Pcs) (s : Scs) :
    packetFields true (psnrCalculations p s) = psnrCalculations p s ∧ packetFields false (psnrCalculations p s) = (0, 0, 0) :=
  ⟨rfl, rfl⟩

/-- (reconstruction side) `psnr_calculations` measures the same picture buffer that `recon_output`
    hands to the application for that frame (`reference_picture` for reference frames, `recon_picture_ptr` otherwise). -/
theorem sse_buffer_choice_recon (p : Pcs) :
    chooseRecon p = reconOutputChoice p ∧
    (p.isUsedAsReferenceFlag = true → chooseRecon p = p.referencePicture) ∧
    (p.isUsedAsReferenceFlag = false → chooseRecon p = p.reconPicture) :=
  ⟨rfl, fun h => if_pos h, fun h => if_neg (ne_true_of_eq_false h)⟩

/-- (source side) Let `orig` be the input picture as submitted, `filt*` whatever the temporal filter
    wrote over its three planes, and `saveEnhanced` the copy `save_src_pic_buffers` took of `orig` before filtering
    (`lumaSize`/`chromaSize` elements from the start of each allocation). If every sample of the visible window lies inside
    the copied range (memory safety of the reads), then the values reported for the temporally filtered picture are exactly
    those that would be reported for the unfiltered picture `orig`: the filter output has no influence. -/
theorem sse_buffer_choice (isRef : Bool) (refPic recPic orig : PicDesc) (filtY filtCb filtCr : Buf) (other : Planes)
    (lumaSize chromaSize : Nat) (s : Scs)
    (hy : ∀ y, y < lumaH orig s → ∀ x, x < lumaW orig s →
      orig.originX + orig.originY * orig.strideY + y * orig.strideY + x < lumaSize)
    (hcb : ∀ y, y < chromaH orig s → ∀ x, x < chromaW orig s →
      orig.originX / 2 + orig.originY / 2 * orig.strideCb + y * orig.strideCb + x < chromaSize)
    (hcr : ∀ y, y < chromaH orig s → ∀ x, x < chromaW orig s →
      orig.originX / 2 + orig.originY / 2 * orig.strideCr + y * orig.strideCr + x < chromaSize) :
    psnr8 { isUsedAsReferenceFlag := isRef, temporalFilteringOn := true, referencePicture := refPic, reconPicture := recPic,
            enhancedUnscaled := { orig with bufY := filtY, bufCb := filtCb, bufCr := filtCr },
            saveEnhanced := saveSrcPicBuffers orig lumaSize chromaSize } s =
    psnr8 { isUsedAsReferenceFlag := isRef, temporalFilteringOn := false, referencePicture := refPic, reconPicture := recPic,
            enhancedUnscaled := orig, saveEnhanced := other } s := by
  simp only [psnr8, chooseSrc, chooseRecon, lumaW, lumaH, chromaW, chromaH, saveSrcPicBuffers, if_true, Bool.false_eq_true, if_false]
  exact Prod.ext (ssePlane_picCopy _ _ _ _ _ _ _ _ _ hy)
    (Prod.ext (ssePlane_picCopy _ _ _ _ _ _ _ _ _ hcb) (ssePlane_picCopy _ _ _ _ _ _ _ _ _ hcr))

/- non-vacuity: a 4×2 picture (4:2:0) at origin (2,2), luma pitch 8 / chroma pitch 4, allocations of 48 / 12 elements: the
    window lies inside the copied range, so the hypotheses of `sse_buffer_choice` hold. -/
example : let orig : PicDesc := { bufY := fun i => i % 251, bufCb := fun i => (3 * i) % 256, bufCr := fun i => (7 * i) % 256,
                                  originX := 2, originY := 2, strideY := 8, strideCb := 4, strideCr := 4, width := 8, height := 2 }
          let s : Scs := { is16bit := false, ssX := 1, ssY := 1, maxInputPadRight := 4, maxInputPadBottom := 0 }
          (∀ y, y < lumaH orig s → ∀ x, x < lumaW orig s → orig.originX + orig.originY * orig.strideY + y * orig.strideY + x < 48) ∧
          (∀ y, y < chromaH orig s → ∀ x, x < chromaW orig s → orig.originX / 2 + orig.originY / 2 * orig.strideCb + y * orig.strideCb + x < 12) ∧
          lumaW orig s = 4 ∧ lumaH orig s = 2 ∧ chromaW orig s = 2 ∧ chromaH orig s = 1 := by
  refine ⟨?_, ?_, rfl, rfl, rfl, rfl⟩
  · intro y hy x hx
    have h1 : y < 2 := hy
    have h2 : x < 4 := hx
    show 2 + 2 * 8 + y * 8 + x < 48
    omega
  · intro y hy x hx
    have h1 : y < 1 := hy
    have h2 : x < 2 := hx
    show 2 / 2 + 2 / 2 * 4 + y * 4 + x < 12
    omega


/-- The part of "the measured reconstruction is the picture a decoder reconstructs" that holds
    for the in-loop filter stage whether or not the condition of EbCdefProcess.c l.527-530 tests `stat_report`: whenever loop
    restoration is enabled for the sequence, or the picture is a reference, or `recon_enabled` is set, or CDEF is off for the picture
    (or the condition tests `stat_report` and it is set), the buffer `psnr_calculations` reads holds the CDEF output exactly when a
    decoder applies CDEF.
    The full intended statement has the single hypothesis `statReport = true`: it holds of the code as it is
    (`measured_recon_is_decoded_with_fix`) and fails without the `stat_report` disjunct (`sse_cdef_gap_witness`). -/
theorem measured_recon_is_decoded_partial {α : Type} (withStatReport cdefOn enableRestoration isRef reconEnabled statReport : Bool) (pre post : α)
    (h : enableRestoration = true ∨ isRef = true ∨ reconEnabled = true ∨ cdefOn = false ∨ (withStatReport = true ∧ statReport = true)) :
    measuredRecon withStatReport cdefOn enableRestoration isRef reconEnabled statReport pre post = decodedRecon cdefOn pre post := by
  unfold measuredRecon decodedRecon cdefFrameApplied
  rcases h with rfl | rfl | rfl | rfl | ⟨rfl, rfl⟩ <;> simp

/- non-vacuity: the default configuration of presets 0-6 (restoration on), non-reference picture, no recon output, condition without the `stat_report` disjunct. -/
example : measuredRecon false true true false false true "unfiltered" "cdef-filtered" = decodedRecon true "unfiltered" "cdef-filtered" :=
  measured_recon_is_decoded_partial _ _ _ _ _ _ _ _ (Or.inl rfl)

/-- The excluded point is real for the condition without the `stat_report` disjunct (`withStatReport = false`; finding C26-cdef-skipped-nonref-no-recon): with `stat_report = 1`, a
    non-reference picture, `recon_enabled = 0` (the library default) and loop restoration off (presets 7-8, or
    `enable_restoration_filtering = 0`), CDEF is searched and signalled but not applied before the statistics are taken: the measured
    buffer is the *unfiltered* picture while a decoder outputs the *filtered* one; and this is the only such point (`statReport` plays
    no role). checks/c26.py reproduces it on an encoder built without the disjunct (`w=128 h=64 n=20 content=4 recon=0 cfg.enc_mode=8
    cfg.stat_report=1`: every NON_REF packet reports an SSE that differs from the SSE between the submitted and the decoded picture). -/
theorem sse_cdef_gap_witness {α : Type} (pre post : α) :
    measuredRecon false true false false false true pre post = pre ∧ decodedRecon true pre post = post ∧
    (∀ cdefOn enableRestoration isRef reconEnabled statReport : Bool,
      (∀ (a b : Bool), measuredRecon false cdefOn enableRestoration isRef reconEnabled statReport a b = decodedRecon cdefOn a b) ↔
        ¬ (cdefOn = true ∧ enableRestoration = false ∧ isRef = false ∧ reconEnabled = false)) := by
  refine ⟨rfl, rfl, fun c r i e s => ⟨?_, fun h a b => measured_recon_is_decoded_partial _ _ _ _ _ _ _ _ ?_⟩⟩
  · rintro h ⟨rfl, rfl, rfl, rfl⟩
    exact Bool.false_ne_true (h false true)
  · exact match c, r, i, e, h with
      | false, _, _, _, _ => Or.inr (Or.inr (Or.inr (Or.inl rfl)))
      | _, true, _, _, _ => Or.inl rfl
      | _, _, true, _, _ => Or.inr (Or.inl rfl)
      | _, _, _, true, _ => Or.inr (Or.inr (Or.inl rfl))
      | true, false, false, false, h => absurd ⟨rfl, rfl, rfl, rfl⟩ h

/-- With the disjunct `static_config.stat_report` in the condition (EbCdefProcess.c l.529, the code as it is;
    `withStatReport = true`) the full intended statement holds: whenever statistics are
    requested, the measured buffer is what a decoder reconstructs, for every picture and configuration. -/
theorem measured_recon_is_decoded_with_fix {α : Type} (cdefOn enableRestoration isRef reconEnabled : Bool) (pre post : α) :
    measuredRecon true cdefOn enableRestoration isRef reconEnabled true pre post = decodedRecon cdefOn pre post :=
  measured_recon_is_decoded_partial _ _ _ _ _ _ _ _ (Or.inr (Or.inr (Or.inr (Or.inr ⟨rfl, rfl⟩))))

/-
  Full intended end-to-end statement (NOT a theorem here; it needs C01 "reconstruction == decode of the packet", which is outside this
  model and is checked against the real decoder by checks/c26.py):

    for every packet k produced with stat_report = 1, bit depth 8, no film grain, no super-resolution:
      packet[k].luma_sse = (Σ_{y<H, x<W} (submitted[pts_k].Y(x,y) − decoded[k].Y(x,y))²) mod 2^32     (Cb, Cr alike, W/2 × H/2)

  Without the `stat_report` disjunct in the CDEF condition the statement fails at one point (`sse_cdef_gap_witness`): non-reference
  pictures when recon_enabled = 0 and loop restoration is off are measured before/without CDEF although CDEF is signalled.
-/

end C26
