/-
  C21 — the encoder's output depends only on the visible samples of each submitted picture.

  Model: SvtVerif/Model/CopyIn.lean (copy_frame_buffer, un_pack2d, pad_input_picture, generate_padding,
  pad_picture_to_multiple_of_min_blk_size_dimensions, pad_input_pictures, transcribed line by line).
  Everything below holds for ALL widths, heights, strides, paddings and buffer contents (induction over
  rows / columns in SvtVerif/Lemmas/CopyIn.lean); nothing is a bounded search.
-/
import SvtVerif.Lemmas.CopyIn

namespace C21
open CopyIn

/-- **Closed form of the copy-in of one 8-bit plane.**  After copy_frame_buffer's row loop, pad_input_picture and
    generate_padding, every cell `(r, c)` of the regenerated region (all `S` columns of rows
    `0 .. oy + (h+pb) + oy`) holds the visible sample nearest to it: the internal plane is the visible `w × h`
    picture replicated outwards from its edges, for every caller stride `ss ≥ w`, whatever the bytes in the
    caller's stride padding and whatever the previous contents of the internal buffer. -/
theorem plane8_is_edge_replication (m : Mem) (src : Buf) (S ox oy w h pr pb ss : Nat)
    (hw : 1 ≤ w) (hh : 1 ≤ h) (hS : S = ox + (w + pr) + ox) (hws : w ≤ ss)
    (hin : (oy + (h + pb) + oy) * S ≤ m.buf.size) :
    ∀ r c, r < oy + (h + pb) + oy → c < S →
      rd (planeIn8 m src S ox oy w h pr pb ss).buf (r * S + c) = padSpec (vis src ss) ox oy w h r c :=
  planeIn8_spec m src ⟨S, ox, oy, w, h, pr, pb⟩ ss ⟨hw, hh, hS, hin⟩ hws

-- non-vacuity: a 2x2 picture (stride 3, dirty stride byte 99), 1 cell of padding all round, internal stride 4
example : rd (planeIn8 ⟨Array.replicate 16 7, true⟩ #[1, 2, 99, 3, 4, 99] 4 1 1 2 2 0 0 3).buf (3 * 4 + 3) = 4 := by
  rw [plane8_is_edge_replication _ _ 4 1 1 2 2 0 0 3 (by omega) (by omega) (by omega) (by omega) (by simp) 3 3 (by omega) (by omega)]
  decide

theorem clampTo_lt (o n c : Nat) (hn : 1 ≤ n) : clampTo o n c < n :=
  CopyIn.clampTo_lt o n c hn

/-- **C21, one 8-bit plane, the part of the buffer anything reads.**  Two submissions whose *visible* `w × h`
    samples agree — with any two strides `≥ w`, any bytes in the stride padding or beyond, and any two previous
    contents of the internal buffer — leave identical contents in every cell of the padded region. -/
theorem copyin_depends_only_on_visible (m1 m2 : Mem) (src1 src2 : Buf) (S ox oy w h pr pb ss1 ss2 : Nat)
    (hw : 1 ≤ w) (hh : 1 ≤ h) (hS : S = ox + (w + pr) + ox) (h1 : w ≤ ss1) (h2 : w ≤ ss2)
    (hin1 : (oy + (h + pb) + oy) * S ≤ m1.buf.size) (hin2 : (oy + (h + pb) + oy) * S ≤ m2.buf.size)
    (hvis : ∀ x y, x < w → y < h → vis src1 ss1 x y = vis src2 ss2 x y) :
    ∀ r c, r < oy + (h + pb) + oy → c < S →
      rd (planeIn8 m1 src1 S ox oy w h pr pb ss1).buf (r * S + c) =
      rd (planeIn8 m2 src2 S ox oy w h pr pb ss2).buf (r * S + c) := by
  intro r c hr hc
  rw [planeIn8_spec m1 src1 ⟨S, ox, oy, w, h, pr, pb⟩ ss1 ⟨hw, hh, hS, hin1⟩ h1 r c hr hc,
      planeIn8_spec m2 src2 ⟨S, ox, oy, w, h, pr, pb⟩ ss2 ⟨hw, hh, hS, hin2⟩ h2 r c hr hc]
  exact hvis _ _ (clampTo_lt ox w c hw) (clampTo_lt oy h r hh)

-- non-vacuity: strides 2 and 5, different dirty bytes, different previous buffer contents
example : rd (planeIn8 ⟨Array.replicate 16 7, true⟩ #[1, 2, 3, 4] 4 1 1 2 2 0 0 2).buf (0 * 4 + 3) =
          rd (planeIn8 ⟨Array.replicate 20 8, true⟩ #[1, 2, 50, 51, 52, 3, 4, 60, 61, 62] 4 1 1 2 2 0 0 5).buf (0 * 4 + 3) :=
  copyin_depends_only_on_visible _ _ _ _ 4 1 1 2 2 0 0 2 5 (by omega) (by omega) (by omega) (by omega) (by omega)
    (by simp) (by simp)
    (by
      intro x y hx hy
      obtain rfl | rfl : x = 0 ∨ x = 1 := by omega
      all_goals obtain rfl | rfl : y = 0 ∨ y = 1 := by omega
      all_goals decide)
    0 3 (by omega) (by omega)

/-- **C21, one 8-bit plane, the WHOLE internal allocation.**  Same previous contents, visible samples agree, and
    for both submissions the last copied row (all `ss` bytes of it — copy_frame_buffer copies whole stride rows)
    ends inside the regenerated region: then the two internal buffers are equal cell for cell, padding and the
    never-regenerated rows below it included.  (`ss ≤ w + 64` always satisfies the bound for the API geometry,
    see `pipelineIn_depends_only_on_visible`.) -/
theorem copyin_whole_buffer (m : Mem) (src1 src2 : Buf) (S ox oy w h pr pb ss1 ss2 : Nat)
    (hw : 1 ≤ w) (hh : 1 ≤ h) (hS : S = ox + (w + pr) + ox) (h1 : w ≤ ss1) (h2 : w ≤ ss2)
    (hin : (oy + (h + pb) + oy) * S ≤ m.buf.size)
    (hsp1 : oy * S + ox + (h - 1) * S + ss1 ≤ (oy + (h + pb) + oy) * S)
    (hsp2 : oy * S + ox + (h - 1) * S + ss2 ≤ (oy + (h + pb) + oy) * S)
    (hvis : ∀ x y, x < w → y < h → vis src1 ss1 x y = vis src2 ss2 x y) :
    (planeIn8 m src1 S ox oy w h pr pb ss1).buf = (planeIn8 m src2 S ox oy w h pr pb ss2).buf :=
  planeIn8_whole m ⟨S, ox, oy, w, h, pr, pb⟩ ⟨hw, hh, hS, hin⟩ src1 src2 ss1 ss2 h1 h2 hsp1 hsp2 hvis

example : (planeIn8 ⟨Array.replicate 20 7, true⟩ #[1, 2, 3, 4] 4 1 1 2 2 0 0 2).buf =
          (planeIn8 ⟨Array.replicate 20 7, true⟩ #[1, 2, 50, 51, 52, 3, 4, 60, 61, 62] 4 1 1 2 2 0 0 5).buf :=
  copyin_whole_buffer _ _ _ 4 1 1 2 2 0 0 2 5 (by omega) (by omega) (by omega) (by omega) (by omega)
    (by simp) (by omega) (by omega)
    (by
      intro x y hx hy
      obtain rfl | rfl : x = 0 ∨ x = 1 := by omega
      all_goals obtain rfl | rfl : y = 0 ∨ y = 1 := by omega
      all_goals decide)


/-- The bound of `copyin_whole_buffer` is sharp: when the allocation has rows below the regenerated region
    (`bot_padding > top_padding`, true for 128x128 superblocks) and the caller's stride is so large that the last
    copied row runs past the region, bytes of the caller's *stride padding* stay in the internal buffer.
    (1x1 picture, 1 cell of padding, 5 allocated rows of 3; stride 9 vs stride 1: cell 10 keeps source byte 6.) -/
theorem spill_witness :
    rd (planeIn8 ⟨Array.replicate 15 0, true⟩ #[5, 11, 12, 13, 14, 15, 66, 17, 18] 3 1 1 1 1 0 0 9).buf 10 = 66 ∧
    rd (planeIn8 ⟨Array.replicate 15 0, true⟩ #[5] 3 1 1 1 1 0 0 1).buf 10 = 0 := by
  decide

/-- **C21, one half of a 10-bit plane.**  un_pack2d copies `w` samples per row, so the caller's stride padding is
    never read, and stores `f` of each sample (`hi8` in the 8-bit, `lo2` in the 2-bit allocation).
    Submissions whose visible samples agree under `f` give identical internal planes over the padded region, for
    any strides, any previous contents (agreement modulo 1024 suffices: `hi8_lo2_mod1024`). -/
theorem copyin10_depends_only_on_visible (m1 m2 : Mem) (src1 src2 : Buf) (f : Nat → Nat) (S ox oy w h pr pb ss1 ss2 : Nat)
    (hw : 1 ≤ w) (hh : 1 ≤ h) (hS : S = ox + (w + pr) + ox)
    (hin1 : (oy + (h + pb) + oy) * S ≤ m1.buf.size) (hin2 : (oy + (h + pb) + oy) * S ≤ m2.buf.size)
    (hvis : ∀ x y, x < w → y < h → f (vis src1 ss1 x y) = f (vis src2 ss2 x y)) :
    ∀ r c, r < oy + (h + pb) + oy → c < S →
      rd (generatePadding (padInputPicture (storeRows m1 src1 f 0 ss1 (S * oy + ox) S w 0 h) (ox + oy * S) S w h pr pb)
            0 S (w + pr) (h + pb) ox oy).buf (r * S + c) =
      rd (generatePadding (padInputPicture (storeRows m2 src2 f 0 ss2 (S * oy + ox) S w 0 h) (ox + oy * S) S w h pr pb)
            0 S (w + pr) (h + pb) ox oy).buf (r * S + c) := by
  intro r c hr hc
  rw [planeIn10_half_spec m1 src1 f ⟨S, ox, oy, w, h, pr, pb⟩ ss1 ⟨hw, hh, hS, hin1⟩ r c hr hc,
      planeIn10_half_spec m2 src2 f ⟨S, ox, oy, w, h, pr, pb⟩ ss2 ⟨hw, hh, hS, hin2⟩ r c hr hc]
  exact hvis _ _ (clampTo_lt ox w c hw) (clampTo_lt oy h r hh)

/-- **C21, one 10-bit plane half, the WHOLE allocation**: with the same previous contents the two internal
    buffers are equal cell for cell — unconditionally in the strides (un_pack2d never writes outside the picture
    rectangle, so nothing can spill below the regenerated region). -/
theorem copyin10_whole_buffer (m : Mem) (src1 src2 : Buf) (f : Nat → Nat) (S ox oy w h pr pb ss1 ss2 : Nat)
    (hw : 1 ≤ w) (hh : 1 ≤ h) (hS : S = ox + (w + pr) + ox)
    (hin : (oy + (h + pb) + oy) * S ≤ m.buf.size)
    (hvis : ∀ x y, x < w → y < h → f (vis src1 ss1 x y) = f (vis src2 ss2 x y)) :
    (generatePadding (padInputPicture (storeRows m src1 f 0 ss1 (S * oy + ox) S w 0 h) (ox + oy * S) S w h pr pb)
        0 S (w + pr) (h + pb) ox oy).buf =
    (generatePadding (padInputPicture (storeRows m src2 f 0 ss2 (S * oy + ox) S w 0 h) (ox + oy * S) S w h pr pb)
        0 S (w + pr) (h + pb) ox oy).buf := by
  refine buf_ext_rows _ _ S (oy + (h + pb) + oy) (by omega)
    (by rw [padStages_size, padStages_size, storeRows_size, storeRows_size])
    (copyin10_depends_only_on_visible m m src1 src2 f S ox oy w h pr pb ss1 ss2 hw hh hS hin hin hvis) fun j hj => ?_
  rw [planeIn10_half_frame m src1 f ⟨S, ox, oy, w, h, pr, pb⟩ ss1 j ⟨hw, hh, hS, hin⟩ hj,
    planeIn10_half_frame m src2 f ⟨S, ox, oy, w, h, pr, pb⟩ ss2 j ⟨hw, hh, hS, hin⟩ hj]

-- non-vacuity: samples 1023 / 2047+... agree modulo 1024, strides 2 and 3
example : (planeIn10 ⟨Array.replicate 16 7, true⟩ ⟨Array.replicate 16 7, true⟩ #[1023, 4, 8, 1] 4 1 1 2 2 0 0 2).1.buf =
          (planeIn10 ⟨Array.replicate 16 7, true⟩ ⟨Array.replicate 16 7, true⟩ #[2047, 4, 77, 8, 1025, 78] 4 1 1 2 2 0 0 3).1.buf := by
  rw [planeIn10_eq, planeIn10_eq]
  exact copyin10_whole_buffer _ _ _ hi8 4 1 1 2 2 0 0 2 3 (by omega) (by omega) (by omega) (by simp)
    (by
      intro x y hx hy
      obtain rfl | rfl : x = 0 ∨ x = 1 := by omega
      all_goals obtain rfl | rfl : y = 0 ∨ y = 1 := by omega
      all_goals decide)

/-- the two halves only look at the low ten bits of a sample -/
theorem hi8_lo2_mod1024 (px : Nat) : hi8 px = hi8 (px % 1024) ∧ lo2 px = lo2 (px % 1024) := by
  unfold hi8 lo2; omega

/-- `planeIn10` *is* the pipeline of the `copyin10_*` theorems twice, with `f = hi8` and `f = lo2` -/
theorem planeIn10_halves (m8 mn : Mem) (src : Buf) (S ox oy w h pr pb ss : Nat) :
    planeIn10 m8 mn src S ox oy w h pr pb ss =
      (generatePadding (padInputPicture (storeRows m8 src hi8 0 ss (S * oy + ox) S w 0 h) (ox + oy * S) S w h pr pb) 0 S (w + pr) (h + pb) ox oy,
       generatePadding (padInputPicture (storeRows mn src lo2 0 ss (S * oy + ox) S w 0 h) (ox + oy * S) S w h pr pb) 0 S (w + pr) (h + pb) ox oy) :=
  planeIn10_eq m8 mn src S ox oy w h pr pb ss

example : rd (planeIn10 ⟨Array.replicate 16 7, true⟩ ⟨Array.replicate 16 7, true⟩ #[1023, 4, 8, 2049] 4 1 1 2 2 0 0 2).1.buf 5 = 255 := by
  decide

/-! ### the whole frame, with the descriptors the library builds -/

/-- The frame-level transcription of copy_frame_buffer + pad_input_pictures, run on the descriptor that
    set_param_based_on_input / allocate_frame_buffer / svt_picture_buffer_desc_ctor build for a 4:2:0 8-bit
    encode of `w × h`, is the plane pipeline on each of the three planes with origin (68,68) / (34,34), stride
    `W8+136` / half of it, and the caller's strides truncated to 16 bits (chroma: `w`, `h` even, as verify_settings
    requires). -/
theorem pipelineIn8_planes (w h sb : Nat) (p : Pic) (io : IoFormat) (hw : w + 144 < 65536) (hh : h < 65536) :
    (pipelineIn (apiDesc w h sb 8) p io).y =
      planeIn8 p.y io.luma (w + padTo8 w + 136) 68 68 w h (padTo8 w) (padTo8 h) (u16 io.yStride) ∧
    (w % 2 = 0 → h % 2 = 0 →
      (pipelineIn (apiDesc w h sb 8) p io).cb =
        planeIn8 p.cb io.cb ((w + padTo8 w + 136) / 2) 34 34 (w / 2) (h / 2) (padTo8 w / 2) (padTo8 h / 2) (u16 io.cbStride) ∧
      (pipelineIn (apiDesc w h sb 8) p io).cr =
        planeIn8 p.cr io.cr ((w + padTo8 w + 136) / 2) 34 34 (w / 2) (h / 2) (padTo8 w / 2) (padTo8 h / 2) (u16 io.crStride)) := by
  obtain ⟨m1, l1, e1⟩ := padTo8_spec w
  obtain ⟨m2, _, e2⟩ := padTo8_spec h
  simp only [pipelineIn, padInputPictures, padPictureToMultipleOfMinBlk, copyFrameBuffer, apiDesc, planeIn8,
    m1, m2, beq_self_eq_true, ↓reduceIte, Nat.le_refl, Nat.lt_irrefl, gt_iff_lt, Nat.add_sub_cancel,
    show (64 + 4 : Nat) = 68 by rfl, Nat.add_assoc, show (68 + 68 : Nat) = 136 by rfl,
    Nat.shiftRight_eq_div_pow, Nat.pow_one, show (68 / 2 : Nat) = 34 by rfl]
  rw [u16_id (w + _) (by omega), u16_id h hh, u16_id (_ / 2) (by omega)]
  refine ⟨rfl, fun hwe hhe => ?_⟩
  rw [show (w + padTo8 w) / 2 = w / 2 + padTo8 w / 2 by omega, show (h + padTo8 h) / 2 = h / 2 + padTo8 h / 2 by omega]
  exact ⟨rfl, rfl⟩

example : (pipelineIn (apiDesc 70 66 64 8) ⟨⟨#[], true⟩, ⟨#[], true⟩, ⟨#[], true⟩, ⟨#[], true⟩, ⟨#[], true⟩, ⟨#[], true⟩⟩
            ⟨#[], #[], #[], 70, 35, 35⟩).y.buf.size = 0 := by
  rw [(pipelineIn8_planes 70 66 64 _ _ (by omega) (by omega)).1, planeIn8_size]; rfl

/-- 10-bit twin of `pipelineIn8_planes` (each plane has an 8-bit and a 2-bit allocation). -/
theorem pipelineIn10_planes (w h sb : Nat) (p : Pic) (io : IoFormat) (hw : w + 144 < 65536) (hh : h < 65536)
    (hwe : w % 2 = 0) (hhe : h % 2 = 0) :
    ((pipelineIn (apiDesc w h sb 10) p io).y, (pipelineIn (apiDesc w h sb 10) p io).incY) =
      planeIn10 p.y p.incY io.luma (w + padTo8 w + 136) 68 68 w h (padTo8 w) (padTo8 h) (u16 io.yStride) ∧
    ((pipelineIn (apiDesc w h sb 10) p io).cb, (pipelineIn (apiDesc w h sb 10) p io).incCb) =
      planeIn10 p.cb p.incCb io.cb ((w + padTo8 w + 136) / 2) 34 34 (w / 2) (h / 2) (padTo8 w / 2) (padTo8 h / 2) (u16 io.cbStride) ∧
    ((pipelineIn (apiDesc w h sb 10) p io).cr, (pipelineIn (apiDesc w h sb 10) p io).incCr) =
      planeIn10 p.cr p.incCr io.cr ((w + padTo8 w + 136) / 2) 34 34 (w / 2) (h / 2) (padTo8 w / 2) (padTo8 h / 2) (u16 io.crStride) := by
  obtain ⟨m1, l1, e1⟩ := padTo8_spec w
  obtain ⟨m2, _, e2⟩ := padTo8_spec h
  simp only [pipelineIn, padInputPictures, padPictureToMultipleOfMinBlk, copyFrameBuffer, apiDesc, planeIn10,
    m1, m2, beq_self_eq_true, ↓reduceIte, gt_iff_lt, Nat.add_sub_cancel,
    show ¬ (10 ≤ 8) by omega, show (8 < 10) by omega, show (64 + 4 : Nat) = 68 by rfl, Nat.add_assoc,
    show (68 + 68 : Nat) = 136 by rfl, Nat.shiftRight_eq_div_pow, Nat.pow_one, show (68 / 2 : Nat) = 34 by rfl]
  rw [u16_id w (by omega), u16_id h hh, show (w + padTo8 w) / 2 = w / 2 + padTo8 w / 2 by omega,
    show (h + padTo8 h) / 2 = h / 2 + padTo8 h / 2 by omega]
  exact ⟨rfl, rfl, rfl⟩

/-- **C21 for a whole 8-bit frame, API geometry, whole buffers.**  For every even `w, h ≥ 2`, superblock size
    `sb ≥ 64`, internal picture `p` of the allocated sizes, and two callers' pictures whose visible luma / Cb / Cr
    samples agree, with any strides in `[w, w + 64]` (chroma `[w/2, w/2 + 64]`) and any other bytes anywhere:
    the three internal planes after copy + padding regeneration are identical, cell for cell, padding included. -/
theorem pipelineIn_depends_only_on_visible (w h sb : Nat) (p : Pic) (io1 io2 : IoFormat)
    (hw : 2 ≤ w) (hw2 : w + 144 < 65536) (hh : 2 ≤ h) (hh2 : h < 65536) (hwe : w % 2 = 0) (hhe : h % 2 = 0)
    (hsb : 64 ≤ sb) (hsbe : sb % 2 = 0)
    (hy : p.y.buf.size = (apiDesc w h sb 8).lumaSize)
    (hcb : p.cb.buf.size = (apiDesc w h sb 8).chromaSize) (hcr : p.cr.buf.size = (apiDesc w h sb 8).chromaSize)
    (s1y : w ≤ io1.yStride ∧ io1.yStride ≤ w + 64) (s2y : w ≤ io2.yStride ∧ io2.yStride ≤ w + 64)
    (s1b : w / 2 ≤ io1.cbStride ∧ io1.cbStride ≤ w / 2 + 64) (s2b : w / 2 ≤ io2.cbStride ∧ io2.cbStride ≤ w / 2 + 64)
    (s1r : w / 2 ≤ io1.crStride ∧ io1.crStride ≤ w / 2 + 64) (s2r : w / 2 ≤ io2.crStride ∧ io2.crStride ≤ w / 2 + 64)
    (vy : ∀ x y, x < w → y < h → vis io1.luma io1.yStride x y = vis io2.luma io2.yStride x y)
    (vb : ∀ x y, x < w / 2 → y < h / 2 → vis io1.cb io1.cbStride x y = vis io2.cb io2.cbStride x y)
    (vr : ∀ x y, x < w / 2 → y < h / 2 → vis io1.cr io1.crStride x y = vis io2.cr io2.crStride x y) :
    (pipelineIn (apiDesc w h sb 8) p io1).y.buf = (pipelineIn (apiDesc w h sb 8) p io2).y.buf ∧
    (pipelineIn (apiDesc w h sb 8) p io1).cb.buf = (pipelineIn (apiDesc w h sb 8) p io2).cb.buf ∧
    (pipelineIn (apiDesc w h sb 8) p io1).cr.buf = (pipelineIn (apiDesc w h sb 8) p io2).cr.buf := by
  obtain ⟨a1, bc1⟩ := pipelineIn8_planes w h sb p io1 hw2 hh2
  obtain ⟨a2, bc2⟩ := pipelineIn8_planes w h sb p io2 hw2 hh2
  rw [a1, (bc1 hwe hhe).1, (bc1 hwe hhe).2, a2, (bc2 hwe hhe).1, (bc2 hwe hhe).2]
  rw [apiDesc_lumaSize] at hy
  rw [apiDesc_chromaSize w h sb 8 hwe hhe hsbe] at hcb hcr
  obtain ⟨_, l1, e1⟩ := padTo8_spec w
  obtain ⟨_, _, e2⟩ := padTo8_spec h
  have chroma (m : Mem) (src1 src2 : Buf) (t1 t2 : Nat)
      (hm : m.buf.size = (w + padTo8 w + 136) / 2 * ((h + padTo8 h + 68 + (sb + 4)) / 2))
      (s1 : w / 2 ≤ t1 ∧ t1 ≤ w / 2 + 64) (s2 : w / 2 ≤ t2 ∧ t2 ≤ w / 2 + 64)
      (v : ∀ x y, x < w / 2 → y < h / 2 → vis src1 t1 x y = vis src2 t2 x y) :
      (planeIn8 m src1 ((w + padTo8 w + 136) / 2) 34 34 (w / 2) (h / 2) (padTo8 w / 2) (padTo8 h / 2) (u16 t1)).buf =
      (planeIn8 m src2 ((w + padTo8 w + 136) / 2) 34 34 (w / 2) (h / 2) (padTo8 w / 2) (padTo8 h / 2) (u16 t2)).buf :=
    planeIn8_whole_u16 m src1 src2 _ 34 (w / 2) (h / 2) _ _ _ 64 t1 t2 (by omega) (by omega) (by decide) (by omega) hm
      (by omega) (by omega) s1 s2 v
  exact ⟨planeIn8_whole_u16 p.y io1.luma io2.luma _ 68 w h _ _ _ 64 _ _ (Nat.le_of_succ_le hw) (Nat.le_of_succ_le hh) (by decide) (by omega) hy
      (by omega) (by omega) s1y s2y vy,
    chroma p.cb io1.cb io2.cb _ _ hcb s1b s2b vb, chroma p.cr io1.cr io2.cr _ _ hcr s1r s2r vr⟩

/-! ### bounds: the caller contract the API does not check -/

/-- **Exact condition under which the copy-in of one 8-bit plane stays inside the caller's and the library's
    allocations.**  pad_input_picture and generate_padding never leave the allocation; the row loop of
    copy_frame_buffer copies `ss` bytes per row (the *stride*, not the width), so it stays inside iff the last
    row's `ss` bytes end inside the destination AND the source allocation holds `h * ss` bytes — i.e. the caller's
    last row must be a full stride long although only `w` bytes of it are picture. -/
theorem copy_in_bounds (m : Mem) (src : Buf) (S ox oy w h pr pb ss : Nat)
    (hw : 1 ≤ w) (hh : 1 ≤ h) (hS : S = ox + (w + pr) + ox)
    (hin : (oy + (h + pb) + oy) * S ≤ m.buf.size) :
    (planeIn8 m src S ox oy w h pr pb ss).ok = true ↔
      m.ok = true ∧ (ss = 0 ∨ (S * oy + ox + (h - 1) * S + ss ≤ m.buf.size ∧ h * ss ≤ src.size)) :=
  planeIn8_ok m src ⟨S, ox, oy, w, h, pr, pb⟩ ss ⟨hw, hh, hS, hin⟩

example : (planeIn8 ⟨Array.replicate 16 7, true⟩ #[1, 2, 99, 3, 4, 99] 4 1 1 2 2 0 0 3).ok = true := by
  rw [copy_in_bounds _ _ 4 1 1 2 2 0 0 3 (by omega) (by omega) (by omega) (by simp)]; simp

/-- the same for the luma plane of an API-built 8-bit picture: in terms of `y_stride` (as truncated to uint16 by
    copy_frame_buffer l.3486), the configured size and the caller's allocation -/
theorem copy_in_bounds_luma (w h sb : Nat) (p : Pic) (io : IoFormat) (hw : 1 ≤ w) (hw2 : w + 144 < 65536)
    (hh : 1 ≤ h) (hh2 : h < 65536) (hsb : 64 ≤ sb)
    (hy : p.y.buf.size = (apiDesc w h sb 8).lumaSize) :
    (pipelineIn (apiDesc w h sb 8) p io).y.ok = true ↔
      p.y.ok = true ∧ (u16 io.yStride = 0 ∨
        ((w + padTo8 w + 136) * 68 + 68 + (h - 1) * (w + padTo8 w + 136) + u16 io.yStride
            ≤ (w + padTo8 w + 136) * (h + padTo8 h + 68 + (sb + 4)) ∧
         h * u16 io.yStride ≤ io.luma.size)) := by
  rw [apiDesc_lumaSize] at hy
  have hin := Nat.mul_le_mul_left (w + padTo8 w + 136)
    (show 68 + (h + padTo8 h) + 68 ≤ h + padTo8 h + 68 + (sb + 4) by omega)
  rw [Nat.mul_comm, ← hy] at hin
  rw [(pipelineIn8_planes w h sb p io hw2 hh2).1,
    copy_in_bounds p.y io.luma (w + padTo8 w + 136) 68 68 w h (padTo8 w) (padTo8 h) _ hw hh (by omega) hin, hy]

/-- **Boundary witness (destination).**  A 64x64 8-bit encode with 64x64 superblocks: `y_stride = 13732` is the
    largest luma stride the internal buffer can take; `13733` makes copy_frame_buffer write past the end of the
    internal luma allocation (200 x 200 bytes).  svt_av1_enc_send_picture accepts both. -/
theorem copy_out_of_bounds_witness (p : Pic) (io : IoFormat) (hok : p.y.ok = true)
    (hy : p.y.buf.size = (apiDesc 64 64 64 8).lumaSize) (hsrc : 64 * 13733 ≤ io.luma.size) :
    (io.yStride = 13732 → (pipelineIn (apiDesc 64 64 64 8) p io).y.ok = true) ∧
    (io.yStride = 13733 → (pipelineIn (apiDesc 64 64 64 8) p io).y.ok = false) := by
  have key := copy_in_bounds_luma 64 64 64 p io (by omega) (by omega) (by omega) (by omega) (by omega) hy
  have e0 : padTo8 64 = 0 := by decide
  simp only [e0, Nat.add_zero] at key
  constructor
  · intro hs
    rw [key, hs]
    refine ⟨hok, Or.inr ⟨by decide, ?_⟩⟩
    have : u16 13732 = 13732 := by decide
    rw [this]; omega
  · intro hs
    cases hb : (pipelineIn (apiDesc 64 64 64 8) p io).y.ok with
    | false => rfl
    | true =>
      rw [key, hs] at hb
      have : u16 13733 = 13733 := by decide
      rw [this] at hb
      omega

/-- **Boundary witness (source).**  The caller's luma allocation holds exactly the picture, `(h-1)*stride + w`
    bytes with `stride = w + 1`: copy_frame_buffer reads `stride` bytes from the last row, one byte past the
    caller's allocation.  (A caller that hands in a cropped window of a larger frame, or a tightly allocated last
    row, is over-read by up to `stride - w` bytes.) -/
theorem copy_read_overrun_witness (p : Pic) (io : IoFormat) (hok : p.y.ok = true)
    (hy : p.y.buf.size = (apiDesc 64 64 64 8).lumaSize) (hs : io.yStride = 65) :
    (io.luma.size = 63 * 65 + 64 → (pipelineIn (apiDesc 64 64 64 8) p io).y.ok = false) ∧
    (io.luma.size = 64 * 65 → (pipelineIn (apiDesc 64 64 64 8) p io).y.ok = true) := by
  have key := copy_in_bounds_luma 64 64 64 p io (by omega) (by omega) (by omega) (by omega) (by omega) hy
  have e0 : padTo8 64 = 0 := by decide
  have e1 : u16 65 = 65 := by decide
  simp only [e0, Nat.add_zero, hs, e1] at key
  constructor
  · intro hsz
    cases hb : (pipelineIn (apiDesc 64 64 64 8) p io).y.ok with
    | false => rfl
    | true => rw [key, hsz] at hb; omega
  · intro hsz
    rw [key, hsz]
    exact ⟨hok, Or.inr ⟨by decide, by omega⟩⟩

/-- **Exact bounds of the 10-bit path** (either half of a plane): un_pack2d reads `w` samples per row, so the
    source must hold `(h-1)*ss + w` samples and nothing more; the destination is never left. -/
theorem copy10_in_bounds (m : Mem) (src : Buf) (f : Nat → Nat) (S ox oy w h pr pb ss : Nat)
    (hw : 1 ≤ w) (hh : 1 ≤ h) (hS : S = ox + (w + pr) + ox)
    (hin : (oy + (h + pb) + oy) * S ≤ m.buf.size) :
    (generatePadding (padInputPicture (storeRows m src f 0 ss (S * oy + ox) S w 0 h) (ox + oy * S) S w h pr pb)
        0 S (w + pr) (h + pb) ox oy).ok = true ↔
      m.ok = true ∧ (h - 1) * ss + w ≤ src.size :=
  planeIn10_half_ok m src f ⟨S, ox, oy, w, h, pr, pb⟩ ss ⟨hw, hh, hS, hin⟩

example : (planeIn10 ⟨Array.replicate 16 7, true⟩ ⟨Array.replicate 16 7, true⟩ #[1023, 4, 8, 2049] 4 1 1 2 2 0 0 2).1.ok = true := by
  rw [planeIn10_eq]
  rw [copy10_in_bounds _ _ _ 4 1 1 2 2 0 0 2 (by omega) (by omega) (by omega) (by simp)]; simp

/-- copy_frame_buffer keeps only the low 16 bits of the three strides (`uint16_t source_luma_stride =
    (uint16_t)(input_ptr->y_stride)`, l.3486-3488 / l.3585-3587): a stride of `s + 65536` is treated as `s`,
    i.e. rows are read from the wrong addresses; nothing rejects it. -/
theorem stride_truncated_to_16_bits (d : Desc) (p : Pic) (io : IoFormat) (a b c : Nat) :
    copyFrameBuffer d p { io with yStride := io.yStride + 65536 * a, cbStride := io.cbStride + 65536 * b,
                                  crStride := io.crStride + 65536 * c } = copyFrameBuffer d p io := by
  simp only [copyFrameBuffer, u16, Nat.add_mul_mod_self_left]

/-- **Caller memory is not retained.**  Whatever the pipeline computes after svt_av1_enc_send_picture has returned
    (`rest`) is a function of the library's own deep copy: it equals `rest` of the internal picture built at send
    time, whatever the caller does to its memory afterwards (`scribble`: overwrite, free).  Structural in the
    model (`Held` has no caller pointer); the real library is checked for this by the e2e part of the check
    (scribble / free after every send, ASan build). -/
theorem caller_buffer_not_retained {α : Type} (rest : Pic → α) (d : Desc) (p : Pic) (io : IoFormat)
    (scribble : IoFormat → IoFormat) :
    (afterSend rest d p io scribble).1 = rest (pipelineIn d p io) := rfl

end C21
