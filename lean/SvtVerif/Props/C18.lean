/-
  C18 — every coded frame's base quantizer index lies between the indices of the configured minimum and
  maximum QP whenever rate control or adaptive QP scaling chooses it; with fixed-QP coding and no scaling
  the frame uses the index of the configured QP (plus configured fixed offsets, clipped to the bounds).

  Theorems about `QpTail.rcTail` (EbRateControlProcess.c:7322-7478), `QpTail.recodeClamp`
  (EbEncDecProcess.c:4237-4249) and the generated table `Gen.QTable.quantizerToQindex`.
  The value produced upstream (`new_qindex`, the 1-pass RC `picture_qp`, the recode loop's `q`) is universally
  quantified: nothing is assumed about `cqp_qindex_calc*`, `rc_pick_q_and_bounds`, `frame_level_rc_*`.
  `minQp`/`maxQp` are the EFFECTIVE `static_config.{min,max}_qp_allowed` (after `copy_api_from_app`, see `effCfg`).
-/
import SvtVerif.Lemmas.QpTail
import SvtVerif.Lemmas.QpTailApi

namespace C18
open QpTail CSem

/-- `quantizer_to_qindex` is strictly increasing on its 64 entries: a larger QP never maps to a smaller index,
    so "index between the indices of min and max QP" is the same as "QP between min and max". -/
theorem q2q_strict_mono (a b : Int) (ha : 0 ≤ a) (hab : a < b) (hb : b ≤ 63) : q2q a < q2q b :=
  q2q_lt a b ha hab hb

example : q2q 62 < q2q 63 := q2q_strict_mono 62 63 (by decide) (by decide) (by decide)

/-- Table entries fit `uint8_t` (so the stores into `base_q_idx` never truncate). -/
theorem q2q_fits_u8 (a : Int) (ha : 0 ≤ a) (hb : a ≤ 63) : 0 ≤ q2q a ∧ q2q a ≤ 255 := q2q_range a ha hb

/-- **Bounds.** For every input of the tail — any RC mode, any flags, any upstream `new_qindex` / `picture_qp`, any
    offsets — on every branch that assigns the quantizer (branch ≠ 0: fixed offsets, QP scaling, qp-on-the-fly,
    VBR 2-pass, VBR 1-pass, CVBR, other non-zero modes) the frame's `base_q_idx` ends between
    `quantizer_to_qindex[min_qp_allowed]` and `quantizer_to_qindex[max_qp_allowed]`, given `0 ≤ min ≤ max ≤ 63`
    (what `verify_settings` enforces, EbEncHandle.c:2717-2728).  Branch 0 (plain CQP: scaling flag off, no fixed
    offsets, not on-the-fly) does NOT clamp — see `plain_cqp_unclamped` and `branch0_unreachable`. -/
theorem baseQIdx_in_bounds (i : RcIn) (h0 : 0 ≤ i.minQp) (h1 : i.minQp ≤ i.maxQp) (h2 : i.maxQp ≤ 63)
    (hb : (rcTail i).branch ≠ 0) :
    q2q i.minQp ≤ (rcTail i).baseQIdx ∧ (rcTail i).baseQIdx ≤ q2q i.maxQp :=
  have h := rcTail_inv i h0 h1 h2 hb
  ⟨h.lo, h.hi⟩

example : (rcTail ⟨0, 0, 1, 0, 0, 1, 63, 50, 50, 50, 0, 0, 0, 0, 0, 100000, 0⟩).baseQIdx = 255 := by decide +kernel

/-- The frame-level `picture_qp` left by every assigning branch is between min and max QP. -/
theorem pictureQp_in_bounds (i : RcIn) (h0 : 0 ≤ i.minQp) (h1 : i.minQp ≤ i.maxQp) (h2 : i.maxQp ≤ 63)
    (hb : (rcTail i).branch ≠ 0) :
    i.minQp ≤ (rcTail i).pictureQp ∧ (rcTail i).pictureQp ≤ i.maxQp :=
  (rcTail_inv i h0 h1 h2 hb).qp_bounds h1

example : (rcTail ⟨2, 0, 1, 0, 0, 10, 40, 50, 50, 50, 0, 0, 0, 0, 0, 0, 200⟩).pictureQp = 40 := by decide +kernel

/-- With rate control on (mode ≠ 0) the index is exactly the table entry of the clamped `picture_qp`. -/
theorem rc_mode_base_is_table (i : RcIn) (hm : wrapU32 i.rcMode ≠ 0) :
    (rcTail i).baseQIdx = q2q (rcTail i).pictureQp :=
  (rcTail_rc i hm).2.2

/-- **The branch that does not clamp** (witness): plain CQP with the scaling flag off, no fixed offsets and no
    on-the-fly QP copies `quantizer_to_qindex[picture_qp]` unclamped: with `qp = 0`, `min_qp_allowed = 1` the index is
    `0 < quantizer_to_qindex[1] = 4`. -/
theorem plain_cqp_unclamped :
    ∃ i : RcIn, i.rcMode = 0 ∧ i.minQp = 1 ∧ i.maxQp = 63 ∧ i.qp = 0 ∧ i.picQp = i.qp ∧
      (rcTail i).branch = 0 ∧ (rcTail i).baseQIdx < q2q i.minQp :=
  ⟨⟨0, 0, 0, 0, 0, 1, 63, 0, 0, 0, 0, 0, 0, 0, 0, 0, 0⟩, by decide +kernel⟩

/-- …but that branch cannot be reached through the API: `copy_api_from_app` forces `enable_qp_scaling_flag = 1`
    unless `use_fixed_qindex_offsets == 1` (EbEncHandle.c:2197, 2219-2220), and `qp_on_the_fly` is only ever
    `EB_FALSE`/`EB_TRUE` (EbResourceCoordinationProcess.c:1047-1055, `QpTail.initPicQp_flag`).  So for every API configuration the tail
    takes an assigning branch and `baseQIdx_in_bounds` applies. -/
theorem branch0_unreachable (api : ApiCfg) (i : RcIn)
    (hs : i.qpScaling = (effCfg api).qpScaling) (hf : i.fixedOffsets = api.fixedOffsets)
    (ho : i.onTheFly = 0 ∨ i.onTheFly = 1) : (rcTail i).branch ≠ 0 := by
  by_cases hm : wrapU32 i.rcMode = 0
  · have h := rcTail_cqp i hm
    split at h
    · rw [h.1]; decide
    split at h
    · rw [h.1]; decide
    split at h
    · rw [h.1]; decide
    -- the plain case: ruled out by the flags
    rename_i hfx hsc hotf
    rw [hf] at hfx
    unfold effCfg at hs
    simp only [if_neg hfx] at hs
    rcases ho with ho | ho
    · apply absurd _ hsc; rw [hs, ho]; decide
    · apply absurd _ hotf; rw [ho]; decide
  · exact (rcTail_rc i hm).1

example : (rcTail ⟨0, 0, (effCfg ⟨0, 7, 9, 0, 0⟩).qpScaling, 0, 0, 1, 63, 0, 0, 0, 0, 0, 0, 0, 0, 0, 0⟩).branch = 2 := by decide +kernel

/-- In CQP mode the effective bounds are always 1 and 63, whatever the application asked for. -/
theorem cqp_effective_bounds (api : ApiCfg) (h : wrapU32 api.rcMode = 0) :
    (effCfg api).minQp = 1 ∧ (effCfg api).maxQp = 63 := by
  unfold effCfg; simp [h]

/-- **Fixed QP, no scaling** (model-level; through the API this combination only arises with fixed offsets, see
    `fixed_offsets_spec`): mode 0, scaling flag off, no fixed offsets, not on-the-fly, and `picture_qp` initialised to
    `static_config.qp` (EbResourceCoordinationProcess.c:1056): every frame gets exactly `quantizer_to_qindex[qp]`
    and `picture_qp = qp`. -/
theorem cqp_exact (i : RcIn) (hm : i.rcMode = 0) (hf : i.fixedOffsets = 0) (hs : i.qpScaling = 0) (ho : i.onTheFly = 0)
    (hq0 : 0 ≤ i.qp) (hq1 : i.qp ≤ 63) (hp : i.picQp = i.qp) :
    (rcTail i).baseQIdx = q2q i.qp ∧ (rcTail i).pictureQp = i.qp ∧ (rcTail i).branch = 0 := by
  have e : wrapU8 i.picQp = i.qp := by rw [hp]; exact wrapU_of_range hq0 (by omega)
  have h := rcTail_cqp i (by rw [hm]; rfl)
  rw [if_neg (by rw [hf]; decide), if_neg (fun h => h.1 (by rw [hs]; rfl)), if_neg (by rw [ho]; decide), e] at h
  exact ⟨by rw [h.2.2, h.2.1], h.2.1, h.1⟩

example : (rcTail ⟨0, 0, 0, 0, 0, 1, 63, 37, 37, 0, 0, 0, 0, 0, 0, 0, 0⟩).baseQIdx = 148 := by decide +kernel

/-- **Fixed qindex offsets** (`use_fixed_qindex_offsets == 1`, mode 0): the index is the configured QP's index plus the
    configured offset of the frame's class (key/intra-only: `key_frame_qindex_offset`; otherwise the temporal layer's
    `qindex_offsets[layer]`), clamped to `[quantizer_to_qindex[min], quantizer_to_qindex[max]]` (a true clamp,
    `max lo (min hi x)`), for offsets that do not overflow `int32`. -/
theorem fixed_offsets_spec (i : RcIn) (hm : i.rcMode = 0) (hf : i.fixedOffsets = 1)
    (h0 : 0 ≤ i.minQp) (h1 : i.minQp ≤ i.maxQp) (h2 : i.maxQp ≤ 63) (hq0 : 0 ≤ i.qp) (hq1 : i.qp ≤ 63)
    (off : Int) (hoff : off = if i.intraOnly = 0 then i.layerOffset else i.keyOffset)
    (ho0 : -(2 ^ 31) ≤ off) (ho1 : off < 2 ^ 31 - 255) :
    (rcTail i).branch = 1 ∧
    (rcTail i).baseQIdx = max (q2q i.minQp) (min (q2q i.maxQp) (q2q i.qp + off)) := by
  obtain ⟨e1, e2, _⟩ := bounds_wrap h0 h1 h2
  have e3 : wrapU32 i.qp = i.qp := wrapU_of_range hq0 (by omega)
  have e4 : wrapU8 i.qp = i.qp := wrapU_of_range hq0 (by omega)
  have r3 := q2q_range i.qp hq0 hq1
  have o1 : wrapI32 off = off := Bits.wrapS32_id off ho0 (by omega)
  have o2 : wrapI32 (q2q i.qp + off) = q2q i.qp + off := Bits.wrapS32_id _ (by omega) (by omega)
  have h := rcTail_cqp i (by rw [hm]; rfl)
  rw [if_pos (by rw [hf]; rfl)] at h
  refine ⟨h.1, ?_⟩
  rw [h.2.1, e1, e2, e3, e4, ← hoff, clampQidx_eq h0 h1 h2, clip3_eq_max_min _ _ _ (q2q_le _ _ h0 h1 h2), o1, o2]

example : (rcTail ⟨0, 1, 0, 0, 0, 1, 63, 20, 20, 20, 1, 5, -100, 3, -7, 0, 0⟩).baseQIdx = 4 := by decide +kernel

/-- Fixed offsets all zero and `min ≤ qp ≤ max`: exactly the configured QP's index. -/
theorem fixed_zero_offsets_exact (i : RcIn) (hm : i.rcMode = 0) (hf : i.fixedOffsets = 1)
    (h0 : 0 ≤ i.minQp) (h1 : i.minQp ≤ i.qp) (h2 : i.qp ≤ i.maxQp) (h3 : i.maxQp ≤ 63)
    (hl : i.layerOffset = 0) (hk : i.keyOffset = 0) :
    (rcTail i).baseQIdx = q2q i.qp := by
  have hoff : (0 : Int) = if i.intraOnly = 0 then i.layerOffset else i.keyOffset := by rw [hl, hk]; simp
  have := (fixed_offsets_spec i hm hf h0 (by omega) h3 (by omega) (by omega) 0 hoff (by decide) (by decide)).2
  rw [this, Int.add_zero, min_eq_right (q2q_le i.qp i.maxQp (by omega) h2 h3),
    max_eq_right (q2q_le i.minQp i.qp h0 h1 (by omega))]

/-- qp-on-the-fly (per-picture QP from the application, `use_qp_file`): the index is the table entry of the supplied
    QP clamped to `[min, max]`. -/
theorem on_the_fly_spec (i : RcIn) (hm : i.rcMode = 0) (hf : i.fixedOffsets ≠ 1) (hfr : 0 ≤ i.fixedOffsets ∧ i.fixedOffsets < 256)
    (ho : i.onTheFly = 1)
    (h0 : 0 ≤ i.minQp) (h1 : i.minQp ≤ i.maxQp) (h2 : i.maxQp ≤ 63) (hp : 0 ≤ i.parentPicQp ∧ i.parentPicQp < 256) :
    (rcTail i).branch = 3 ∧ (rcTail i).baseQIdx = q2q (max i.minQp (min i.maxQp i.parentPicQp)) := by
  obtain ⟨e1, e2, i1, i2⟩ := bounds_wrap h0 h1 h2
  have e5 : wrapU8 i.parentPicQp = i.parentPicQp := wrapU_of_range hp.1 hp.2
  have e6 : wrapU8 i.fixedOffsets = i.fixedOffsets := wrapU_of_range hfr.1 hfr.2
  have o1 : wrapU8 i.onTheFly = 1 := by rw [ho]; rfl
  have h := rcTail_cqp i (by rw [hm]; rfl)
  rw [if_neg (by rw [e6]; exact hf), if_neg (fun h => absurd (o1 ▸ h.2) (by decide)), if_pos o1] at h
  refine ⟨h.1, ?_⟩
  rw [h.2.2, h.2.1, e1, e2, e5, i1, i2, wrapU8_clip3 _ _ _ h0 h1 (by omega), clip3_eq_max_min _ _ _ h1]

/-- **Recode loop**: whatever `q` the recode loop proposes, the re-assigned `base_q_idx` and `picture_qp` stay in bounds. -/
theorem recode_in_bounds (mn mx q : Int) (h0 : 0 ≤ mn) (h1 : mn ≤ mx) (h2 : mx ≤ 63) :
    q2q mn ≤ (recodeClamp mn mx q).1 ∧ (recodeClamp mn mx q).1 ≤ q2q mx ∧
    mn ≤ (recodeClamp mn mx q).2 ∧ (recodeClamp mn mx q).2 ≤ mx := by
  have h := recodeClamp_inv h0 h1 h2 q
  exact ⟨h.lo, h.hi, h.qp_bounds h1⟩

example : recodeClamp 10 40 255 = (160, 40) := by decide +kernel

/-- `min = max` pins the quantizer: every assigning branch yields exactly that QP's index. -/
theorem min_eq_max_pins (i : RcIn) (h0 : 0 ≤ i.minQp) (h1 : i.minQp = i.maxQp) (h2 : i.maxQp ≤ 63)
    (hb : (rcTail i).branch ≠ 0) : (rcTail i).baseQIdx = q2q i.minQp := by
  have := baseQIdx_in_bounds i h0 (by omega) h2 hb
  rw [← h1] at this
  omega

/-- **The packet's `qp` and the frame header agree.** On every assigning branch the frame-level `picture_qp` (what the output
    packet reports as `qp`, EbPacketizationProcess.c:684) is `CLIP3(min, max, (base_q_idx + 2) >> 2)` of the FINAL `base_q_idx`
    — including the branches that go the other way round (`base_q_idx = quantizer_to_qindex[picture_qp]`), because
    `(quantizer_to_qindex[p] + 2) >> 2 = p` for `p < 63` and `64` for `p = 63`. -/
theorem pictureQp_consistent (i : RcIn) (h0 : 0 ≤ i.minQp) (h1 : i.minQp ≤ i.maxQp) (h2 : i.maxQp ≤ 63)
    (hb : (rcTail i).branch ≠ 0) :
    (rcTail i).pictureQp = clip3 i.minQp i.maxQp (shr ((rcTail i).baseQIdx + 2) 2) :=
  (rcTail_inv i h0 h1 h2 hb).qp

example : (rcTail ⟨2, 0, 1, 0, 0, 10, 63, 50, 50, 50, 0, 0, 0, 0, 0, 0, 200⟩).pictureQp = 63 ∧
    (rcTail ⟨2, 0, 1, 0, 0, 10, 63, 50, 50, 50, 0, 0, 0, 0, 0, 0, 200⟩).baseQIdx = 255 := by decide +kernel

/-- Same for the recode loop. -/
theorem recode_consistent (mn mx q : Int) (h0 : 0 ≤ mn) (h1 : mn ≤ mx) (h2 : mx ≤ 63) :
    (recodeClamp mn mx q).2 = clip3 mn mx (shr ((recodeClamp mn mx q).1 + 2) 2) :=
  (recodeClamp_inv h0 h1 h2 q).qp

/-- `effCfg` (hand-written) is the GENERATED `copy_api_from_app` on the four members the tail depends on, for every well-typed
    application configuration and every prior sequence-control-set state. -/
theorem effCfg_is_copyApi (s : Gen.Config.Scs) (c : Gen.Config.Cfg) (hc : c.WellTyped) :
    (Gen.Config.copyApi s c).static_config_min_qp_allowed = (effCfg (apiOf c)).minQp ∧
    (Gen.Config.copyApi s c).static_config_max_qp_allowed = (effCfg (apiOf c)).maxQp ∧
    (Gen.Config.copyApi s c).static_config_enable_qp_scaling_flag = (effCfg (apiOf c)).qpScaling ∧
    (Gen.Config.copyApi s c).static_config_use_qp_file = (effCfg (apiOf c)).useQpFile :=
  effCfg_eq_copyApi s c hc

/-- **C18 for every configuration the library accepts.** Let `c` be any well-typed application configuration that the generated
    `svt_av1_enc_set_parameter` model accepts (operational form: `verify_settings (copy_api_from_app (defaults s0) c)`), from any
    prior handle state `s0`.  Let the tail run with the sequence control set that call produced (its min/max QP, scaling flag and
    fixed-offsets flag), with `qp_on_the_fly ∈ {0,1}` (EbResourceCoordinationProcess.c:1047-1055) and ANY other input — RC mode
    seen by the tail, frame type, layer offsets, upstream `new_qindex` / `picture_qp`.  Then the frame's `base_q_idx` lies between
    `quantizer_to_qindex` of the effective minimum and maximum QP, and those are the application's `min_qp_allowed` /
    `max_qp_allowed` whenever rate control is on, and 1 / 63 in CQP. -/
theorem api_baseQIdx_in_bounds (s0 : Gen.Config.Scs) (c : Gen.Config.Cfg) (hc : c.WellTyped)
    (hacc : Gen.Config.setParameterAcceptsOperational s0 c = true) (i : RcIn)
    (hmin : i.minQp = (Gen.Config.copyApi (Gen.Config.setDefaults s0) c).static_config_min_qp_allowed)
    (hmax : i.maxQp = (Gen.Config.copyApi (Gen.Config.setDefaults s0) c).static_config_max_qp_allowed)
    (hsc : i.qpScaling = (Gen.Config.copyApi (Gen.Config.setDefaults s0) c).static_config_enable_qp_scaling_flag)
    (hfx : i.fixedOffsets = (Gen.Config.copyApi (Gen.Config.setDefaults s0) c).static_config_use_fixed_qindex_offsets)
    (ho : i.onTheFly = 0 ∨ i.onTheFly = 1) :
    q2q i.minQp ≤ (rcTail i).baseQIdx ∧ (rcTail i).baseQIdx ≤ q2q i.maxQp ∧
    i.minQp = (if c.rate_control_mode = 0 then 1 else c.min_qp_allowed) ∧
    i.maxQp = (if c.rate_control_mode = 0 then 63 else c.max_qp_allowed) := by
  have hv := verify_bounds _ hacc
  obtain ⟨f1, f2, _, _, f5⟩ := copyApi_qp_fields (Gen.Config.setDefaults s0) c
  have g3 := (effCfg_eq_copyApi (Gen.Config.setDefaults s0) c hc).2.2.1
  rw [← hmin, ← hmax] at hv
  have mn0 : 0 ≤ i.minQp := by
    rw [hmin, f1]
    have := hc.min_qp_allowed
    split_ifs <;> omega
  have hb : (rcTail i).branch ≠ 0 := by
    apply branch0_unreachable (apiOf c) i (by rw [hsc, g3]) (by rw [hfx, f5]; rfl) ho
  have hbd := baseQIdx_in_bounds i mn0 hv.2.2 hv.1 hb
  refine ⟨hbd.1, hbd.2, ?_, ?_⟩
  · simp [hmin, f1]
  · simp [hmax, f2]

open Gen.Config in
/-- Non-vacuity: the library defaults at 128x64 with VBR and bounds [20, 40] are accepted. -/
example : setParameterAcceptsOperational {}
    { initParam {} with source_width := 128, source_height := 64, rate_control_mode := 1, min_qp_allowed := 20, max_qp_allowed := 40 } = true := by
  decide +kernel

end C18
