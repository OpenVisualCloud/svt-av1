/-
  C25 — the entropy coder round-trips every symbol sequence: proved for every byte string whose value lies in the writer's
  final interval (`ec_roundtrip_partial`); that `svt_od_ec_enc_done` emits such a string is NOT proved here.
  The model is SvtVerif/Model/RangeCoder.lean (writer = EbBitstreamUnit.c, reader = EbDecBitstreamUnit.h /
  EbDecBitReader.h, adaptation = update_cdf / dec_update_cdf); the lemmas are in SvtVerif/Lemmas/RangeCoder*.lean.
-/
import SvtVerif.Lemmas.RangeCoderSync

namespace C25
open RangeCoder

/-- `update_cdf` (writer, EbCabacContextModel.h:523, `AomCdfProb tmp`) and `dec_update_cdf` (reader,
    EbDecBitstreamUnit.h:73, `int tmp` and an extra `(AomCdfProb)` cast) compute the same table — for EVERY table of
    `uint16` entries, every symbol and every alphabet size, not only for valid ones. -/
theorem update_cdf_eq (c : List Nat) (s n : Nat) (h : IsU16List c) : updateCdf c s n = decUpdateCdf c s n :=
  updateCdf_eq_dec c s n h

/-- On valid tables in particular. -/
theorem update_cdf_eq_valid (c : List Nat) (s n : Nat) (h : ValidCdf c n) : updateCdf c s n = decUpdateCdf c s n :=
  updateCdf_eq_dec c s n h.isU16

/-- Adaptation preserves validity: `n+1` entries, first ≤ 32767, non-increasing, entry `n-1` is 0, counter ≤ 32.
    So tables stay legal inputs of the coder for the whole stream. -/
theorem update_cdf_valid (c : List Nat) (s n : Nat) (h : ValidCdf c n) : ValidCdf (updateCdf c s n) n :=
  updateCdf_valid c s n h

example : ValidCdf [16384, 0, 0] 2 := validCdf_half
example : updateCdf [16384, 0, 31] 1 2 = [16896, 0, 32] := by decide
example : IsU16List [16384, 0, 31] := by intro x hx; simp at hx; omega

/-- For every range `32768 ≤ r < 65536` and every valid `n`-symbol table (`n ≤ 16`), the scaled cumulative values
    computed by `od_ec_encode_q15` / `od_ec_decode_cdf_q15` satisfy `r = u₀ > v₀ = u₁ > v₁ = … > v_{n-1} = 0`:
    every symbol — even one of probability zero — gets a non-empty sub-interval `[v_s, u_s)`, the sub-intervals are
    adjacent, and together they tile `[0, r)`. -/
theorem partition (r : Nat) (c : List Nat) (n : Nat) (hr0 : 32768 ≤ r) (hr : r < 65536) (h : ValidCdf c n) :
    symU r c (n - 1) 0 = r ∧ symV r c (n - 1) (n - 1) = 0 ∧
    ∀ s, s < n → symV r c (n - 1) s < symU r c (n - 1) s ∧ symU r c (n - 1) (s + 1) = symV r c (n - 1) s ∧
      symU r c (n - 1) s ≤ r :=
  RangeCoder.partition r c n hr0 hr h

/-- the margin is tight: with 16 symbols all of probability ~0 below the first, `r − v₀` is exactly 4 at `r = 32768` -/
example : symV 32768 ([32767] ++ List.replicate 15 0 ++ [0]) 15 0 = 32764 := by decide

/-- The reader's search loop `do { … } while (c < v)` (EbDecBitstreamUnit.h:211-216) returns exactly the symbol whose
    sub-interval contains the 16-bit window value, together with that sub-interval. -/
theorem search_finds_symbol (r : Nat) (c : List Nat) (n s cc : Nat) (hr0 : 32768 ≤ r) (hr : r < 65536)
    (h : ValidCdf c n) (hs : s < n) (hv : symV r c (n - 1) s ≤ cc) (hu : cc < symU r c (n - 1) s) :
    decSearch r cc (n - 1) 0 r (c.take n) = (s, symU r c (n - 1) s, symV r c (n - 1) s) :=
  decSearch_finds r c n s cc hr0 hr h hs hv hu

example : decSearch 40000 20000 1 0 40000 ([16384, 0, 0].take 2) = (0, 40000, 19972) := by decide

/-- **dec_step_inverts_enc_step**: one primitive (a symbol of a valid table, or a bool with `0 < f < 32768`).
    If the final code value `X` lies in the writer's interval after the step, the abstract reader, which sees only the
    probability model, returns the value that was written, and its state `(D, r, e)` keeps mirroring the writer's
    `(L, r, k)`: `D = (L + r)·2^e − X − 1`. -/
theorem dec_step_inverts_enc_step (X T : Nat) (a : AEnc) (b : ADec) (p : Prim) (ha : AInv a) (hp : p.Valid)
    (hc : Cont X T (aEncPrim a p)) (hr : Rel X T a b) :
    (aDecPrim b p).2 = p.value ∧ Rel X T (aEncPrim a p) (aDecPrim b p).1 :=
  aDecPrim_correct X T a b p ha hp hc hr

/-- **ec_roundtrip_abstract**: for EVERY sequence of valid primitives, every `T`-bit code value `X` inside the final
    interval of the abstract writer is decoded by the abstract reader to exactly the written sequence. -/
theorem ec_roundtrip_abstract (ps : List Prim) (X T : Nat) (hv : ∀ p ∈ ps, p.Valid)
    (hc : Cont X T (aEncPrims aEncInit ps)) :
    aDecPrims { D := 2 ^ T - 1 - X, r := 32768, e := T - 15 } ps = ps.map Prim.value :=
  have ha : AInv aEncInit := ⟨by decide, by decide⟩
  aDecPrims_correct X T ps aEncInit _ ha hv hc (rel_init X T ((aEncPrims_spec ps aEncInit ha hv).2.2 X T hc))

/-- non-vacuity: the final interval is never empty — e.g. its low end, at any precision `T ≥ k + 15`, is inside. -/
theorem final_interval_nonempty (a : AEnc) (T : Nat) (hr : 0 < a.r) (hT : a.k + 15 ≤ T) :
    Cont (a.L * 2 ^ (T - 15 - a.k)) T a := by
  refine ⟨T - 15 - a.k, by omega, Nat.le_refl _, ?_⟩
  exact Nat.mul_lt_mul_of_pos_right (by omega) (Nat.two_pow_pos _)

example : aDecPrims { D := 2 ^ 40 - 1 - 0, r := 32768, e := 25 }
    [.bool 16384 0, .sym [16384, 0, 0] 2 0] = [0, 0] := by decide

/-- **writer_refines_abstract**: for every reachable writer state and every well-formed call of
    `aom_write_symbol` / `aom_write` / `aom_write_literal`, the state after the call satisfies the invariant
    (`−9 ≤ cnt ≤ −1`, `32768 ≤ rng < 65536`, `low + rng ≤ 2^(cnt+25)` — so the 32-bit window never overflows)
    and the exact interval `precarry·2^(cnt+24) + low` is what the abstract encoder computes:
    carries are deferred into the 16-bit precarry cells, never lost. -/
theorem writer_refines_abstract (w : Writer) (op : Op) (hi : EncInv w.enc) (hv : OpValid w.tabs op) :
    EncInv (writeOp w op).enc ∧ absEnc (writeOp w op).enc = aEncPrims (absEnc w.enc) (opPrims w.tabs op) :=
  writeOp_spec w op hi hv

example : EncInv encInit := encInit_inv
example : OpValid [[16384, 0, 0]] (.sym 0 1) := ⟨by decide, validCdf_half, by decide⟩

/-- **reader_refines_abstract**: one `od_ec_decode_cdf_q15` / `od_ec_decode_bool_q15` call. If the reader state mirrors
    the abstract decoder state (`DecRel`: the 32-bit window `dif` holds the top bits of `D`, its not-yet-filled low bits
    are ones, the unread bytes — zero-extended past the end of the buffer — account for the rest) and the 16-bit window
    value lies in the primitive's sub-interval, then the real reader returns that primitive's value and its new state
    (after `od_ec_dec_normalize` and any `od_ec_dec_refill`, including refills that hit the end of the buffer) mirrors
    the abstract decoder's new state. `Z` is the amount of zero padding the abstract stream carries. -/
theorem reader_refines_abstract (Z : Nat) (dc : Dec) (b : ADec) (p : Prim) (hR : DecRel Z dc b) (hp : p.Valid)
    (hv : primV b.r p ≤ b.D / 2 ^ b.e) (hu : b.D / 2 ^ b.e < primU b.r p)
    (he : 16 + normShift (primU b.r p - primV b.r p) ≤ b.e) :
    (decodePrim dc p).2 = p.value ∧ DecRel Z (decodePrim dc p).1 (aDecStep b (primU b.r p) (primV b.r p)) :=
  readPrim_spec Z dc b p hR hp hv hu he

/-- `od_ec_dec_init` on ANY byte string (also the empty one) establishes the relation. -/
theorem reader_init_refines (Z : Nat) (bytes : List Nat) (hb : ∀ x ∈ bytes, x < 256) (hZ : 31 ≤ 8 * bytes.length + Z) :
    DecRel Z (decInit bytes)
      { D := 2 ^ (8 * bytes.length + Z) - 1 - valBE bytes * 2 ^ Z, r := 32768, e := 8 * bytes.length + Z - 15 } :=
  decInit_spec Z bytes hb hZ

example : DecRel 40 (decInit []) { D := 2 ^ 40 - 1 - 0, r := 32768, e := 25 } := by
  have := decInit_spec 40 [] (by simp) (by simp)
  simpa [valBE] using this

theorem readOpsAux_shape : ∀ (ops : List Op) (r : Reader) (acc : List Nat),
    readOpsAux r acc (ops.map Op.shape) = readOpsAux r acc ops := by
  intro ops
  induction ops with
  | nil => intro r acc; rfl
  | cons op ops ih =>
    intro r acc
    simp only [List.map_cons, readOpsAux, readOp_shape, ih]

/-
  The property itself is


    theorem ec_roundtrip (tabs : Tables) (adapt : Bool) (ops : List Op) (hv : OpsValid tabs ops) :
        let w := writeOps { enc := encInit, tabs := tabs, adapt := adapt } ops
        let rd := readOps { dec := decInit (encDone w.enc), tabs := tabs, adapt := adapt } (ops.map Op.shape)
        rd.2 = ops.map Op.value ∧ rd.1.tabs = w.tabs

  It is `ec_roundtrip_partial` below at `bytes := encDone w.enc`, given a fact that is NOT proved in this development:

    EncInv e → (absEnc e).L + e.rng ≤ 2 ^ (15 + (absEnc e).k) →
        (∀ x ∈ encDone e, x < 256) ∧ Cont (valBE (encDone e) * 2 ^ Z) (8 * (encDone e).length + Z) (absEnc e)

  i.e. `svt_od_ec_enc_done`'s rounding `e = ((l + 0x3FFF) & ~0x3FFF) | 0x4000` lands in `[l, l + 2^15) ⊆ [l, l + rng)`, the
  dropped low bits of `e` are zero, and the carry-propagation loop turns the precarry cells into the base-256 digits
  of `precarry·2^(cnt+24) + e` without a carry out of the first byte.  Of `encDone` only the number of bytes is proved
  (`tell_bounds_bytes`); for their value there is only the byte-exact correspondence run of checks/c25.py.
-/

/-- **ec_roundtrip_partial**: for EVERY well-formed operation sequence (symbols of any alphabet size 2..16 over valid
    tables, bools, literals, adaptation switched on/off anywhere), and for EVERY byte string whose value lies in the
    real writer's final interval, the real reader — `od_ec_dec_init`, `od_ec_decode_cdf_q15`, `od_ec_decode_bool_q15`,
    `aom_read_literal_`, `od_ec_dec_refill` with zero-extension past the end, `dec_update_cdf` — returns exactly the
    written values and ends with exactly the writer's probability tables.
    That `svt_od_ec_enc_done`'s bytes are such a string is the unproved fact stated above. -/
theorem ec_roundtrip_partial (tabs : Tables) (adapt : Bool) (ops : List Op) (bytes : List Nat) (Z : Nat)
    (hv : OpsValid tabs ops) (hb : ∀ x ∈ bytes, x < 256)
    (hc : Cont (valBE bytes * 2 ^ Z) (8 * bytes.length + Z)
      (absEnc (writeOps { enc := encInit, tabs := tabs, adapt := adapt } ops).enc))
    (hZ : (absEnc (writeOps { enc := encInit, tabs := tabs, adapt := adapt } ops).enc).k + 31 ≤ 8 * bytes.length + Z) :
    (readOps { dec := decInit bytes, tabs := tabs, adapt := adapt } (ops.map Op.shape)).2 = ops.map Op.value ∧
    (readOps { dec := decInit bytes, tabs := tabs, adapt := adapt } (ops.map Op.shape)).1.tabs =
      (writeOps { enc := encInit, tabs := tabs, adapt := adapt } ops).tabs := by
  have hD := decInit_spec Z bytes hb (by omega)
  have hR := rel_init _ _
    (absEnc_encInit ▸ (writeOps_spec ops { enc := encInit, tabs := tabs, adapt := adapt } encInit_inv hv).2.2 _ _ hc)
  rw [← absEnc_encInit] at hR
  have S := readOps_sync (valBE bytes * 2 ^ Z) (8 * bytes.length + Z) Z ops
    { enc := encInit, tabs := tabs, adapt := adapt } { dec := decInit bytes, tabs := tabs, adapt := adapt } _ []
    encInit_inv hv rfl rfl hc hZ hR hD
  rw [readOps, readOpsAux_shape]
  exact S

/-- non-vacuity of `ec_roundtrip_partial`: the bytes the model's `enc_done` emits for a concrete sequence satisfy the
    hypotheses (checked by evaluation), and the conclusion is the round trip of that sequence. -/
example : (readOps { dec := decInit (encDone (writeOps { enc := encInit, tabs := [[16384, 0, 0]], adapt := true }
      [.sym 0 1, .bool 16384 1, .lit 3 5]).enc), tabs := [[16384, 0, 0]], adapt := true }
      ([Op.sym 0 1, .bool 16384 1, .lit 3 5].map Op.shape)).2 = [1, 1, 5] := by decide

/-- **tell_bounds_bytes**: after ANY well-formed operation sequence, `⌈svt_od_ec_enc_tell / 8⌉` is exactly the
    number of bytes `svt_od_ec_enc_done` emits; in particular the estimate never under-reports the bytes emitted
    (`8·bytes < tell + 8`). (`enc_done` does not write `offs`/`cnt` back, so `tell` is the same before and after.) -/
theorem tell_bounds_bytes (tabs : Tables) (adapt : Bool) (ops : List Op) (hv : OpsValid tabs ops) :
    let w := writeOps { enc := encInit, tabs := tabs, adapt := adapt } ops
    (encTell w.enc + 7) / 8 = ((encDone w.enc).length : Int) ∧ 8 * ((encDone w.enc).length : Int) < encTell w.enc + 8 := by
  intro w
  have hi : EncInv w.enc := (writeOps_spec ops _ encInit_inv hv).1
  have h := tell_eq_bytes w.enc hi
  exact ⟨h, by omega⟩

example : OpsValid [] [.bool 16384 1, .lit 3 5, .adapt true] := by
  intro op hop
  simp at hop
  rcases hop with rfl | rfl | rfl
  · exact ⟨by decide, by decide, by decide⟩
  · show 5 < 2 ^ 3; decide
  · trivial

end C25
