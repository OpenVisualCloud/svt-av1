/-
  C27 — output and progress do not depend on how the application paces its calls.

  "For any application that, between consecutive picture submissions, retrieves every packet (and, with recon
   enabled, every reconstructed picture) that is currently available or retrieves nothing, and that drains everything
   after end-of-stream, encoding of the whole stream completes whenever the application drains after each submission,
   and every call pattern that completes yields the same packets and reconstructed pictures."

  What is proved here (machine-checked, all interleavings):
   * the non-blocking getter `svt_get_full_object_non_blocking` (EbSystemResourceManager.c:679-704; the only way
     `svt_av1_enc_get_packet(…, 0)` and `svt_av1_get_recon` look at their queues) on the C23 model of the SRM:
     `nonblocking_never_blocks`, `nonblocking_token_stable`, `nonblocking_returns_iff_available`,
     `idempotent_registration`;
   * the Kahn argument (`Model/Kahn.lean`): `output_indep_of_polling` — under hypothesis H-kahn (every stage of the
     encoder is a prefix-monotone function of its input histories: no library code branches on the emptiness of an
     application-facing queue or on time) the packet / recon sequences of every run that completes are a function of
     the submitted sequence alone, whatever the submission pacing, polling pattern and pool sizes;
   * `pool_sufficient_partial` (`Lemmas/Chain.lean`, over `Model/Chain.lean`): an abstract LINEAR chain of stages
     with bounded pools and per-stage demand `k i ≤ pool i` never deadlocks when the application drains after each submission.  The demands
     `k i` of the real pipeline (look-ahead, mini-GOP buffering, reference pictures …) are NOT derived from the code,
     and the real pipeline is not a linear chain (feedback queues): the progress half of the property is exercised by
     the call-pattern sweep of checks/c27.py only.
  H-kahn is a hypothesis; checks/c27.py checks its syntactic part on the source on every run (callers of the
  non-blocking getter, reviewed list of time reads) and exercises it by the call-pattern sweep.
-/
import SvtVerif.Props.C23
import SvtVerif.Lemmas.SrmNb
import SvtVerif.Lemmas.Kahn
import SvtVerif.Lemmas.Chain
import SvtVerif.Spec.HKahnAllow
import SvtVerif.Gen.HKahn

namespace C27
open Srm

/-- **A poll never blocks.**  In every reachable state of the SRM (any interleaving of any threads), for the thread
    polling consumer fifo `f` with `svt_get_full_object_non_blocking`:
    (1) its registration step (line 684) and its peek step (687-696) are never blocked — they contain no semaphore wait;
    (2) if the peek finds the fifo empty (or shutting down) the call returns NULL at once (line 701): the thread is
        back to idle and no semaphore was touched;
    (3) if the peek finds an object, the fifo is non-empty and not shutting down, and the blocking
        `svt_get_full_object` the call then issues (line 699) does not wait: after its registration step the
        semaphore count is positive (invariant I3 of C23: `sem = |items|` for a thread at the wait). -/
theorem nonblocking_never_blocks {s : State} (h : Reachable s) (f : Nat) :
    step s (.nbReg f) ≠ .blocked ∧ step s (.peek f) ≠ .blocked ∧
    (∀ s1, step s (.peek f) = .ok s1 .null → s1.pc .full f = .idle ∧ s1.sem = s.sem ∧ s1.items = s.items) ∧
    (∀ s1, step s (.peek f) = .ok s1 .nonEmpty → s1.items .full f ≠ [] ∧ s1.quit .full f = false ∧
      ∀ s2 r2, step s1 (.reg .full f) = .ok s2 r2 →
        s2.pc .full f = .waiting ∧ ∃ s3, step s2 (.semWait .full f) = .ok s3 .ok) := by
  refine ⟨nbReg_not_blocked s f, peek_not_blocked s f, ?_, ?_⟩
  · intro s1 h1
    have ht := step_Tr h1
    cases ht
    exact ⟨by simp [upd2], rfl, rfl⟩
  · intro s1 h1
    have hr1 : Reachable s1 := Reachable.step h (by simp [WellUsed]) h1
    have ht := step_Tr h1
    cases ht
    case peekSome hpc hq hi =>
      refine ⟨hi, hq, ?_⟩
      intro s2 r2 h2
      have := nb_call_token hr1 hi hq h2
      exact ⟨this.1, this.2.2⟩

example : ∃ s s1, Reachable s ∧ step s (.peek 0) = .ok s1 .nonEmpty := by
  obtain ⟨s, hr, hp⟩ := exists_reachable_of_run 2 1 1
    [.reg .empty 0, .semWait .empty 0, .pop .empty 0, .post 0, .nbReg 0]
    (fun s => (step s (.peek 0)).ret? = some .nonEmpty) (by decide)
  obtain ⟨s1, hs⟩ := Res.ret?_some hp
  exact ⟨s, s1, hr, hs⟩

example : ∃ s s1, Reachable s ∧ step s (.peek 0) = .ok s1 .null := by
  obtain ⟨s, hr, hp⟩ := exists_reachable_of_run 2 1 1 [.nbReg 0]
    (fun s => (step s (.peek 0)).ret? = some .null) (by decide)
  obtain ⟨s1, hs⟩ := Res.ret?_some hp
  exact ⟨s, s1, hr, hs⟩

/-- **Nobody can take the polled object away.**  Between the peek and the semaphore wait of a poll, steps of OTHER
    threads (anything except the five ops of fifo `f`'s own thread) neither move that thread's program counter nor
    empty its fifo; together with `C23.srm_wake` (a waiting thread whose fifo is non-empty can take its semaphore in
    every reachable state) the wait of line 699 stays enabled under every interleaving. -/
theorem nonblocking_token_stable {s s' : State} {op : Op} {r : Ret} (hs : step s op = .ok s' r) (f : Nat)
    (h1 : op ≠ .reg .full f) (h2 : op ≠ .nbReg f) (h3 : op ≠ .peek f) (h4 : op ≠ .semWait .full f)
    (h5 : op ≠ .pop .full f) :
    s'.pc .full f = s.pc .full f ∧ (s.items .full f ≠ [] → s'.items .full f ≠ []) :=
  ⟨Tr_pc_other (step_Tr hs) .full f h1 (Or.inl h2) (Or.inl h3) h4 h5,
   Tr_items_ne (step_Tr hs) .full f h5⟩

example : ∃ (s s' : State) (r : Ret), step s (.post 0) = .ok s' r := by
  obtain ⟨s, _, hp⟩ := exists_reachable_of_run 2 1 1 [.reg .empty 0, .semWait .empty 0, .pop .empty 0]
    (fun s => (step s (.post 0)).ret? = some .ok) (by decide)
  obtain ⟨s', hs⟩ := Res.ret?_some hp
  exact ⟨s, s', _, hs⟩

/-- **A poll returns an object iff one is available.**  For a poll of fifo `f` (registration step, then peek) started in
    a reachable state with the fifo not shut down: the peek answers "non-empty" iff the fifo already held an object
    or a posted object was waiting in the full ring (the registration puts the caller at the front of the process
    ring, so the assignation loop serves it first — I2 of C23).  With a single consumer fifo — the case of the two
    application-facing queues — that is: iff more objects have been posted than the application has taken. -/
theorem nonblocking_returns_iff_available {s s1 s2 : State} {r1 r2 : Ret} {f : Nat} (h : Reachable s)
    (h1 : step s (.nbReg f) = .ok s1 r1) (h2 : step s1 (.peek f) = .ok s2 r2) (hq : s.quit .full f = false) :
    (r2 = .nonEmpty ↔ (s.items .full f ≠ [] ∨ s.objQ .full ≠ [])) ∧
    (r2 = .null ∨ r2 = .nonEmpty) ∧
    (s.nProc .full = 1 → (r2 = .nonEmpty ↔ (s.taken .full 0).length < s.posted.length)) := by
  have ht1 := step_Tr h1
  have key : (r2 = .nonEmpty ↔ (s.items .full f ≠ [] ∨ s.objQ .full ≠ [])) ∧ (r2 = .null ∨ r2 = .nonEmpty) ∧ f < s.nProc .full := by
    cases ht1
    case nbReg pq hf hpc hp =>
      have hshape : ∃ rest, pq = f :: rest := by
        rcases pushProc_some hp with e | ⟨_, e⟩
        · exact ⟨_, e⟩
        · exact ⟨[], e⟩
      obtain ⟨rest, hrest⟩ := hshape
      have hit := register_items (s := s) (f := f) hrest .nbPeek true
      have hq1 : (assign .full { s with nbUsed := true, procQ := upd1 s.procQ .full pq,
                                        pc := upd2 s.pc .full f .nbPeek }).quit .full f = false := by
        rw [assign_quit]; exact hq
      have ht2 := step_Tr h2
      cases ht2
      case peekSome hpc2 hq2 hi2 =>
        exact ⟨⟨fun _ => hit.1 hi2, fun _ => rfl⟩, Or.inr rfl, hf⟩
      case peekNone hpc2 hn2 =>
        refine ⟨⟨fun e => (by cases e), fun hav => ?_⟩, Or.inl rfl, hf⟩
        exact absurd ⟨hq1, hit.2 hav⟩ hn2
  refine ⟨key.1, key.2.1, ?_⟩
  intro hn
  have hf0 : f = 0 := by have := key.2.2; omega
  subst hf0
  have hl : (s.taken .full 0).length + (s.items .full 0).length + (s.objQ .full).length
      = s.posted.length := by
    rw [← (C23.srm_fifo h).2.2 hn, List.length_append, List.length_append]
  rw [key.1, ← List.length_pos_iff, ← List.length_pos_iff]
  omega

example : ∃ s s1 s2 r1 r2, Reachable s ∧ step s (.nbReg 0) = .ok s1 r1 ∧ step s1 (.peek 0) = .ok s2 r2 ∧
    s.quit .full 0 = false ∧ s.nProc .full = 1 := by
  refine ⟨init 2 1 1, _, _, _, _, Reachable.init 2 1 1, rfl, rfl, rfl, rfl⟩

/-- **Repeated polling is idempotent on the process ring.**  In every reachable state each process ring holds at most
    `process_total_count` registrations — however many polls in a row found the queue empty (each of them
    re-registers the caller: with one consumer fifo the `push_front` on the full one-slot ring lands on the same
    slot, `C23.circbuf_refines_list`) — and, with one consumer fifo, a poll never overflows the ring. -/
theorem idempotent_registration {s : State} (h : Reachable s) :
    (∀ sd, (s.procQ sd).length ≤ s.nProc sd) ∧
    (s.nProc .full = 1 → ∀ w, step s (.nbReg 0) ≠ .ub w) := by
  refine ⟨procQ_le_nProc h, ?_⟩
  intro h1
  exact no_ub (reachable_Inv h) (by simp [WellUsed]) (by simp [ArgsOk, h1]) (Or.inr h1)

/-- three polls in a row of an empty one-consumer queue: the ring still holds one registration -/
example : ∃ s, Reachable s ∧ s.procQ .full = [0] ∧ s.nProc .full = 1 :=
  exists_reachable_of_run 2 1 1 [.nbReg 0, .peek 0, .nbReg 0, .peek 0, .nbReg 0, .peek 0] _ (by decide)

/-- **Hypothesis H-kahn, explicit and named.**  Seen from the application, the encoder is a Kahn network `N` whose
    only interaction with the application is the input channel(s) and the two output channels (packets, recon): every
    channel's producer writes a prefix-monotone function of the histories — i.e. no library code branches on the
    emptiness of an application-facing queue (the only callers of the non-blocking getter are the two API functions)
    or on time (the only clock reads feed latency reporting and the speed-control path, excluded by configuration).
    The syntactic part is checked on the source by checks/c27.py on every run; the rest is a hypothesis. -/
def HKahn {M : Type} (N : Kahn.Net M) : Prop := N.Monotone

/-- In the operational model (`Model/Kahn.lean`) the application's calls are ordinary
    steps chosen by the scheduler: `write c` on an input channel is a `svt_av1_enc_send_picture` (blocked while the input
    pool is exhausted: back-pressure), `read c` on an output channel is a successful `svt_av1_enc_get_packet` /
    `svt_av1_get_recon`; a poll that finds the queue empty changes nothing.  So a call pattern (drain after every
    send, every k sends, only at the end, random polling, delays) IS a schedule.  Under H-kahn any two runs on the same
    submitted sequence `inp` that complete deliver the same sequence on every output channel — whatever the two call
    patterns, thread schedules and pool sizes — and any run that has not completed has so far delivered a prefix of it. -/
theorem output_indep_of_polling {M : Type} {N₁ N₂ : Kahn.Net M} (ins outs : Nat → Prop) (inp : Nat → List M)
    (hk : HKahn N₁)
    (hin₁ : ∀ c, ins c → ∀ h, N₁.F c h = inp c) (hin₂ : ∀ c, ins c → ∀ h, N₂.F c h = inp c)
    (hstage : ∀ c, ¬ ins c → N₁.F c = N₂.F c)
    {s₁ s₂ : Kahn.State M} (h₁ : Kahn.Reachable N₁ s₁) (h₂ : Kahn.Reachable N₂ s₂) (c₂ : Kahn.Complete N₂ s₂) :
    (Kahn.Complete N₁ s₁ → ∀ c, outs c → s₁.hist c = s₂.hist c) ∧
    (∀ c, outs c → (s₁.hist c).take (s₁.rd c) <+: s₂.hist c) := by
  refine ⟨fun c₁ => Kahn.output_indep_of_polling ins outs inp hk hin₁ hin₂ hstage h₁ h₂ c₁ c₂, ?_⟩
  intro c _
  exact (List.take_prefix _ _).trans
    (Kahn.prefix_of_result hk (Kahn.F_eq_of_inputs ins inp hin₁ hin₂ hstage) h₁ c₂ c)

example : HKahn (Kahn.pipe [1, 2, 3] 1) ∧ (Kahn.pipe [1, 2, 3] 1).F = (Kahn.pipe [1, 2, 3] 3).F :=
  ⟨Kahn.pipe_monotone _ _, rfl⟩
example : ∃ s₁ s₂, Kahn.Reachable (Kahn.pipe [1, 2, 3] 1) s₁ ∧ Kahn.Reachable (Kahn.pipe [1, 2, 3] 3) s₂ ∧
    Kahn.Complete (Kahn.pipe [1, 2, 3] 1) s₁ ∧ Kahn.Complete (Kahn.pipe [1, 2, 3] 3) s₂ ∧ s₁.hist = s₂.hist :=
  Kahn.pipe_nonvacuous

/-- H-kahn is needed: a stage that tests its input queue for emptiness (`racy`/`latch` in `Model/Kahn.lean`) yields two
    completed runs with different outputs. -/
theorem hkahn_needed :
    ∃ (N : Kahn.Net Nat) (s₁ s₂ : Kahn.State Nat), Kahn.Reachable N s₁ ∧ Kahn.Reachable N s₂ ∧ Kahn.Complete N s₁ ∧
      Kahn.Complete N s₂ ∧ s₁.hist 1 ≠ s₂.hist 1 :=
  Kahn.monotone_needed

/-- H-kahn, syntactic part (regenerated from the source by checks/c27.py on every run, `Gen/HKahn.lean`): every call
    site of `svt_get_full_object_non_blocking` and every read of a clock / sleep in the encoder and common libraries
    is on the reviewed allow-list `Spec/HKahnAllow.lean` (API getters; latency stamps that only reach `n_tick_count`;
    the speed-control path, off by configuration; the definitions in EbTime.c; the guarded verification hook). -/
theorem hkahn_syntactic : Gen.HKahn.sites.all (fun s => HKahnAllow.allowed.contains s) = true := by
  -- every site is literally an entry of the allow-list: `x == x` suffices, no two strings are compared
  simp only [Gen.HKahn.sites, HKahnAllow.allowed, List.all_cons, List.all_nil, List.contains_cons,
    beq_self_eq_true, Bool.true_or, Bool.or_true, Bool.and_self]

/-- Abstract linear chain `Model/Chain.lean`: `m` stages, channel `i` with a pool of
    `pool i` objects, stage `i` must hold `k i` objects of its input pool before it emits one (look-ahead / mini-GOP
    style buffering; flushed at end of stream), `1 ≤ k i ≤ pool i`, output pool ≥ 1; a single-threaded application
    that after each `send` (blocking while pool 0 is exhausted) polls the output until it is empty and after the last
    picture keeps draining.  Every reachable state in which nothing can move has delivered all `N` pictures: the
    chain never deadlocks when the application drains after each submission — for all `m`, `pool`, `k`, `N`, all
    interleavings.  Every run has at most `N·(2m+4)` steps.
    PARTIAL with respect to the property: (a) the demands `k i` and pool sizes of the real pipeline
    (`load_default_buffer_configuration_settings`, look-ahead, reference and PA-reference pools) are NOT instantiated
    from the code; (b) the real pipeline is not a linear chain (feedback queues, pictures holding objects of several
    pools at once).  The full statement "for every configuration the real pool sizes dominate the pipeline's
    worst-case occupancy for every GOP shape, hence `drain after each send` always completes" is not proved; it is
    exercised by checks/c27.py (every drain-after-each-send run must complete). -/
theorem pool_sufficient_partial {P : Chain.Params} {s : Chain.State} (hw : P.WF) (hd : P.appDrains = true)
    (hr : Chain.Reachable P s) :
    (Chain.Stuck P s → s.delivered = P.N) ∧
    (s.app = .sending → ∃ i, i ≤ P.m ∧ Chain.occ P s i < P.pool i) ∧
    (∀ ops s', Chain.run P Chain.init ops = some s' → ops.length ≤ P.N * (2 * P.m + 4)) :=
  ⟨fun hs => Chain.pool_sufficient_partial hw hd hr hs, Chain.chain_room_inv hw hd hr,
   fun _ _ h => Chain.chain_run_length_le hw h⟩

example : ∃ P : Chain.Params, P.WF ∧ P.appDrains = true ∧ Chain.Reachable P Chain.init :=
  ⟨⟨2, fun _ => 3, fun _ => 2, 5, true⟩, ⟨fun _ _ => by simp, fun _ _ => by simp, by decide⟩, rfl, Chain.Reachable.init⟩

/-- The draining hypothesis is needed: an application that only sends and drains at the end deadlocks the chain as soon
    as the stream is longer than the pools can hold (the call pattern `drain only at the end` of the sweep is allowed
    to block for that reason). -/
theorem no_drain_deadlocks :
    ∃ (P : Chain.Params) (s : Chain.State), P.WF ∧ Chain.Reachable P s ∧ Chain.Stuck P s ∧ s.delivered < P.N :=
  Chain.no_drain_deadlocks

end C27
