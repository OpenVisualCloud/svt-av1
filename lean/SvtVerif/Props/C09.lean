/-
  C09 — multi-threaded decoding is safe and equals single-thread decoding.

  Model (SvtVerif/Model/DecWavefront.lean; tied to the real `decode_tile` / `decode_tile_row` /
  `decode_frame_tiles` text by harness/decwf.c on every run):
    `DecWf.step s g st op`  one atomic step of some worker in one row wavefront `s` (the reconstruction of a tile, or
                            the LF / CDEF / LR stage of a frame); `g r` = the row gate of row `r` is open.
                            `Reach s st` = any interleaving of the `s.n` workers, any gate behaviour.
    `DecWf.fstep F fs op`   the frame: all tiles, then LF → CDEF → LR, the gates computed from the row maps as in C.
  `ph r` : unpicked → gate (handed out, spinning on the row gate) → at j / busy j (column j: before / after its
  top-right spin) → tail → fin (row map stored).  `cnt` = columns finished (counter stored), `beg` = columns begun.
  `log` = ghost list of the (row, column) whose processing began, newest first.

  `PassSound s` (the spin test really waits for the upper-right neighbour) is a theorem for all four encodings at every
  width (`pass_sound`), not a hypothesis; the wavefront invariant behind the safety theorems below rests on it.  The case
  that needs care is a picture one SB wide (`nsync = 0` at the only column): the CDEF counter stores `sb_fbc + 1`, so the
  test `*prev < (sb_fbc + 1) + nsync` waits there too (finding C09-cdef-w1-no-row-sync concerns a test without the `+ 1`);
  checks/c09.py keeps one-SB-wide multi-row streams as regression cases.
-/
import SvtVerif.Lemmas.DecWavefrontDag
import SvtVerif.Lemmas.DecWavefrontFrame

namespace C09
open DecWf

/-- The top-right spin of every stage is sound at every width: leaving it for column `j` means the previous row has
    finished `min (j+2) W` columns.
    (recon: `*prev < MIN(sb_col + 2, tile_wd_in_sb)`, counter = absolute column + 1, init 0;
     LF: `*prev < MIN(x + 2, W - 1)`, counter = column, init -1; LR: `*prev < col + nsync`, counter = column, init -1;
     CDEF: `*prev < (sb_fbc + 1) + nsync`, unsigned counter = number of finished columns, init 0.) -/
theorem pass_sound (s : Stage) : PassSound s := passSound s

/-- The top-right spin of every stage is live at every width: a finished previous row never blocks a column. -/
theorem pass_live (s : Stage) : PassLive s := passLive s

/-- Safety, cone form: in every reachable state, under every interleaving of any number of workers, when
    the processing of column `j` of row `r` starts (step `dec r`), every superblock in its wavefront cone —
    the columns to its left in row `r`, and in row `r-k` the columns `< min (j+1+k) W` — has FINISHED (its progress
    counter is stored). -/
theorem decwf_safe_cone {s : Stage} {st st' : WSt} {g : Nat → Bool} {r : Nat}
    (hr : Reach s st) (h : step s g st (Op.dec r) = some st') :
    ∃ j, lget st.ph r = Ph.at j ∧ j < s.W ∧ (r, j) ∉ st.log ∧ st'.log = (r, j) :: st.log ∧
      ∀ r' j', cone s.W r j r' j' → r' < s.H ∧ j' < cnt s (lget st.ph r') := by
  have hi := reach_inv hr
  rcases step_cases hi h with b | ⟨r0, p, p', hr0, hp, t⟩
  · cases b
  · cases t with
    | @dec _ j hpass =>
      exact ⟨j, hp, (hi.col_lt r j hr0 (Or.inl hp)).1, hi.at_not_logged hp, rfl,
        fun r' j' => dec_cone hi (reach_wave hr) hr0 hp hpass⟩

/-- Safety, neighbour form: when SB `(r, j)` starts, its left, upper-left, upper and upper-right neighbours — where they
    exist in the tile / picture — have finished. -/
theorem decwf_safe {s : Stage} {st st' : WSt} {g : Nat → Bool} {r : Nat}
    (hr : Reach s st) (h : step s g st (Op.dec r) = some st') :
    ∃ j, lget st.ph r = Ph.at j ∧
      (1 ≤ j → j - 1 < cnt s (lget st.ph r)) ∧
      (1 ≤ r → 1 ≤ j → j - 1 < cnt s (lget st.ph (r - 1))) ∧
      (1 ≤ r → j < cnt s (lget st.ph (r - 1))) ∧
      (1 ≤ r → j + 1 < s.W → j + 1 < cnt s (lget st.ph (r - 1))) := by
  obtain ⟨j, hg, hjW, _, _, hc⟩ := decwf_safe_cone hr h
  have hj1 : j - 1 ≤ j := Nat.sub_le j 1
  exact ⟨j, hg, fun h1 => (hc r (j - 1) (Or.inl ⟨rfl, Nat.sub_lt h1 Nat.one_pos⟩)).2,
    fun h1 _ => (hc _ _ (cone_above h1 (Nat.le_trans hj1 (Nat.le_succ j)) (Nat.lt_of_le_of_lt hj1 hjW))).2,
    fun h1 => (hc _ _ (cone_above h1 (Nat.le_succ j) hjW)).2,
    fun h1 h2 => (hc _ _ (cone_above h1 (Nat.le_refl _) h2)).2⟩

/-- Exactly once: no superblock is processed twice (the begin events are pairwise distinct), and the log is
    exactly the set of begun columns: `(r, j)` is logged iff `j < beg (ph r)`. -/
theorem decwf_once {s : Stage} {st : WSt} (hr : Reach s st) :
    st.log.Nodup ∧ ∀ r j, (r, j) ∈ st.log ↔ (r < s.H ∧ j < beg s (lget st.ph r)) :=
  ⟨logok_nodup (reach_logok hr), (reach_inv hr).log_iff⟩

/-- the begin order respects the wavefront: whatever was begun earlier than `(r, j)` includes its whole cone -/
theorem decwf_order {s : Stage} {st : WSt} (hr : Reach s st) {post pre : List (Nat × Nat)}
    {r j : Nat} (hl : st.log = post ++ (r, j) :: pre) :
    (r, j) ∉ pre ∧ ∀ r' j', cone s.W r j r' j' → (r', j') ∈ pre := by
  have := reach_logok hr
  rw [hl] at this
  exact logok_split this

/-- Deadlock freedom relative to the row gates: in every reachable state in which some row has not published its row map, a step is
    enabled — unless the least unfinished row is held at a closed row gate (then the stage is waiting for the
    previous stage / the parser, not for itself).  Rows are handed out in order, so the least unfinished row never
    waits for a row of its own stage.  Needs at least one worker; needs no hypothesis on the spin test. -/
theorem decwf_deadlock_free {s : Stage} (g : Nat → Bool) (hn : 1 ≤ s.n) {st : WSt} (hr : Reach s st)
    (hfin : ¬ AllFin s st) :
    (∃ op st', step s g st op = some st') ∨
    (∃ r, r < s.H ∧ lget st.ph r = Ph.gate ∧ g r = false ∧ ∀ r', r' < r → lget st.ph r' = Ph.fin) :=
  progress g (reach_inv hr) hn hfin

/-- with all gates open a reachable state with unfinished work always has an enabled step -/
theorem decwf_deadlock_free_open {s : Stage} (hn : 1 ≤ s.n) {st : WSt} (hr : Reach s st)
    (hfin : ¬ AllFin s st) : ∃ op st', step s (fun _ => true) st op = some st' :=
  (decwf_deadlock_free _ hn hr hfin).resolve_right fun ⟨_, _, _, hg, _⟩ => Bool.noConfusion hg

/-- Termination: every execution from the initial state has at most `H·(2W+6) + 2n` steps (`mu` bounds the number of
    steps left), so every maximal execution ends in a state without enabled steps. -/
theorem decwf_terminates {s : Stage} {st : WSt} {k : Nat} (h : Steps s (initW s) k st) :
    k ≤ s.H * (2 * s.W + 6) + 2 * s.n := by
  have := steps_bounded (inv_init s) h
  have := mu_init s
  omega

/-- `mu` strictly decreases along every step, whatever the gates do. -/
theorem decwf_measure {s : Stage} {st st' : WSt} {g : Nat → Bool} {op : Op} (hr : Reach s st)
    (h : step s g st op = some st') : mu s st' < mu s st :=
  mu_step (reach_inv hr) h

/-- Completeness: in a reachable state without enabled steps, gates open, every row is finished and every superblock of
    the `Wb × H` grid (`Wb = W`, or 0 when the stage is disabled for the frame) has been processed — exactly once by
    `decwf_once`. -/
theorem decwf_complete {s : Stage} (hn : 1 ≤ s.n) {st : WSt} (hr : Reach s st)
    (hterm : ∀ op, step s (fun _ => true) st op = none) :
    AllFin s st ∧ ∀ r j, r < s.H → j < Wb s → (r, j) ∈ st.log := by
  have hall : AllFin s st := by
    apply Classical.byContradiction
    intro hfin
    obtain ⟨op, st', h⟩ := decwf_deadlock_free_open hn hr hfin
    rw [hterm op] at h; simp at h
  refine ⟨hall, ?_⟩
  intro r j h1 h2
  apply ((reach_inv hr).log_iff r j).2
  rw [hall r h1]
  exact ⟨h1, by simpa [beg] using h2⟩

/-- a finished row of a sound, enabled stage has every earlier row complete (all `W` counters stored): the row maps
    are stored in any order, but the wavefront inside the stage orders the work -/
theorem rows_below_complete {s : Stage} (hen : s.en = true) (hW : 1 ≤ s.W) {st : WSt}
    (hr : Reach s st) {r : Nat} (hf : lget st.ph r = Ph.fin) : ∀ r', r' ≤ r → cnt s (lget st.ph r') = s.W := by
  intro r' hle
  have hi := reach_inv hr
  have hrH : r < s.H := ph_lt hi hf nofun
  have hWb : Wb s = s.W := Wb_eq hen hW
  rcases Nat.eq_or_lt_of_le hle with e | hlt
  · rw [e, hf]; exact hWb
  · obtain ⟨d, rfl⟩ := Nat.exists_eq_add_of_lt hlt
    have := wave_chain (reach_wave hr) hrH (by rw [hf]; exact Nat.le_trans hW (Nat.le_of_eq hWb.symm)) d r' rfl
    rw [hf] at this
    have h1 : s.W ≤ min (beg s Ph.fin + (d + 1)) s.W :=
      Nat.le_min.2 ⟨Nat.le_trans (Nat.le_of_eq hWb.symm) (Nat.le_add_right _ _), Nat.le_refl _⟩
    exact Nat.le_antisymm (cnt_le_W hi (Nat.lt_trans hlt hrH)) (Nat.le_trans h1 this)

/-- LF after reconstruction: when the body of LF row `r` has been entered, every tile column's
    reconstruction of rows `r-1`, `r`, `r+1` (clipped to the picture) has published its row map — the SB row of the
    tile holding it is finished, and with it (`rows_below_complete`) every SB of that row and of the rows above
    it in the tile. -/
theorem stage_order_lf {F : Frame} {fs : FSt} (h : FReach F fs) {r : Nat} (he : entered (lget fs.lf.ph r))
    {R i : Nat} (hR : R = r ∨ R + 1 = r ∨ (R = r + 1 ∧ R < F.H)) (hi : i < F.tileCols) :
    ∃ t r', t < F.tiles.length ∧ R * F.tileCols + i = ((lget F.tiles t).r0 + r') * F.tileCols + (lget F.tiles t).tc ∧
      lget (lget fs.tiles t).ph r' = Ph.fin ∧ Reach (lget F.tiles t).st (lget fs.tiles t) := by
  have hinv := freach_inv h
  have hrows : lfRows F r R := by
    rcases hR with e | e | ⟨e, hlt⟩
    · exact Or.inl e
    · exact Or.inr (Or.inl (by rw [← e, if_neg (Nat.succ_ne_zero R)]; rfl))
    · exact Or.inr (Or.inr (by rw [if_neg (Nat.ne_of_lt (Nat.lt_sub_of_add_lt (e ▸ hlt)))]; exact e))
  obtain ⟨t, r', h1, h2, h3⟩ := hinv.lf_entered r he R i hrows hi
  exact ⟨t, r', h1, h2, h3, hinv.tile_reach t h1⟩

/-- CDEF after LF: when the body of CDEF row `r` has been entered, the LF row that stores
    `lf_row_map[r+1]` (row `r+2`; the last row stores its own entry too) has finished.  If LF runs for the frame this
    implies, through LF's own wavefront, that LF rows `0 .. r+1` are complete (what CDEF row `r` reads).
    If LF is DISABLED for the frame nothing orders LF row `r`'s gate — i.e. the reconstruction of row `r` across a tile
    row boundary — before CDEF row `r`: the hypothesis `F.lf.en` is forced (recorded as a lead in checks/c09.py). -/
theorem stage_order_cdef {F : Frame} {fs : FSt} (h : FReach F fs) {r : Nat} (he : entered (lget fs.cdef.ph r)) :
    let m := r + (if r = F.H - 1 then 0 else 1)
    (lget fs.lf.ph (m + 1) = Ph.fin ∨ (m = F.H - 1 ∧ lget fs.lf.ph m = Ph.fin)) ∧
    (F.lf.en = true → 1 ≤ F.lf.W → ∀ r', r' ≤ m → cnt F.lf (lget fs.lf.ph r') = F.lf.W) := by
  have hinv := freach_inv h
  have hm := hinv.cdef_entered r he
  refine ⟨hm, ?_⟩
  intro hen hW r' hle
  rcases hm with hm | ⟨_, hm⟩
  · exact rows_below_complete hen hW hinv.lf_reach hm r' (by omega)
  · exact rows_below_complete hen hW hinv.lf_reach hm r' hle

/-- LR after CDEF: when the body of LR row `r` has been entered, CDEF row `r` has stored
    `cdef_completed_for_row_map[r]`; if CDEF runs for the frame, CDEF rows `0 .. r` are complete (every width, including
    pictures one SB wide). -/
theorem stage_order_lr {F : Frame} {fs : FSt} (h : FReach F fs) {r : Nat} (he : entered (lget fs.lr.ph r)) :
    lget fs.cdef.ph r = Ph.fin ∧
    (F.cdef.en = true → 1 ≤ F.cdef.W → ∀ r', r' ≤ r → cnt F.cdef (lget fs.cdef.ph r') = F.cdef.W) := by
  have hinv := freach_inv h
  have hf := hinv.lr_entered r he
  exact ⟨hf, fun hen hW => rows_below_complete hen hW hinv.cdef_reach hf⟩

/-- The gap behind finding C09-lr-mt-boundary-save-race, exhibited in the model.  A frame of one tile, one SB wide and
    three SB rows high: CDEF row 0 is entered (its gate `lf_row_map[1]` was stored by the worker of LF row 2) while LF row 1 has
    finished its columns but has NOT yet stored `lf_row_map[0]` — in C: has not yet saved the deblocked boundary lines of
    restoration stripe 0, two lines of SB row 0 that CDEF row 0 is about to overwrite.  `stage_order_cdef` is exact: it promises
    "finished" only for LF row `r+2` and "columns complete" for the rows below it. -/
def raceF : Frame := mkFrame [0, 1] [0, 3] 1 1 1 true true true 3

def raceOps : List FOp :=
  [FOp.parse 0 0, FOp.parse 0 1, FOp.parse 0 2,
   FOp.tile 0 Op.pick, FOp.tile 0 Op.pick, FOp.tile 0 Op.pick,
   FOp.tile 0 (Op.enter 0), FOp.tile 0 (Op.dec 0), FOp.tile 0 (Op.pub 0), FOp.tile 0 (Op.fin 0),
   FOp.tile 0 (Op.enter 1), FOp.tile 0 (Op.dec 1), FOp.tile 0 (Op.pub 1), FOp.tile 0 (Op.fin 1),
   FOp.tile 0 (Op.enter 2), FOp.tile 0 (Op.dec 2), FOp.tile 0 (Op.pub 2), FOp.tile 0 (Op.fin 2),
   FOp.lf Op.pick, FOp.lf Op.pick, FOp.lf Op.pick,
   FOp.lf (Op.enter 0), FOp.lf (Op.enter 1), FOp.lf (Op.enter 2),
   FOp.lf (Op.dec 0), FOp.lf (Op.pub 0), FOp.lf (Op.dec 1), FOp.lf (Op.pub 1), FOp.lf (Op.dec 2), FOp.lf (Op.pub 2),
   FOp.lf (Op.fin 2),
   FOp.cdef Op.pick, FOp.cdef (Op.enter 0)]

def raceSt : FSt := (frun raceF (initF raceF) raceOps).getD (initF raceF)

theorem cdef_before_lf_save_race :
    FReach raceF raceSt ∧ lget raceSt.cdef.ph 0 = Ph.at 0 ∧ lget raceSt.lf.ph 2 = Ph.fin ∧ lget raceSt.lf.ph 1 = Ph.tail ∧
    lget raceSt.lfMap 1 = true ∧ lget raceSt.lfMap 0 = false := by
  exact ⟨freach_of_frun FReach.init raceOps rfl, rfl, rfl, rfl, rfl, rfl⟩

/- Not proved: deadlock freedom of the whole frame,
     theorem frame_deadlock_free {F : Frame} (wf : FrameWF F) {fs : FSt} (h : FReach F fs) (hfin : ¬ FAllFin F fs) :
         ∃ op fs', fstep F fs op = some fs'
   (`FrameWF`: the tiles partition the SB grid and every pool has a worker; `FAllFin`: every row of every tile and of LF, CDEF,
   LR has stored its row map).  It needs the converses of `FInv.recon_sound / lf_sound / cdef_sound` ("a finished row HAS stored
   its map entry") and a cover lemma for the tile grid.  The driver's `fwalk` runs random maximal schedules of the frame model
   on every check run and reports a frame that stops with unfinished rows. -/

/-- Deadlock freedom of the frame, per stage: in every reachable frame state, every tile and every filter stage that still has
    an unfinished row either has an enabled step IN THE FRAME, or its least unfinished row is spinning on a closed gate
    (tile: `sb_recon_row_parsed`; LF: the three `sb_recon_row_map` rows; CDEF: `lf_row_map`; LR:
    `cdef_completed_for_row_map`) — no stage ever waits for itself. -/
theorem frame_deadlock_free_partial {F : Frame} {fs : FSt} (h : FReach F fs) :
    (∀ t, t < F.tiles.length → 1 ≤ (lget F.tiles t).st.n → ¬ AllFin (lget F.tiles t).st (lget fs.tiles t) →
      (∃ op fs', fstep F fs (FOp.tile t op) = some fs') ∨
      (∃ r, r < (lget F.tiles t).st.H ∧ lget (lget fs.tiles t).ph r = Ph.gate ∧ lget (lget fs.parsed t) r = false ∧
        ∀ r', r' < r → lget (lget fs.tiles t).ph r' = Ph.fin)) ∧
    (1 ≤ F.lf.n → ¬ AllFin F.lf fs.lf →
      (∃ op fs', fstep F fs (FOp.lf op) = some fs') ∨
      (∃ r, r < F.lf.H ∧ lget fs.lf.ph r = Ph.gate ∧ lfGate F fs r = false ∧ ∀ r', r' < r → lget fs.lf.ph r' = Ph.fin)) ∧
    (1 ≤ F.cdef.n → ¬ AllFin F.cdef fs.cdef →
      (∃ op fs', fstep F fs (FOp.cdef op) = some fs') ∨
      (∃ r, r < F.cdef.H ∧ lget fs.cdef.ph r = Ph.gate ∧ cdefGate F fs r = false ∧
        ∀ r', r' < r → lget fs.cdef.ph r' = Ph.fin)) ∧
    (1 ≤ F.lr.n → ¬ AllFin F.lr fs.lr →
      (∃ op fs', fstep F fs (FOp.lr op) = some fs') ∨
      (∃ r, r < F.lr.H ∧ lget fs.lr.ph r = Ph.gate ∧ lrGate fs r = false ∧ ∀ r', r' < r → lget fs.lr.ph r' = Ph.fin)) := by
  have hinv := freach_inv h
  exact ⟨fun t ht hn hfin =>
      (progress _ (reach_inv (hinv.tile_reach t ht)) hn hfin).imp_left fun ⟨op, _, hw⟩ => ⟨op, fstep_of_tile_step ht hw⟩,
    fun hn hfin => (progress _ (reach_inv hinv.lf_reach) hn hfin).imp_left fun ⟨op, _, hw⟩ => ⟨op, fstep_of_lf_step hw⟩,
    fun hn hfin => (progress _ (reach_inv hinv.cdef_reach) hn hfin).imp_left fun ⟨op, _, hw⟩ => ⟨op, fstep_of_cdef_step hw⟩,
    fun hn hfin => (progress _ (reach_inv hinv.lr_reach) hn hfin).imp_left fun ⟨op, _, hw⟩ => ⟨op, fstep_of_lr_step hw⟩⟩

/-- Schedule independence: for a task DAG in which task `t` reads only cells written by `deps t` and writes only its own
    cell, in EVERY reachable state of EVERY execution (any number of tasks running at once, any interleaving of the
    atomic `start` / `finish` steps) every finished task's cell holds `val t` — a value defined without reference
    to any schedule.  Hence all complete executions end with the same store. -/
theorem dag_confluence {T V : Type} [DecidableEq T] (D : Dag T V) (σ₀ : T → V) {s : DSt T V} (h : DReach D σ₀ s) :
    (∀ t, s.done t = true → s.σ t = val D σ₀ t) ∧ (∀ t, s.done t = false → s.σ t = σ₀ t) :=
  ⟨(dreach_inv h).done_val, (dreach_inv h).undone⟩

/-- Two complete executions end with the same store. -/
theorem dag_confluence_eq {T V : Type} [DecidableEq T] (D : Dag T V) (σ₀ : T → V) {s s' : DSt T V}
    (h : DReach D σ₀ s) (h' : DReach D σ₀ s') (hd : ∀ t, s.done t = true) (hd' : ∀ t, s'.done t = true) :
    s.σ = s'.σ := by
  funext t
  rw [(dag_confluence D σ₀ h).1 t (hd t), (dag_confluence D σ₀ h').1 t (hd' t)]

/-- Every wavefront execution is a DAG execution (`decwf_safe` instantiated): under H-footprint — the processing
    of column `j` of row `r` reads, of what the stage writes, only cells of its wavefront cone (`hdeps`) and writes
    only its own cell (`Dag.footprint`) — each step of the wavefront is matched by a legal DAG step: a column never
    starts before the cells it reads are final. -/
theorem decwf_is_dag_run {s : Stage} {V : Type} {D : Dag (Nat × Nat) V} {σ₀ : Nat × Nat → V}
    (hdeps : ∀ t d, d ∈ D.deps t → inCone s.W t d = true)
    {st st' : WSt} {ds : DSt (Nat × Nat) V} {g : Nat → Bool} {op : Op}
    (hj : JReach s D σ₀ st ds) (h : step s g st op = some st') : ∃ ds', JReach s D σ₀ st' ds' := by
  obtain ⟨h1, _, h3⟩ := jreach_facts hdeps hj
  rcases sim_step D hdeps (reach_inv h1) (reach_wave h1) h3 h with ⟨hm, _⟩ | ⟨dop, ds', hm, hd, _⟩
  · exact ⟨ds, JReach.silent hj h hm⟩
  · exact ⟨ds', JReach.task hj h hm hd⟩

/-- Confluence of a wavefront: under H-footprint, whatever the number of workers and the interleaving, when all rows of
    the stage are finished the cell of every superblock holds the schedule-independent value `val`; in particular
    the multi-threaded result equals the result of the same stage run by ONE worker (which processes the
    superblocks in raster order). -/
theorem decwf_confluence {s : Stage} {V : Type} {D : Dag (Nat × Nat) V} {σ₀ : Nat × Nat → V}
    (hdeps : ∀ t d, d ∈ D.deps t → inCone s.W t d = true)
    {st : WSt} {ds : DSt (Nat × Nat) V} (hj : JReach s D σ₀ st ds) (hall : AllFin s st) :
    ∀ r j, r < s.H → j < Wb s → ds.σ (r, j) = val D σ₀ (r, j) := by
  obtain ⟨_, h2, h3⟩ := jreach_facts hdeps hj
  intro r j hr hjw
  apply (dreach_inv h2).done_val
  apply (h3.done_iff r j).2
  rw [hall r hr]
  exact ⟨hr, by simpa [cnt] using hjw⟩

/-- The multi-threaded result equals the single-threaded one: complete executions of the stage with `s.n` workers and
    with one worker (`s1`) leave the same value in every superblock's cell.  The worker count plays no role: both stores
    equal the schedule-independent `val` (`decwf_confluence`). -/
theorem decwf_eq_single_thread {s s1 : Stage} (h1 : s1 = { s with n := 1 })
    {V : Type} {D : Dag (Nat × Nat) V} {σ₀ : Nat × Nat → V}
    (hdeps : ∀ t d, d ∈ D.deps t → inCone s.W t d = true)
    {st st1 : WSt} {ds ds1 : DSt (Nat × Nat) V} (hj : JReach s D σ₀ st ds) (hj1 : JReach s1 D σ₀ st1 ds1)
    (hall : AllFin s st) (hall1 : AllFin s1 st1) :
    ∀ r j, r < s.H → j < Wb s → ds.σ (r, j) = ds1.σ (r, j) := by
  subst h1
  intro r j hr hjw
  rw [decwf_confluence hdeps hj hall r j hr hjw]
  exact (decwf_confluence (s := { s with n := 1 }) hdeps hj1 hall1 r j hr hjw).symm

/-- a 1080p tile column: 30 x 17 SBs, 8 workers -/
def reconEx : Stage := { kind := Kind.recon, c0 := 7, W := 30, H := 17, en := true, n := 8 }
example : PassSound reconEx := pass_sound _
example : Reach reconEx (initW reconEx) := Reach.init
example : ¬ AllFin reconEx (initW reconEx) := by
  intro h; have := h 0 (by decide); revert this; decide
example : 1 ≤ reconEx.n := by decide
/-- `decwf_safe`'s step hypothesis is satisfiable: after `pick`, `enter 0` the step `dec 0` is enabled -/
example : ∃ st st', Reach reconEx st ∧ step reconEx (fun _ => true) st (Op.dec 0) = some st' := by
  have h1 : ∃ st, step reconEx (fun _ => true) (initW reconEx) Op.pick = some st := ⟨_, rfl⟩
  obtain ⟨s1, e1⟩ := h1
  have h2 : ∃ st, step reconEx (fun _ => true) s1 (Op.enter 0) = some st := by
    injection e1 with e1; subst e1; exact ⟨_, rfl⟩
  obtain ⟨s2, e2⟩ := h2
  have h3 : ∃ st, step reconEx (fun _ => true) s2 (Op.dec 0) = some st := by
    injection e1 with e1; subst e1; injection e2 with e2; subst e2; exact ⟨_, rfl⟩
  obtain ⟨s3, e3⟩ := h3
  exact ⟨s2, s3, Reach.step (Reach.step Reach.init e1) e2, e3⟩
/-- CDEF one SB wide is sound too (the width at which `nsync = 0` at the only column) -/
example : PassSound { kind := Kind.cdef, c0 := 0, W := 1, H := 4, en := true, n := 3 } := pass_sound _
/-- a frame: 2 x 2 tiles on a 5 x 4 SB picture -/
def frameEx : Frame := mkFrame [0, 3, 5] [0, 2, 4] 5 5 5 true true true 4
example : FReach frameEx (initF frameEx) := FReach.init
/-- H-footprint is satisfiable: the DAG whose tasks read exactly their four neighbours (30 columns) -/
def nbrDeps (t : Nat × Nat) : List (Nat × Nat) :=
  if t.2 < 30 then
    (if 1 ≤ t.2 then [(t.1, t.2 - 1)] else []) ++ (if 1 ≤ t.1 then [(t.1 - 1, t.2)] else []) ++
    (if 1 ≤ t.1 ∧ 1 ≤ t.2 then [(t.1 - 1, t.2 - 1)] else []) ++
    (if 1 ≤ t.1 ∧ t.2 + 1 < 30 then [(t.1 - 1, t.2 + 1)] else [])
  else []

theorem nbrDeps_mem {t d : Nat × Nat} (h : d ∈ nbrDeps t) : t.2 < 30 ∧
    ((1 ≤ t.2 ∧ d = (t.1, t.2 - 1)) ∨ (1 ≤ t.1 ∧ d = (t.1 - 1, t.2)) ∨ (1 ≤ t.1 ∧ 1 ≤ t.2 ∧ d = (t.1 - 1, t.2 - 1)) ∨
    (1 ≤ t.1 ∧ t.2 + 1 < 30 ∧ d = (t.1 - 1, t.2 + 1))) := by
  unfold nbrDeps at h
  split at h
  · rename_i hW
    refine ⟨hW, ?_⟩
    simp only [List.mem_append] at h
    rcases h with ((h | h) | h) | h <;> split at h
    · rename_i c; exact Or.inl ⟨c, List.mem_singleton.1 h⟩
    · exact absurd h List.not_mem_nil
    · rename_i c; exact Or.inr (Or.inl ⟨c, List.mem_singleton.1 h⟩)
    · exact absurd h List.not_mem_nil
    · rename_i c; exact Or.inr (Or.inr (Or.inl ⟨c.1, c.2, List.mem_singleton.1 h⟩))
    · exact absurd h List.not_mem_nil
    · rename_i c; exact Or.inr (Or.inr (Or.inr ⟨c.1, c.2, List.mem_singleton.1 h⟩))
    · exact absurd h List.not_mem_nil
  · exact absurd h List.not_mem_nil

def nbrDag : Dag (Nat × Nat) Nat where
  deps := nbrDeps
  f := fun t σ => ((nbrDeps t).map σ).sum + 1
  rank := fun t => t.1 * 31 + t.2
  rank_lt := by
    intro t d hd
    obtain ⟨hW, hd⟩ := nbrDeps_mem hd
    rcases hd with ⟨h1, e⟩ | ⟨h1, e⟩ | ⟨h1, h2, e⟩ | ⟨h1, h2, e⟩ <;> subst e <;> simp only <;> omega
  footprint := by
    intro t σ σ' h
    have : (nbrDeps t).map σ = (nbrDeps t).map σ' := List.map_congr_left h
    simp only [this]

example : ∀ t d, d ∈ nbrDag.deps t → inCone reconEx.W t d = true := by
  intro t d hd
  rw [inCone_iff]
  obtain ⟨hW, hd⟩ := nbrDeps_mem hd
  have h1' : t.2 - 1 ≤ t.2 := Nat.sub_le _ 1
  rcases hd with ⟨h1, e⟩ | ⟨h1, e⟩ | ⟨h1, h2, e⟩ | ⟨h1, h2, e⟩ <;> subst e
  · exact Or.inl ⟨rfl, Nat.sub_lt h1 Nat.one_pos⟩
  · exact cone_above h1 (Nat.le_succ _) hW
  · exact cone_above h1 (Nat.le_trans h1' (Nat.le_succ _)) (Nat.lt_of_le_of_lt h1' hW)
  · exact cone_above h1 (Nat.le_refl _) h2
example : Reach reconEx (initW reconEx) ∧ JReach reconEx nbrDag (fun _ => 0) (initW reconEx) (dinit (fun _ => 0)) :=
  ⟨Reach.init, JReach.init⟩

end C09
