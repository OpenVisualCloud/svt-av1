/-
  C06 — the encoder's output does not depend on the instruction set it is allowed to use.

  What is proved here (table level; the bit-exactness of the kernels themselves is C07):
  * `select` (mirror of SET_FUNCTIONS) only ever yields the C function or a registered slot whose flag is enabled;
  * with `use_cpu_flags = 0` every pointer is its C function;
  * over the WHOLE generated table (both the build's configuration and the EN_AVX512_SUPPORT=1 one): every pointer
    has a C reference, slots are in increasing ISA order, and a function registered in slot S is named for an ISA ≤ S
    (so allowing "up to SSE2" can never run AVX2 code) — reviewed exceptions in Spec/DispatchAllow.lean;
  * the requested flags are masked with the detected hardware flags before any pointer is assigned;
  * congruence: if every registered SIMD function is extensionally equal to its C reference (= C07), an encoder whose
    only access to kernels is through the resolved pointers produces the same output for any two flag sets.
-/
import SvtVerif.Lemmas.Dispatch

namespace C06
open _root_.Dispatch Gen.Dispatch Spec.DispatchAllow DispatchLemmas

/-! ### `select` mirrors SET_FUNCTIONS -/

/-- The pointer ends up as the C function or as a registered slot whose CPU flag is set in `flags`:
    SET_FUNCTIONS can never install anything else. -/
theorem select_mem (f : Nat) (e : Entry) :
    select f e = e.c ∨ ∃ s ∈ e.slots, f.testBit s.1 = true ∧ select f e = some s.2 := by
  unfold select
  generalize e.c = init
  induction e.slots generalizing init with
  | nil => exact Or.inl rfl
  | cons s rest ih =>
    simp only [List.foldl_cons]
    rcases ih (step f init s) with h | ⟨t, ht, hb, hsel⟩
    · by_cases hs : f.testBit s.1 = true
      · right; exact ⟨s, List.mem_cons_self, hs, by rw [h]; simp [step, hs]⟩
      · left; rw [h]; simp [step, hs]
    · right; exact ⟨t, List.mem_cons_of_mem _ ht, hb, hsel⟩

/-- More generally: if none of the entry's slot flags is enabled the C function is selected. -/
theorem no_enabled_slot_selects_c (f : Nat) (e : Entry) (h : ∀ s ∈ e.slots, f.testBit s.1 = false) :
    select f e = e.c := by
  rcases select_mem f e with h0 | ⟨s, hs, hb, _⟩
  · exact h0
  · rw [h s hs] at hb; cases hb

/-- `use_cpu_flags = 0` ("C only"): every pointer is its C reference. -/
theorem flags0_selects_c (e : Entry) : select 0 e = e.c :=
  no_enabled_slot_selects_c 0 e fun _ _ => Nat.zero_testBit _

example : select 0 { ptr := name! "p", c := some (name! "p_c"), slots := [(2, name! "p_sse2"), (8, name! "p_avx2")] }
    = some (name! "p_c") := by decide
example : select 4 { ptr := name! "p", c := some (name! "p_c"), slots := [(2, name! "p_sse2"), (8, name! "p_avx2")] }
    = some (name! "p_sse2") := by decide
example : select 511 { ptr := name! "p", c := some (name! "p_c"), slots := [(2, name! "p_sse2"), (8, name! "p_avx2")] }
    = some (name! "p_avx2") := by decide

/-! ### Obligations over the whole generated table -/

/-- Every registration has a C reference whose name is not instruction-set specific (reviewed exception: the one
    pointer of `noCAllow`).  Holds for the build's table and for the EN_AVX512_SUPPORT=1 table. -/
theorem dispatch_c_present : ∀ e ∈ table ++ table512, cOk noCAllow e = true :=
  fun _ he => ((entryOk_iff ..).mp (entry_ok he)).1

/-- A function registered in slot `S` is named for an instruction set ≤ `S` (or is on the reviewed allow-list):
    e.g. an `_avx2` function in the SSE2 slot would execute AVX2 code when only SSE2 is allowed. -/
theorem dispatch_slot_sound : ∀ e ∈ table ++ table512, ∀ s ∈ e.slots, slotOk slotAllow s = true :=
  fun _ he s hs => List.all_eq_true.mp ((entryOk_iff ..).mp (entry_ok he)).2.1 s hs

/-- Slots are tested in strictly increasing flag order and only MMX..AVX512F are tested, so "later overrides
    earlier" means "the highest enabled instruction set wins". -/
theorem dispatch_slots_sorted : ∀ e ∈ table ++ table512, slotsSorted e.slots = true :=
  fun _ he => ((entryOk_iff ..).mp (entry_ok he)).2.2

/-- In the build's configuration no AVX-512 function is registered at all. -/
theorem build_has_no_avx512 : ∀ e ∈ table, ∀ s ∈ e.slots, s.1 ≤ AVX2 := by
  have h : table.all (fun e => e.slots.all (fun s => decide (s.1 ≤ AVX2))) = true := by decide +kernel
  intro e he s hs
  exact of_decide_eq_true (List.all_eq_true.mp (List.all_eq_true.mp h e he) s hs)

/-- The allow-lists are not vacuous padding: every listed name occurs in the table. -/
theorem allow_lists_used :
    (slotAllow.all fun n => table.any fun e => e.slots.any fun s => s.2 == n) = true ∧
    (noCAllow.all fun n => table.any fun e => e.ptr == n && e.c.isNone) = true := by
  constructor <;> decide +kernel

/-- Consequence of `select_mem` and `dispatch_slot_sound`: whatever flags are passed, the function a table pointer resolves to is the C
    reference, a reviewed allow-listed function, or a function named for an ISA `i` with some enabled flag `≥ i`. -/
theorem selected_isa_enabled (f : Nat) (e : Entry) (he : e ∈ table ++ table512) (fn : FnName)
    (hsel : select f e = some fn) :
    e.c = some fn ∨ fn ∈ slotAllow ∨ ∃ i bit, nameIsa fn = some i ∧ i ≤ bit ∧ f.testBit bit = true := by
  rcases select_mem f e with h | ⟨s, hs, hb, h⟩
  · left; rw [← h, hsel]
  · have hfn : s.2 = fn := by rw [hsel] at h; exact (Option.some.inj h).symm
    have hok := dispatch_slot_sound e he s hs
    simp only [slotOk, Bool.or_eq_true, List.contains_iff_mem] at hok
    rcases hok with hisa | hal
    · right; right
      cases hn : nameIsa s.2 with
      | none => rw [hn] at hisa; cases hisa
      | some i =>
        rw [hn] at hisa
        exact ⟨i, s.1, by rw [← hfn]; exact hn, of_decide_eq_true hisa, hb⟩
    · right; left; rw [← hfn]; exact hal

/-! ### The requested flags are masked with the hardware's -/

/-- (generated facts) `flags &= get_cpu_flags_to_use()` is the first effective statement of both
    `setup_common_rtcd_internal` and `setup_rtcd_internal`; `svt_av1_enc_init` masks `use_cpu_flags` the same way
    (EbEncHandle.c:660) and passes it to both setup functions; the decoder passes `get_cpu_flags_to_use()`;
    the build's `get_cpu_flags_to_use` removes the AVX-512 flags. -/
theorem mask_applied :
    commonMasked = true ∧ encMasked = true ∧ maskSites.all (·.2) = true ∧ toUseMask = 2 ^ AVX512F - 1 := by
  decide +kernel

/-- After the masking a SIMD function is selected only through a slot whose flag was requested by the caller,
    is reported by the hardware and is allowed by the build. -/
theorem masked_select_on_hw (toUse hw req : Nat) (e : Entry) :
    select (maskApplied toUse hw req) e = e.c ∨
      ∃ s ∈ e.slots, req.testBit s.1 = true ∧ hw.testBit s.1 = true ∧ toUse.testBit s.1 = true ∧
        select (maskApplied toUse hw req) e = some s.2 := by
  rcases select_mem (maskApplied toUse hw req) e with h | ⟨s, hs, hb, h⟩
  · exact Or.inl h
  · simp only [maskApplied, Nat.testBit_and, Bool.and_eq_true] at hb
    exact Or.inr ⟨s, hs, hb.1, hb.2.1, hb.2.2, h⟩

example : maskApplied 511 0x1ff 0xffff = 0x1ff := by decide
example : maskApplied 511 0xffff 0xffff = 511 := by decide   -- AVX-512 hardware, build without AVX-512
example : maskApplied 511 0x7f 0x1ff = 0x7f := by decide     -- AVX2 requested, hardware stops at SSE4.2

/-! ### The pointer without C reference -/

/-- `svt_cdef_filter_block_8x8_16` (no C function) is non-NULL whenever `svt_cdef_filter_block` resolves to the AVX2
    implementation, its only caller. -/
theorem noC_pointer_guarded (f : Nat) :
    ∃ e8 eb, find? table (name! "svt_cdef_filter_block_8x8_16") = some e8 ∧
      find? table (name! "svt_cdef_filter_block") = some eb ∧
      (select f eb = some (name! "svt_cdef_filter_block_avx2") → (select f e8).isSome = true) ∧
      (select f e8 = none → select f eb = eb.c) := by
  refine ⟨{ ptr := name! "svt_cdef_filter_block_8x8_16", c := none, slots := [(8, name! "svt_cdef_filter_block_8x8_16_avx2")], line := 0 },
          { ptr := name! "svt_cdef_filter_block", c := some (name! "svt_cdef_filter_block_c"), slots := [(8, name! "svt_cdef_filter_block_avx2")], line := 510 },
          by decide +kernel, by decide +kernel, ?_, ?_⟩
  · intro _
    cases hb : f.testBit 8 <;> simp_all [select, step]
  · cases hb : f.testBit 8 <;> simp [select, step, hb]

/-! ### Congruence: C07 ⇒ C06 -/

section Congruence
variable {I O Out : Type}

/-- What the encoder can see of the kernels: for each dispatch pointer the behaviour of the function it resolves to
    (`sem` = the input/output behaviour of each named function; `none` = NULL pointer / not a table pointer). -/
def resolved (sem : FnName → I → O) (tbl : List Entry) (f : Nat) (p : FnName) : Option (I → O) :=
  (find? tbl p).bind fun e => (select f e).map sem

/-- C07 for a table: every registered SIMD function behaves exactly like the entry's C reference. -/
def KernelsBitExact (sem : FnName → I → O) (tbl : List Entry) : Prop :=
  ∀ e ∈ tbl, ∀ s ∈ e.slots, ∃ c, e.c = some c ∧ sem s.2 = sem c

/-- If every SIMD kernel is a bit-exact drop-in for its C reference (C07), then an encoder that reaches the kernels
    only through the resolved dispatch pointers (`enc` is an arbitrary function of the resolved table: all the
    rest of the encoder, its inputs and configuration are inside `enc`) produces the same output for ANY two
    `use_cpu_flags` values.  What this does not cover: code that calls a SIMD function directly, reads
    `use_cpu_flags` elsewhere, or depends on CPU state not captured by `sem` (e.g. FP rounding mode). -/
theorem output_indep_of_flags (sem : FnName → I → O) (tbl : List Entry) (hC07 : KernelsBitExact sem tbl)
    (enc : (FnName → Option (I → O)) → Out) (f₁ f₂ : Nat) :
    enc (resolved sem tbl f₁) = enc (resolved sem tbl f₂) := by
  have key : ∀ f, resolved sem tbl f = fun p => (find? tbl p).bind fun e => e.c.map sem := by
    intro f; funext p
    simp only [resolved]
    cases hfe : find? tbl p with
    | none => rfl
    | some e =>
      simp only [Option.bind_some]
      rcases select_mem f e with h | ⟨s, hs, _, h⟩
      · rw [h]
      · obtain ⟨c, hc, hsem⟩ := hC07 e (List.mem_of_find?_eq_some hfe) s hs
        rw [h, hc]; simp [hsem]
  rw [key f₁, key f₂]

/-- non-vacuity: the hypothesis is satisfiable on the real table (take a semantics that ignores the variant suffix,
    here the constant one), and the entries with a C reference are all of the table but one. -/
example : KernelsBitExact (fun _ (_ : Unit) => ()) (table.filter fun e => e.c.isSome) := by
  intro e he s _
  have : e.c.isSome = true := (List.mem_filter.mp he).2
  cases hc : e.c with
  | none => rw [hc] at this; cases this
  | some c => exact ⟨c, rfl, rfl⟩

end Congruence

example : table.length = 781 := by decide +kernel
example : (table.filter fun e => e.c.isSome).length = 780 := by decide +kernel

end C06
