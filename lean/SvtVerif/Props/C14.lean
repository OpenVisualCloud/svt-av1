/-
  C14 — API calls in any order return error codes instead of crashing or blocking.

  The NULL-guard table and the lock table are generated from EbEncHandle.c / EbDecHandle.c
  (`Gen/ApiTables.lean`, xlate/apitables.py).  The theorems below are about those tables and about the
  protocol automaton `ApiProto.step` that consults them; the translator's classification lists
  (`guardedParams`, `unguardedParams`, ...) are re-derived here with Lean's own definitions, so the same file
  proves the positive claims for the parameters that are guarded and the negative claims (with a witness path)
  for those that are not.
-/
import SvtVerif.Lemmas.ApiProto

namespace C14
open ApiProto Gen.ApiTables

/-! ### NULL arguments -/

/-- The guard criterion evaluated on the table is exact: an entry is "guarded" iff no path that a call with a
    NULL argument can take ever touches the pointer. -/
theorem guard_criterion_exact (e : GuardEntry) :
    entryGuarded e = true ↔ ∀ p ∈ e.paths, ∀ l, runNullEvs p.evs ≠ .nullAccess l :=
  entryGuarded_iff e

/-- **Guarded parameters.** For every (function, pointer parameter) the translator lists as guarded, on every
    entry-to-return path of the C function a NULL argument is never dereferenced (nor handed to a callee that
    dereferences it): the call returns. -/
theorem api_null_guarded :
    ∀ pr ∈ guardedParams, ∃ e, findGuard tables pr.1 pr.2 = some e ∧
      ∀ p ∈ e.paths, ∀ l, runNullEvs p.evs ≠ .nullAccess l := by
  intro pr hpr
  obtain ⟨e, he, hg⟩ := guardIs_sound (List.all_eq_true.mp lists_classified.1.1 pr (List.mem_append_left _ hpr))
  exact ⟨e, he, (entryGuarded_iff e).mp hg⟩

example : ("svt_av1_enc_init", "svt_enc_component") ∈ guardedParams := by decide +kernel

/-- **NULL returns an error code.** For the listed parameters every path a NULL argument can take returns the
    same, non-zero, statically known error code. -/
theorem api_null_returns_error :
    ∀ t ∈ nullErrorParams, nullClass tables t.1 t.2.1 = .ret t.2.2 ∧ t.2.2 ≠ 0 :=
  lists_classified.2.1

example : ("svt_av1_enc_set_parameter", "svt_enc_component", EB_ErrorBadParameter) ∈ nullErrorParams := by decide +kernel

/-- **Unguarded parameters (negative result).** For every pointer the translator lists as unguarded -- parameters and
    first-level derived pointers such as `*p_buffer` -- there is a concrete path of the C function on which a NULL
    value is dereferenced (witness: the path and the source line).  With finding F7 repaired in /repo the list of
    parameters is empty; the derived pointers `...->p_component_private` and `*p_buffer` of get_packet remain. -/
theorem api_null_unguarded_witness :
    ∀ pr ∈ unguardedParams ++ unguardedDerived, ∃ e, findGuard tables pr.1 pr.2 = some e ∧
      ∃ p ∈ e.paths, ∃ l, runNullEvs p.evs = .nullAccess l := by
  intro pr hpr
  obtain ⟨e, he, hg⟩ := guardIs_sound (List.all_eq_true.mp lists_classified.1.2 pr hpr)
  exact ⟨e, he, entryGuarded_complete e hg⟩

/-- The classification is total: every entry of the guard table is in one of the four lists. -/
theorem api_null_classification_total :
    ∀ e ∈ tables.guards, (e.fn, e.ptr) ∈ guardedParams ++ guardedDerived ++ unguardedParams ++ unguardedDerived := by
  -- the list an entry belongs to is the one its own reading (`entryGuarded`, `derived`) points to
  intro e he
  have := List.contains_iff_mem.mp (List.all_eq_true.mp lists_classified.2.2 e he)
  simp only [List.mem_append]
  split at this
  · exact .inl (.inl (.inl this))
  · exact .inl (.inl (.inr this))
  · exact .inl (.inr this)
  · exact .inr this

/-- The classification is unambiguous: no pointer is listed both as guarded and as unguarded. -/
theorem api_null_classification_disjoint :
    ∀ pr ∈ guardedParams ++ guardedDerived, pr ∉ unguardedParams ++ unguardedDerived := by
  intro pr hg hu
  -- the one table entry of `pr` would be guarded and not guarded
  obtain ⟨e, he, h⟩ := guardIs_sound (List.all_eq_true.mp lists_classified.1.1 pr hg)
  obtain ⟨e', he', h'⟩ := guardIs_sound (List.all_eq_true.mp lists_classified.1.2 pr hu)
  cases he.symm.trans he'
  cases h.symm.trans h'

/-! ### Mutexes -/

/-- **Every path balanced.** Every entry-to-return path of every API function releases each mutex it acquired,
    never unlocks a mutex it does not hold and never locks one twice. -/
theorem api_locks_balanced : allBalanced tables = true := by decide +kernel

/-- Hence after any sequence of API calls, each taking any of its paths, no mutex remains held. -/
theorem api_no_mutex_left_held (ps : List LockPath) (h : ∀ p ∈ ps, ∃ e ∈ tables.locks, p ∈ e.paths) :
    runCalls [] ps = .done [] := by
  apply runCalls_balanced
  intro p hp
  obtain ⟨e, he, hpe⟩ := h p hp
  exact List.all_eq_true.mp (List.all_eq_true.mp api_locks_balanced e he) p hpe

example : runCalls [] (findLocks tables "svt_av1_enc_set_parameter") = .done [] :=
  runCalls_balanced _ (findLocks_balanced tables api_locks_balanced _)

/-- For *every* call sequence over the alphabet the automaton never predicts a call blocked on a mutex left
    behind by an earlier call, and ends with no mutex held (induction over the call list). -/
theorem no_call_blocks_on_leftover_mutex (ops : List Op) :
    (∀ m, Res.blocked m ∉ run tables ops) ∧ (finalState tables ops).held = [] := by
  have := runFrom_held_nil tables api_locks_balanced ops {} rfl
  exact ⟨this.2, this.1⟩

/-- **A rejected configuration leaves the handle usable.** After any number `n` of rejected set_parameter calls on a
    fresh handle, a valid set_parameter returns EB_ErrorNone (it does not block) and the handle is Configured. -/
theorem reject_then_accept (n : Nat) :
    run tables ([.initHandle] ++ List.replicate (n + 1) (.setParam .invalid) ++ [.setParam .valid]) =
        [.ok] ++ List.replicate (n + 1) (.err EB_ErrorBadParameter) ++ [.ok] ∧
      (finalState tables ([.initHandle] ++ List.replicate (n + 1) (.setParam .invalid) ++ [.setParam .valid])).enc.proto
        = .Configured := by
  obtain ⟨h0, h1, hr, hv⟩ :
      step tables {} .initHandle = (.ok, stHandle) ∧
      step tables stHandle (.setParam .invalid) = (.err EB_ErrorBadParameter, stRejected) ∧
      step tables stRejected (.setParam .invalid) = (.err EB_ErrorBadParameter, stRejected) ∧
      step tables stRejected (.setParam .valid) = (.ok, stConfigured) := by decide +kernel
  -- the first two calls by `h0`, `h1`; from the rejected state on, `runFrom_rejects`
  have hrun : runFrom tables {} ([.initHandle] ++ List.replicate (n + 1) (.setParam .invalid) ++ [.setParam .valid]) =
      ([.ok] ++ List.replicate (n + 1) (.err EB_ErrorBadParameter) ++ [.ok], stConfigured) := by
    simp only [List.replicate_succ, List.cons_append, List.nil_append, runFrom, h0, h1, Res.continues,
      ↓reduceIte, runFrom_rejects tables hr hv n]
  exact ⟨congrArg Prod.fst hrun, by rw [finalState, hrun]; rfl⟩

example : run tables [.initHandle, .setParam .invalid, .setParam .valid] = [.ok, .err EB_ErrorBadParameter, .ok] :=
  (reject_then_accept 0).1

/-- The automaton does detect a leaked mutex: with `leakyTables` (the rejecting path of
    svt_av1_enc_set_parameter keeps `config_mutex`, finding F3) the tables are not balanced and the sequence
    [set_parameter(invalid), set_parameter(valid)] is predicted to block on that mutex. -/
theorem f3_leak_detected :
    allBalanced (leakyTables tables) = false ∧
    run (leakyTables tables) [.initHandle, .setParam .invalid, .setParam .valid] =
      [.ok, .err EB_ErrorBadParameter, .blocked "config_mutex"] := by decide +kernel

/-! ### Protocol -/

/-- Every call of every sequence gets exactly one predicted class (ok, an error code, a set of codes, the documented
    blocking wait, UNDEFINED with the reason, blocked-on-mutex, or skipped after a call that does not return). -/
theorem run_total (ops : List Op) : (run tables ops).length = ops.length := runFrom_length tables ops {}

/-- The nominal life cycle is predicted to return EB_ErrorNone at every call and to end without a handle. -/
theorem nominal_walk_ok :
    run tables [.initHandle, .setParam .valid, .encInit, .streamHeader, .streamHeaderRelease, .send 3, .sendEos, .drain,
                .deinit, .deinitHandle] = List.replicate 10 .ok ∧
    (finalState tables [.initHandle, .setParam .valid, .encInit, .streamHeader, .streamHeaderRelease, .send 3, .sendEos, .drain,
                .deinit, .deinitHandle]).enc.proto = .NoHandle ∧
    run tables [.decInitHandle, .decSetParam false, .decInit, .decFrame, .decDeinit, .decDeinitHandle] = List.replicate 6 .ok := by
  decide +kernel

/-- With no handle, the automaton's prediction agrees with the table (`nullHandlePredictionOk`): an error code exactly
    where every NULL path of the handle parameter returns that non-zero code, `undef (null fn ptr)` only where the table
    has a path dereferencing `ptr` -- never "ok". -/
theorem null_handle_predictions :
    ∀ o ∈ [Op.setParam .valid, .encInit, .streamHeader, .deinit, .deinitHandle, .send 1, .getPacket false, .getRecon,
           .getStreamInfo, .decSetParam false, .decInit, .decFrame, .decGetPicture, .decDeinit, .decDeinitHandle],
      nullHandlePredictionOk tables o = true := by
  decide +kernel

end C14
