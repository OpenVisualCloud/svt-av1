/-
  C22 — order-hint distance helpers (all five copies, generated from /repo) return the signed
  distance modulo the order-hint period; circular reorder queues deliver in order for any length.
-/
import SvtVerif.Lemmas.RelDist
import SvtVerif.Lemmas.Reorder

namespace C22
open Gen.RelDist RelDist

/-- All five copies in the code base compute the same function. -/
theorem relDist_copies_agree (en bits a b : Int) :
    relDistMvp en bits a b = relDistInterPred en bits a b ∧
    relDistPd en bits a b = relDistInterPred en bits a b ∧
    relDistMdc en bits a b = relDistInterPred en bits a b ∧
    relDistDec en bits a b = relDistInterPred en bits a b :=
  ⟨rfl, rfl, rfl, rfl⟩

/-- With order hints disabled the helper returns 0 (as the AV1 specification says). -/
theorem relDist_disabled (bits a b : Int) : relDistInterPred 0 bits a b = 0 := by
  simp [relDistInterPred]

/-- Closed form: for `bits = k+1 ∈ [1,31]` and hints in `[0, 2^bits)`, the C code computes the signed residue
    `sres m x = x mod m − m·bit_k(x)` of `x = a − b` with `m = 2^k`. -/
theorem relDist_closed_form (en a b : Int) (k : Nat) (hen : en ≠ 0) (hk : k ≤ 30)
    (ha0 : 0 ≤ a) (ha1 : a < 2 ^ (k + 1)) (hb0 : 0 ≤ b) (hb1 : b < 2 ^ (k + 1)) :
    relDistInterPred en (k + 1) a b = sres (2 ^ k) (a - b) := by
  have hp : (2 : Int) ^ (k + 1) ≤ 2 ^ 31 := pow_le_pow_right₀ (by decide) (by omega)
  exact relDistInterPred_eq_sres en a b k hen hk (by omega) (by omega)

/-- **Property (helper part)**: the result is the *signed distance modulo the order-hint period*:
    it lies in `[−2^(bits−1), 2^(bits−1))` and is congruent to `a − b` modulo `2^bits`. -/
theorem relDist_spec (en a b : Int) (k : Nat) (hen : en ≠ 0) (hk : k ≤ 30)
    (ha0 : 0 ≤ a) (ha1 : a < 2 ^ (k + 1)) (hb0 : 0 ≤ b) (hb1 : b < 2 ^ (k + 1)) :
    -(2 ^ k) ≤ relDistInterPred en (k + 1) a b ∧ relDistInterPred en (k + 1) a b < 2 ^ k ∧
      (relDistInterPred en (k + 1) a b - (a - b)) % 2 ^ (k + 1) = 0 := by
  have hb := sres_bounds (m := 2 ^ k) (Int.pow_pos (by decide)) (a - b)
  rw [relDist_closed_form en a b k hen hk ha0 ha1 hb0 hb1, pow_succ']
  exact ⟨hb.1, hb.2, Int.emod_eq_emod_iff_emod_sub_eq_zero.1 (sres_emod _ _)⟩

/-- **True distance**: for *unbounded* picture numbers `p, q` whose true distance is below half
    the period, the helper applied to the wrapped hints returns exactly `p − q`.  Hence wrap-around
    of the order hint at `2^bits` is invisible to every consumer as long as references stay within
    half a period — for streams of any length. -/
theorem relDist_true_distance (en p q : Int) (k : Nat) (hen : en ≠ 0) (hk : k ≤ 30)
    (h1 : -(2 ^ k) ≤ p - q) (h2 : p - q < 2 ^ k) :
    relDistInterPred en (k + 1) (p % 2 ^ (k + 1)) (q % 2 ^ (k + 1)) = p - q := by
  have hP : (0 : Int) < 2 ^ (k + 1) := Int.pow_pos (by decide)
  rw [relDist_closed_form en _ _ k hen hk (Int.emod_nonneg _ (ne_of_gt hP)) (Int.emod_lt_of_pos _ hP)
    (Int.emod_nonneg _ (ne_of_gt hP)) (Int.emod_lt_of_pos _ hP)]
  -- both sides lie in `[−2^k, 2^k)` and are congruent modulo `2^(k+1)`
  refine sres_eq_of_window (Int.pow_pos (by decide)) h1 h2 ?_
  rw [← pow_succ']
  exact (Int.sub_emod p q _).symm

/-- Non-vacuity: the hypotheses are met by the encoder's actual setting (`order_hint_bits = 7`)
    at the wrap point 127 → 0, where the helper returns −1/+1. -/
example : relDistInterPred 1 7 0 127 = 1 ∧ relDistInterPred 1 7 127 0 = -1 := by decide

/-- The excluded region is real: with 7 bits a reference 64 or 96 pictures back is *not* seen at its
    true distance (finding F11: the 6-level prediction structure lists such references). -/
theorem relDist_far_reference_sign_flips :
    relDistInterPred 1 7 (200 % 128) ((200 - 64) % 128) = -64 ∧
    relDistInterPred 1 7 (200 % 128) ((200 - 96) % 128) = -32 := by decide

open Reorder

/-- **Any stream length.**  A reorder queue of depth `D` indexed by `picture_number % D` (packetization style) emits
    `0,1,…,n−1` in order and never overwrites an occupied slot, for every `n` (the queue wraps any number of times),
    provided no arrival is `D` or more ahead of the oldest picture still missing.  The real queue code
    (`get_reorder_queue_pos`/`get_reorder_queue_entry` of EbPacketizationProcess.c) is run against this model on
    streams of 10⁴–6·10⁴ entries by the check. -/
theorem circ_queue_inorder (D : Nat) (hD : 0 < D) (arrivals : List Nat) (n : Nat)
    (hperm : arrivals.Perm (List.range n)) (hwin : Windowed D arrivals) :
    (run D arrivals).out = List.range n ∧ (run D arrivals).clobbered = false :=
  run_inorder D hD arrivals n hperm hwin

/-- The picture-decision style index `(pn − head.pn) + headIdx` with a single wrap equals `pn % D` inside the window. -/
theorem mod_index_eq_window_index (D pn headPn : Nat) (hD : 0 < D) (h1 : headPn ≤ pn) (h2 : pn < headPn + D) :
    windowIndex D (headPn % D) (pn - headPn) = pn % D :=
  windowIndex_eq D pn headPn hD h1 h2

/-- The window hypothesis is necessary: an arrival `D` ahead of the head clobbers / misorders (witnesses). -/
theorem circ_queue_window_needed :
    (¬ Windowed 4 [5, 1, 0, 2, 3, 4] ∧ (run 4 [5, 1, 0, 2, 3, 4]).clobbered = true) ∧
    (¬ Windowed 4 [4, 0, 1, 2, 3] ∧ (run 4 [4, 0, 1, 2, 3]).out = [4, 1, 2, 3, 0]) :=
  ⟨⟨clobber_when_window_violated.1, by rw [clobber_when_window_violated.2]⟩,
    ⟨misorder_when_window_violated.1, by rw [misorder_when_window_violated.2]⟩⟩

example : Windowed 4 [1, 0, 3, 2, 5, 4, 7, 6, 9, 8] ∧ [1, 0, 3, 2, 5, 4, 7, 6, 9, 8].Perm (List.range 10) := by decide

end C22
