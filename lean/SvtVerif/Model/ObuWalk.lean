/-
  Byte-accurate model of the OBU framing layer of the SVT-AV1 decoder (C10).

  Mirrors (line numbers of /repo; where a `Cfg` flag is off the model describes the source with that repair taken out,
  and a line number then points at what stands in its place):
    * `svt_av1_dec_frame`        Source/Lib/Decoder/Codec/EbDecHandle.c   l.580-627  (`decFrame`)
    * `decode_multiple_obu`      Source/Lib/Decoder/Codec/EbDecParseObu.c l.2481-2673 (`dmoStep`, `dmoLoop`)
    * `read_obu_header`          EbDecParseObu.c l.426-471   (`readObuHeader`)
    * `read_obu_size`            EbDecParseObu.c l.474-484   (`readObuSize`)
    * `read_obu_header_size`     EbDecParseObu.c l.487-502   (`readObuHeaderSize`)
    * `dec_bits_init`            EbDecBitstream.c l.31-41    (`bitsInit`)
    * `dec_get_bits` / `GET_BITS` EbDecBitstream.c l.45-60, EbDecBitstream.h l.52-70 (`getBits`)
    * `dec_get_bits_leb128`      EbDecBitstream.c l.63-75    (`leb128`)

  Memory.  `mem : List UInt8` is everything the caller made readable (the allocation); `dataSize` is the `data_size`
  argument.  EVERY load of the framing layer goes through `loadWord`; a reader records in `touched` the highest
  index + 1 it loaded from, the walk keeps the maximum in `maxRead`.  A load outside `mem` is what the property
  forbids (`maxRead > mem.length`); the model lets it return 0 and goes on (what C does there is undefined), so every
  function is total and the in-bounds property is the decidable statement `maxRead ≤ mem.length`.

  Arithmetic.  `size_t` values are `Nat`s below 2^64 and every subtraction that C performs on them is `subU64`
  (wraps exactly where C wraps; the walk raises `wrapped`); `uint32_t` shifts are reduced mod 2^32.

  Opaque.  Everything below the framing layer (sequence header, frame header, tile group parsing and reconstruction) is
  a parameter `oracle : Nat → PayRes` (indexed by the ordinal of the OBU inside one `svt_av1_dec_frame` call) that says
  whether the payload parser returned early with an error, left a deferred `status`, and whether it finished a frame.

  Variants.  /repo carries three repairs of this layer, each also kept as a patch; a `Cfg` flag says whether one is in:
    `safeLoad`  hooks/fix-c10-bits-bounds.patch     word loads never touch memory at or after `data + numbytes`
    `checkSub`  hooks/fix-c10-obu-size-check.patch  every `size_t` subtraction is preceded by its check, `obu_header` zeroed
    `errReturn` hooks/fix-c10-decframe-error.patch  `svt_av1_dec_frame` returns the error instead of `assert(0)` / looping
  `fixed` = all three (the source as it stands), `asIs` = none of them.  `ndebug` = `assert` compiled out.  checks/c10.py
  looks at the source tree to see which of the three are present (`tree_flags`) and runs the model with exactly those flags.
  (hooks/fix-c10-handle-zero-init.patch and fix-c10-deinit-empty-map.patch repair API-level defects outside this model.)

  Core Lean only (linked into the `svtmodel` driver).
-/
namespace ObuWalk

structure Cfg where
  safeLoad  : Bool     -- hooks/fix-c10-bits-bounds.patch is applied
  checkSub  : Bool     -- hooks/fix-c10-obu-size-check.patch is applied
  errReturn : Bool     -- hooks/fix-c10-decframe-error.patch is applied
  ndebug    : Bool     -- built with NDEBUG (`assert` compiled out)
  garbage   : Nat := 0 -- what the uninitialised `obu_header.payload_size` (l.2485) happens to hold; unused with `checkSub`
deriving Repr, DecidableEq, Inhabited

/-- the source with none of the three repairs -/
def asIs (ndebug : Bool) : Cfg := { safeLoad := false, checkSub := false, errReturn := false, ndebug := ndebug }
/-- the source with hooks/fix-c10-bits-bounds.patch, fix-c10-obu-size-check.patch and fix-c10-decframe-error.patch in -/
def fixed (ndebug : Bool) : Cfg := { safeLoad := true, checkSub := true, errReturn := true, ndebug := ndebug }

def EB_ErrorNone : Nat := 0
def EB_Corrupt_Frame : Nat := 0x4000100C        -- Source/API/EbSvtAv1.h l.129

def two64 : Nat := 18446744073709551616
def two32 : Nat := 4294967296
def UINT32_MAX : Nat := 4294967295

/-- `a - b` on `size_t` (both below 2^64). -/
def subU64 (a b : Nat) : Nat := (a + two64 - b) % two64

/-! ### memory -/

def rd (mem : List UInt8) (i : Nat) : Nat := (mem.getD i 0).toNat

/-- One `uint32_t` load at byte offset `off` followed by `TO_BIG_ENDIAN` (EbDecBitstream.h l.24): the value is
    `b0<<24 | b1<<16 | b2<<8 | b3`.  Returns the value and the highest index + 1 loaded from (0 = nothing loaded).
    As is: the four bytes are loaded whatever `endOff` (= `data + numbytes`) is.  `safeLoad`: bytes at or after
    `endOff` are not loaded and read as 0. -/
def loadWord (c : Cfg) (mem : List UInt8) (endOff off : Nat) : Nat × Nat :=
  if c.safeLoad then
    let b := fun i => if off + i < endOff then rd mem (off + i) else 0
    (b 0 <<< 24 ||| b 1 <<< 16 ||| b 2 <<< 8 ||| b 3, if off < endOff then min (off + 4) endOff else 0)
  else
    (rd mem off <<< 24 ||| rd mem (off + 1) <<< 16 ||| rd mem (off + 2) <<< 8 ||| rd mem (off + 3), off + 4)

/-! ### `Bitstrm` (EbDecBitstream.h l.32-50) -/

structure Bs where
  base    : Nat     -- buf_base, as an offset into `mem`
  bufOff  : Nat     -- buf (next word to load), as an offset into `mem`
  bitOfst : Nat     -- bit_ofst
  cur     : Nat     -- cur_word
  nxt     : Nat     -- nxt_word
  endOff  : Nat     -- data + numbytes  (buf_max - 8)
  touched : Nat     -- highest index + 1 loaded through this reader
deriving Repr, DecidableEq, Inhabited

/-- `dec_bits_init(bs, data, numbytes)` l.31-41: two word loads at `data` and `data + 4`, whatever `numbytes` is. -/
def bitsInit (c : Cfg) (mem : List UInt8) (data numbytes : Nat) : Bs :=
  let e := data + numbytes
  let w0 := loadWord c mem e data
  let w1 := loadWord c mem e (data + 4)
  { base := data, bufOff := data + 8, bitOfst := 0, cur := w0.1, nxt := w1.1, endOff := e, touched := max w0.2 w1.2 }

/-- `SHR(x, y)` (EbDecBitstream.h l.22). -/
def shr32 (x y : Nat) : Nat := if y < 32 then x >>> y else 0

/-- `dec_get_bits(bs, n)` with the `GET_BITS` macro (EbDecBitstream.h l.52-70), `n ≤ 32`:
    `bits = (cur << ofs) >> (32 - n)`; `ofs += n`; `if (ofs > 32) bits |= SHR(nxt, 64 - ofs)`;
    `if (ofs >= 32) { cur = nxt; nxt = BE(*buf++); ofs -= 32; }` — the refill load has no bound check. -/
def getBits (c : Cfg) (mem : List UInt8) (bs : Bs) (n : Nat) : Nat × Bs :=
  if n = 0 then (0, bs) else
  let bits0 := ((bs.cur <<< bs.bitOfst) % two32) >>> (32 - n)
  let ofs := bs.bitOfst + n
  let bits := if ofs > 32 then bits0 ||| shr32 bs.nxt (64 - ofs) else bits0
  if ofs ≥ 32 then
    let w := loadWord c mem bs.endOff bs.bufOff
    (bits, { bs with cur := bs.nxt, nxt := w.1, bufOff := bs.bufOff + 4, bitOfst := ofs - 32,
                     touched := max bs.touched w.2 })
  else (bits, { bs with bitOfst := ofs })

/-- `get_position(bs)` (EbDecBitstream.c l.117): bits consumed since `dec_bits_init`. -/
def Bs.position (bs : Bs) : Nat := (bs.bufOff - bs.base) * 8 - 32 - (32 - bs.bitOfst)

/-! ### LEB128 (`dec_get_bits_leb128` l.63-75) -/

/-- The loop `for (i = 0; i < 8; i++)`: `fuel` iterations left, `i`, `*value`, `*length` so far. -/
def leb128Go (c : Cfg) (mem : List UInt8) : Nat → Nat → Nat → Nat → Bs → Nat × Nat × Bs
  | 0, _, v, len, bs => (v, len, bs)
  | fuel + 1, i, v, len, bs =>
    let r := getBits c mem bs 8
    let v' := v ||| ((r.1 &&& 0x7f) <<< (i * 7))
    if r.1 &&& 0x80 = 0 then (v', len + 1, r.2) else leb128Go c mem fuel (i + 1) v' (len + 1) r.2

/-- `dec_get_bits_leb128`: (value, length, reader).  `available` is ignored by the C code (`(void)available`). -/
def leb128 (c : Cfg) (mem : List UInt8) (bs : Bs) : Nat × Nat × Bs := leb128Go c mem 8 0 0 0 bs

/-- result of a C function returning `EbErrorType` -/
inductive Ret (α : Type) where
  | ok (a : α)
  | err (code : Nat)
deriving Repr, DecidableEq

/-- `read_obu_size` l.474-484: (value, length_field_size); values above `UINT32_MAX` are `EB_Corrupt_Frame`. -/
def readObuSize (c : Cfg) (mem : List UInt8) (bs : Bs) : Ret (Nat × Nat) × Bs :=
  let r := leb128 c mem bs
  if r.1 > UINT32_MAX then (.err EB_Corrupt_Frame, r.2.2) else (.ok (r.1, r.2.1), r.2.2)

/-! ### OBU header (`read_obu_header` l.426-471) -/

structure Hdr where
  size    : Nat      -- header->size (1 or 2)
  obuType : Nat
  ext     : Bool
  hasSize : Bool
  tid     : Nat
  sid     : Nat
deriving Repr, DecidableEq, Inhabited

/-- `is_valid_obu_type` l.93-108 (OBU_TILE_LIST = 8 is commented out in the C code). -/
def validObuType (t : Nat) : Bool :=
  t == 1 || t == 2 || t == 3 || t == 4 || t == 5 || t == 6 || t == 7 || t == 15

def readObuHeader (c : Cfg) (mem : List UInt8) (bs : Bs) : Ret Hdr × Bs :=
  let f := getBits c mem bs 1                         -- obu_forbidden_bit
  if f.1 ≠ 0 then (.err EB_Corrupt_Frame, f.2) else
  let t := getBits c mem f.2 4                        -- obu_type
  if !validObuType t.1 then (.err EB_Corrupt_Frame, t.2) else
  let e := getBits c mem t.2 1                        -- obu_extension_flag
  let s := getBits c mem e.2 1                        -- obu_has_size_field
  let r := getBits c mem s.2 1                        -- obu_reserved_1bit
  if r.1 ≠ 0 then (.err EB_Corrupt_Frame, r.2) else
  if e.1 ≠ 0 then
    let tid := getBits c mem r.2 3
    let sid := getBits c mem tid.2 2
    let r3 := getBits c mem sid.2 3                   -- extension_header_reserved_3bits
    if r3.1 ≠ 0 then (.err EB_Corrupt_Frame, r3.2) else
    (.ok { size := 2, obuType := t.1, ext := true, hasSize := s.1 ≠ 0, tid := tid.1, sid := sid.1 }, r3.2)
  else
    (.ok { size := 1, obuType := t.1, ext := false, hasSize := s.1 ≠ 0, tid := 0, sid := 0 }, r.2)

/-- `read_obu_header_size` l.487-502: header, then the size field when `obu_has_size_field`.
    Returns the header, `some (payload_size, length_size)` when a size field was read, and the reader. -/
def readObuHeaderSize (c : Cfg) (mem : List UInt8) (bs : Bs) : Ret (Hdr × Option (Nat × Nat)) × Bs :=
  match readObuHeader c mem bs with
  | (.err e, bs1) => (.err e, bs1)
  | (.ok h, bs1) =>
    if h.hasSize then
      match readObuSize c mem bs1 with
      | (.err e, bs2) => (.err e, bs2)
      | (.ok vl, bs2) => (.ok (h, some vl), bs2)
    else (.ok (h, none), bs1)

/-! ### `decode_multiple_obu` -/

/-- What the opaque payload parser of one OBU did (sequence header / frame header / tile group). -/
inductive PayRes where
  | cont (status : Nat) (finished : Bool)   -- fell out of the `switch` with this `status` / `frame_decoding_finished`
  | ret (code : Nat)                        -- `return status;` from inside the `switch`
deriving Repr, DecidableEq, Inhabited

abbrev Oracle := Nat → PayRes

structure ObuRec where
  pos     : Nat     -- offset of the OBU (of its Annex-B length field when `is_annexb`)
  obuType : Nat
  hdr     : Nat     -- obu_header.size
  len     : Nat     -- bytes of size fields in front of the payload (Annex-B length + obu_size)
  payload : Nat     -- payload_size
deriving Repr, DecidableEq, Inhabited

structure St where
  pos        : Nat                 -- *data
  dataSize   : Nat                 -- data_size (size_t)
  status     : Nat                 -- status
  hdrPayload : Option Nat          -- obu_header.payload_size; `none` = never written in this call (uninitialised local)
  seen       : Bool                -- dec_handle_ptr->seen_frame_header
  idx        : Nat                 -- ordinal of the next OBU in this svt_av1_dec_frame call (oracle index)
  maxRead    : Nat                 -- highest index + 1 loaded from by the framing layer
  maxBuf     : Nat                 -- highest value of bs.buf reached (what hook-obuwalk-trace records)
  wrapped    : Bool                -- a size_t subtraction wrapped
  uninit     : Bool                -- obu_header.payload_size was read while uninitialised
  obus       : List ObuRec         -- OBUs that reached the payload `switch`, most recent first
deriving Repr, DecidableEq, Inhabited

inductive DmoEnd where
  | ret (code : Nat)      -- `return`
  | abort                 -- an `assert` fired (builds without NDEBUG)
  | fuel                  -- iteration bound of the model reached
deriving Repr, DecidableEq, Inhabited

def St.see (st : St) (bs : Bs) : St :=
  { st with maxRead := max st.maxRead bs.touched, maxBuf := max st.maxBuf bs.bufOff }

/-- the payload `switch` l.2581-2651: new `seen_frame_header`, and what happened -/
def paySwitch (c : Cfg) (t : Nat) (seen : Bool) (o : PayRes) : Bool × Option PayRes :=
  -- `none` = assert fired
  if t == 2 then (false, some (.cont 0 false))                                   -- OBU_TEMPORAL_DELIMITER
  else if t == 1 then                                                              -- OBU_SEQUENCE_HEADER
    match o with
    | .ret e => (seen, some (.ret e))
    | .cont _ _ => (seen, some (.cont 0 false))
  else if t == 3 || t == 7 || t == 6 then
    -- l.2614 `assert(seen_frame_header == 0)` for OBU_FRAME_HEADER, l.2617 `assert(== 1)` for the redundant one
    if !c.ndebug && ((t == 3 && seen) || (t == 7 && !seen)) then (seen, none)
    else if t != 6 then
      -- frame header only: its status is not tested here (l.2622-2631)
      match o with
      | .ret e => (true, some (.cont e false))
      | .cont s _ => (true, some (.cont (if seen then 0 else s) false))
    else
      -- OBU_FRAME: header (status overwritten), then the tile group l.2637-2648
      match o with
      | .ret e => (true, some (.ret e))
      | .cont s fin => (!fin, some (.cont s fin))
  else if t == 4 then                                                              -- OBU_TILE_GROUP
    if !seen then (seen, some (.ret EB_Corrupt_Frame))
    else match o with
      | .ret e => (seen, some (.ret e))
      | .cont s fin => (if fin then false else seen, some (.cont s fin))
  else (seen, some (.cont 0 false))                                                -- default: (metadata, padding)

/-- value of `obu_header.payload_size` before anything is stored in it -/
def garbageOf (c : Cfg) : Nat := if c.checkSub then 0 else c.garbage

/-- `length_size` after `read_obu_header_size`: bytes of the `obu_size` field, 0 without one -/
def lenOf (vl : Option (Nat × Nat)) : Nat := match vl with | some (_, l) => l | none => 0

/-- l.2548-2564 (non Annex-B part of the size bookkeeping): `payload_size`, `*data += header + length`,
    `data_size -= header + length`, `if (data_size < payload_size) return EB_Corrupt_Frame`.
    `vl` = `some (obu_size, length_size)` when the OBU carries a size field.  Returns the state at the payload and
    `payload_size`. -/
def advance (c : Cfg) (annexb : Bool) (st : St) (h : Hdr) (vl : Option (Nat × Nat)) : Ret (St × Nat) :=
  let lengthSize := lenOf vl
  -- without a size field `obu_header.payload_size` keeps what it held: the Annex-B length, the value of the previous
  -- OBU, or nothing at all (uninitialised local `ObuHeader obu_header`, l.2485)
  let hp : Option Nat := match vl with | some (v, _) => some v | none => st.hdrPayload
  -- (`dmoBody` raises `uninit` for the last case; with `checkSub`, `obu_header` is zero-initialised)
  let hpv := hp.getD (garbageOf c)
  -- l.2548-2551 `if (is_annexb) obu_header.payload_size -= obu_header.size;`   l.2554 payload_size = obu_header.payload_size
  let wrapA := annexb && decide (hpv < h.size)
  let payloadSize := if annexb then subU64 hpv h.size else hpv
  let adv := h.size + lengthSize
  let wrapB := decide (st.dataSize < adv)
  -- `checkSub` (l.2549, l.2557): both conditions are `EB_Corrupt_Frame` before anything is subtracted
  if c.checkSub && (wrapA || wrapB) then .err EB_Corrupt_Frame else
  -- l.2560-2561 `*data += (obu_header.size + length_size); data_size -= (obu_header.size + length_size);`
  let st := { st with pos := st.pos + adv, dataSize := subU64 st.dataSize adv, hdrPayload := some payloadSize,
                      wrapped := st.wrapped || wrapA || wrapB }
  -- l.2563 `if (data_size < payload_size) return EB_Corrupt_Frame;`
  if st.dataSize < payloadSize then .err EB_Corrupt_Frame else .ok (st, payloadSize)

/-- l.2566-2660: `dec_bits_init(&bs, *data, payload_size)`, the payload `switch`, `*data += payload_size;
    data_size -= payload_size; if (!data_size) frame_decoding_finished = 1;` -/
def payload (c : Cfg) (mem : List UInt8) (oracle : Oracle) (rec : ObuRec) (st : St) :
    (DmoEnd × St) ⊕ (St × Bool) :=
  let bs3 := bitsInit c mem st.pos rec.payload
  let st := st.see bs3
  let st := { st with obus := rec :: st.obus, idx := st.idx + 1 }
  match paySwitch c rec.obuType st.seen (oracle (st.idx - 1)) with
  | (_, none) => .inl (.abort, st)
  | (seen, some (.ret e)) => .inl (.ret e, { st with seen := seen })
  | (seen, some (.cont status fin)) =>
    -- read_tile_group_obu l.2401 (single-threaded decode): after the last tile the OBU reader is re-initialised at the
    -- end of the tile data, `dec_bits_init(bs, get_bitsteam_buf(bs) + tile_size, obu_header->payload_size)`
    -- = 8 bytes loaded at the end of the OBU (not seen by hook-obuwalk-trace, so `maxBuf` is left alone)
    let tgEnd := bitsInit c mem (st.pos + rec.payload) 0
    let st := if rec.obuType == 4 || rec.obuType == 6 then { st with maxRead := max st.maxRead tgEnd.touched } else st
    let ds := subU64 st.dataSize rec.payload
    .inr ({ st with seen := seen, status := status, pos := st.pos + rec.payload, dataSize := ds }, fin || ds == 0)

/-- l.2541-2660: from `read_obu_header_size` to the end of the loop body.  `start` = offset of the OBU, `alen` = bytes
    of the Annex-B length field already skipped, `bs1` = the reader positioned at the OBU header. -/
def dmoBody (c : Cfg) (mem : List UInt8) (annexb : Bool) (oracle : Oracle) (start alen : Nat) (st : St) (bs1 : Bs) :
    (DmoEnd × St) ⊕ (St × Bool) :=
  -- l.2541 read_obu_header_size
  match readObuHeaderSize c mem bs1 with
  | (.err e, bs2) => .inl (.ret e, st.see bs2)
  | (.ok (h, vl), bs2) =>
    -- l.2554 reads `obu_header.payload_size`; nothing has been stored there when the OBU has no size field, this is not
    -- Annex-B and no earlier OBU of this call had one (with `checkSub`, `obu_header` is zero-initialised)
    let st := { (st.see bs2) with uninit := st.uninit || (vl.isNone && st.hdrPayload.isNone && !c.checkSub) }
    match advance c annexb st h vl with
    | .err e => .inl (.ret e, st)
    | .ok (st3, payloadSize) =>
      payload c mem oracle { pos := start, obuType := h.obuType, hdr := h.size,
                             len := alen + lenOf vl, payload := payloadSize } st3

/-- One iteration of `while (!frame_decoding_finished)` l.2510-2661.
    `.inl` = the function returned (or asserted); `.inr (st, finished)` = end of the loop body. -/
def dmoStep (c : Cfg) (mem : List UInt8) (annexb : Bool) (oracle : Oracle) (st : St) : (DmoEnd × St) ⊕ (St × Bool) :=
  -- l.2516 (dec_mem_init is not modelled)
  if st.status ≠ EB_ErrorNone then .inl (.ret st.status, st) else
  -- l.2519 dec_bits_init(&bs, *data, data_size)
  let bs0 := bitsInit c mem st.pos st.dataSize
  if annexb then
    -- l.2525-2539 Annex-B: the size of the OBU comes first; `*data += length_size; data_size -= length_size;`
    match readObuSize c mem bs0 with
    | (.err e, bs1) => .inl (.ret e, (st.see bs0).see bs1)
    | (.ok (v, l), bs1) =>
      -- `checkSub`: `if (data_size < length_size) return EB_Corrupt_Frame;`
      if c.checkSub && decide (st.dataSize < l) then .inl (.ret EB_Corrupt_Frame, (st.see bs0).see bs1) else
      dmoBody c mem annexb oracle st.pos l
        { ((st.see bs0).see bs1) with hdrPayload := some v, pos := st.pos + l, dataSize := subU64 st.dataSize l,
                                      wrapped := st.wrapped || decide (st.dataSize < l) } bs1
  else dmoBody c mem annexb oracle st.pos 0 (st.see bs0) bs0

def dmoLoop (c : Cfg) (mem : List UInt8) (annexb : Bool) (oracle : Oracle) : Nat → St → DmoEnd × St
  | 0, st => (.fuel, st)
  | fuel + 1, st =>
    match dmoStep c mem annexb oracle st with
    | .inl r => r
    | .inr (st', fin) => if fin then (.ret st'.status, st') else dmoLoop c mem annexb oracle fuel st'

/-! ### `svt_av1_dec_frame` l.580-627 -/

inductive Outcome where
  | ret (code : Nat)     -- returned this code
  | abort                -- `assert` (`assert(0)` on any error without `errReturn`, l.2614/2617) in a build without NDEBUG
  | hang                 -- the `while (data_start < data_end)` loop repeats the same failing call for ever
  | fuel                 -- iteration bound of the model reached
deriving Repr, DecidableEq, Inhabited

structure Result where
  outcome : Outcome
  calls   : Nat          -- decode_multiple_obu calls
  st      : St
deriving Repr, DecidableEq, Inhabited

def St.init (dataSize : Nat) : St :=
  { pos := 0, dataSize := dataSize, status := 0, hdrPayload := none, seen := false, idx := 0, maxRead := 0,
    maxBuf := 0, wrapped := false, uninit := false, obus := [] }

/-- iteration bound for `dmoLoop`: every iteration that does not wrap consumes at least one byte of `data_size`
    (`dataSize + 1` iterations, Lemmas `dmoLoop_spec`).  After a wrap `data_size` bounds nothing; `memLen` more iterations
    are granted for the walk through the allocation, and no theorem says they suffice (`DmoEnd.fuel` is excluded only
    for walks that do not wrap). -/
def dmoFuel (memLen dataSize : Nat) : Nat := dataSize + memLen + 2

def frameLoop (c : Cfg) (mem : List UInt8) (dataEnd : Nat) (annexb : Bool) (oracle : Oracle) :
    Nat → Nat → Nat → St → Result
  | 0, calls, _, st => { outcome := .fuel, calls := calls, st := st }
  | fuel + 1, calls, lastErr, st =>
    -- l.591 `while (data_start < data_end)`
    if st.pos ≥ dataEnd then { outcome := .ret lastErr, calls := calls, st := st } else
    -- l.597-598: frame_size = data_end - data_start; `ObuHeader obu_header` / `status` are fresh locals of the callee
    let st0 := { st with dataSize := dataEnd - st.pos, status := 0, hdrPayload := none }
    match dmoLoop c mem annexb oracle (dmoFuel mem.length st0.dataSize) st0 with
    | (.fuel, st1) => { outcome := .fuel, calls := calls + 1, st := st1 }
    | (.abort, st1) => { outcome := .abort, calls := calls + 1, st := st1 }
    | (.ret e, st1) =>
      if e ≠ EB_ErrorNone then
        if c.errReturn then { outcome := .ret e, calls := calls + 1, st := st1 }       -- l.606-607
        else if !c.ndebug then { outcome := .abort, calls := calls + 1, st := st1 }    -- `assert(0)` in place of l.606-607
        else if st1.pos == st.pos && st1.seen == st.seen && st1.idx == st.idx then
          -- same arguments, same decoder state, no payload parser ran: the next call is this call again
          { outcome := .hang, calls := calls + 1, st := st1 }
        else frameLoop c mem dataEnd annexb oracle fuel (calls + 1) e st1
      else frameLoop c mem dataEnd annexb oracle fuel (calls + 1) e st1

/-- `svt_av1_dec_frame(handle, data, data_size, is_annexb)`; l.589 resets `seen_frame_header`. -/
def decFrame (c : Cfg) (mem : List UInt8) (dataSize : Nat) (annexb : Bool) (oracle : Oracle) : Result :=
  frameLoop c mem dataSize annexb oracle (2 * (dataSize + mem.length) + 4) 0 0 (St.init dataSize)

/-- the walk of a whole buffer with nothing readable after it -/
def walk (c : Cfg) (mem : List UInt8) (annexb : Bool) (oracle : Oracle) : Result :=
  decFrame c mem mem.length annexb oracle

/-- payload oracle "every payload parses, no frame is finished before the data runs out" -/
def okOracle : Oracle := fun _ => .cont 0 false

end ObuWalk
