/-
  Model/Unwind.lean — construction / destruction of SVT-AV1 objects under allocation failure (C16, C15).

  What is modelled (Source/Lib/Common/Codec/EbObject.h, EbMalloc.h, EbThreads.h, EbDefinitions.h):

    EB_NEW(pobj, ctor, ...)            EbObject.h:70      calloc (fallible); run ctor; on error
                                                          EB_DELETE_UNCHECKED(pobj) = { if (pobj->dctor) pobj->dctor(pobj);
                                                          free(pobj); pobj = NULL; } and `return err`
    EB_MALLOC* / EB_CALLOC* / EB_ALLOC_PTR_ARRAY / EB_MALLOC_ALIGNED* / EB_CREATE_MUTEX / _SEMAPHORE / _THREAD
                                       EbMalloc.h:75-190  one fallible primitive; on failure the member stays NULL and the
                                                          constructor returns EB_ErrorInsufficientResources at once
    EB_DELETE(p)                       EbObject.h:81      if (p) { if (p->dctor) p->dctor(p); free(p); p = NULL; }
    EB_FREE* / EB_DESTROY_*            EbMalloc.h:98      NULL-tolerant release of one member
    a destructor                       `X_dctor`          a fixed list of releases, possibly dereferencing members
                                                          without a NULL test (`needs`)

  A class (`ClassDef`) is what `xlate/lifecycle.py` extracts from one `X_ctor` / `X_dctor` pair: the events that
  precede the assignment `obj->dctor = X_dctor` in source order (`pre`), whether that assignment exists, the
  events after it (`post`, the alphabet of everything the constructor can do afterwards), and the destructor's
  actions.  Loops and branches of the constructor are NOT part of the table: a run of a constructor is given by a
  `Script`, which may execute the `post` events in any order, any number of times, and stop anywhere (= return
  EB_ErrorNone).  Every real control-flow path of the constructor is one such script, so a statement proved for
  all scripts covers every loop count and every branch decision.

  Objects own their members as a tree; the tree is stored first-child / next-sibling (`Forest`) so that all
  recursion is structural.  The heap is the list of live allocation ids.

  Core Lean only.
-/
namespace Unwind

/-- what kind of resource a fallible primitive creates (documentation only: the semantics is the same) -/
inductive Kind where
  | heap | aligned | mutex | semaphore | thread
  deriving DecidableEq, Repr, Inhabited

/-- one constructor event -/
inductive Ev where
  /-- `EB_MALLOC*(obj->m, ..)`, `EB_CREATE_MUTEX(obj->m)` …: one fallible primitive, result stored in slot `m` -/
  | alloc (m : Nat) (kind : Kind)
  /-- `EB_NEW(obj->m, <class c>_ctor, ..)` -/
  | new (m : Nat) (c : Nat)
  /-- a call that can fail (its error is returned at once) and creates nothing owned by this object -/
  | call
  /-- an unconditional `return <error code>` (e.g. a parameter check) -/
  | failRet
  deriving DecidableEq, Repr, Inhabited

/-- one destructor action: release slot `slot` (if any) with a NULL-tolerant macro; evaluating the action
    dereferences the members `needs` without a NULL test -/
structure Rel where
  slot : Option Nat
  needs : List Nat
  deriving DecidableEq, Repr, Inhabited

structure ClassDef where
  name : String
  /-- events before `obj->dctor = ..` in source order (executed once each, in order) -/
  pre : List Ev
  hasDctor : Bool
  /-- events after the dctor assignment (executed as the script says) -/
  post : List Ev
  rels : List Rel
  /-- number of calls in the constructor whose error code is discarded although the callee can fail by
      allocation (the model propagates every error: for such a class "a failure is reported" is NOT claimed) -/
  swallow : Nat := 0
  deriving Repr, Inhabited

abbrev Table := List ClassDef

def Table.cls (T : Table) (c : Nat) : ClassDef := T.getD c default

/-- owned members, first-child / next-sibling: `node slot id obj kids rest`; `obj = some (c, dset)` when the
    allocation is an object of class `c` whose `dctor` field is set (`dset`) and whose members are `kids` -/
inductive Forest where
  | nil
  | node (slot id : Nat) (obj : Option (Nat × Bool)) (kids rest : Forest)
  deriving Repr, Inhabited

/-- a run of a constructor: `ev i sub next` executes `post[i]` (a nested `EB_NEW` runs the nested
    constructor under `sub`), then continues with `next`; `stop` (or an index out of range) returns EB_ErrorNone -/
inductive Script where
  | stop
  | ev (i : Nat) (sub next : Script)
  deriving Repr, Inhabited

/-- allocation ids of a forest, newest first (the order in which they sit on the heap list) -/
def Forest.ids : Forest → List Nat
  | .nil => []
  | .node _ id _ kids rest => kids.ids ++ id :: rest.ids

def Forest.hasSlot (s : Nat) : Forest → Bool
  | .nil => false
  | .node m _ _ _ rest => m == s || rest.hasSlot s

def ClassDef.releases (cd : ClassDef) (m : Nat) : Bool :=
  cd.rels.any (fun r => r.slot == some m)

/-- ids that are still allocated after the destructor of class `c` has run over the members `f` and the
    objects it deletes have been freed (`EB_DELETE` runs the member's own destructor when its `dctor` is set;
    a member the destructor does not release stays allocated with everything below it) -/
def remain (T : Table) : Nat → Forest → List Nat
  | _, .nil => []
  | c, .node m id obj kids rest =>
    (if (T.cls c).releases m then
       match obj with
       | none => []
       | some (d, dset) => if dset then remain T d kids else kids.ids
     else kids.ids ++ [id]) ++ remain T c rest

/-- some destructor action of `cd` dereferences a member that is NULL in `f` -/
def needsMissing (cd : ClassDef) (f : Forest) : Bool :=
  cd.rels.any (fun r => r.needs.any (fun s => !f.hasSlot s))

/-- a destructor run for a member object deleted by class `c`'s destructor dereferences NULL -/
def nestedCrash (T : Table) : Nat → Forest → Bool
  | _, .nil => false
  | c, .node m _ obj kids rest =>
    ((T.cls c).releases m &&
      (match obj with
       | some (d, true) => needsMissing (T.cls d) kids || nestedCrash T d kids
       | _ => false)) || nestedCrash T c rest

/-- running the destructor of class `c` over the members `f` dereferences a NULL member somewhere -/
def crashes (T : Table) (c : Nat) (f : Forest) : Bool :=
  needsMissing (T.cls c) f || nestedCrash T c f

/-- machine state -/
structure St where
  /-- fallible primitives executed so far: the one executed when `cnt = k` is "the k-th site" -/
  cnt : Nat
  nextId : Nat
  /-- live allocations, newest first -/
  heap : List Nat
  crashed : Bool
  /-- a counted primitive was made to fail -/
  fired : Bool
  deriving Repr, Inhabited

def St.init : St := ⟨0, 0, [], false, false⟩

/-- count one fallible primitive -/
def St.tick (st : St) (failed : Bool) : St :=
  { st with cnt := st.cnt + 1, fired := st.fired || failed }

/-- count one fallible primitive that succeeds and allocates id `st.nextId` -/
def St.push (st : St) : St :=
  { st with cnt := st.cnt + 1, nextId := st.nextId + 1, heap := st.nextId :: st.heap }

structure Out where
  ok : Bool
  f : Forest
  st : St
  deriving Repr, Inhabited

/-- `EB_DELETE_UNCHECKED` / `EB_DELETE` on the object `id` of class `d` with members `ck`:
    if its `dctor` is set run it, then `free(pobj)` -/
def deleteObj (T : Table) (d id : Nat) (dset : Bool) (ck : Forest) (st : St) : St :=
  let kept := if dset then remain T d ck else ck.ids
  let freed := id :: ck.ids.filter (fun x => !kept.contains x)
  { st with heap := st.heap.filter (fun x => !freed.contains x),
            crashed := st.crashed || (dset && crashes T d ck) }

/-- the part of a constructor that precedes `obj->dctor = ..` -/
def runPre (fail : Nat → Bool) : List Ev → Forest → St → Out
  | [], f, st => ⟨true, f, st⟩
  | .alloc m _ :: es, f, st =>
    if fail st.cnt then ⟨false, f, st.tick true⟩
    else runPre fail es (.node m st.nextId none .nil f) st.push
  | .failRet :: _, f, st => ⟨false, f, st⟩
  | _ :: es, f, st =>   -- `call` (and `new`, which the translator never emits before the dctor assignment)
    if fail st.cnt then ⟨false, f, st.tick true⟩ else runPre fail es f (st.tick false)

/-- what `EB_NEW(.., <class d>_ctor, ..)` does after its calloc returned the object `id`:
    run the constructor (`pre`, then the scripted part `run`); on error delete the object.
    `some ck` = constructed with members `ck`. -/
def newBody (T : Table) (fail : Nat → Bool) (d id : Nat) (run : Forest → St → Out) (st1 : St) :
    Option Forest × St :=
  let cd := T.cls d
  let p := runPre fail cd.pre .nil st1
  if p.ok then
    let r := run p.f p.st
    if r.ok then (some r.f, r.st) else (none, deleteObj T d id cd.hasDctor r.f r.st)
  else (none, deleteObj T d id false p.f p.st)

/-- the scripted part of the constructor of class `c`, members so far `f` -/
def runScript (T : Table) (fail : Nat → Bool) : Nat → Script → Forest → St → Out
  | _, .stop, f, st => ⟨true, f, st⟩
  | c, .ev i sub next, f, st =>
    match (T.cls c).post[i]? with
    | none => ⟨true, f, st⟩
    | some (.alloc m _) =>
      if fail st.cnt then ⟨false, f, st.tick true⟩
      else runScript T fail c next (.node m st.nextId none .nil f) st.push
    | some .call =>
      if fail st.cnt then ⟨false, f, st.tick true⟩ else runScript T fail c next f (st.tick false)
    | some .failRet => ⟨false, f, st⟩
    | some (.new m d) =>
      if fail st.cnt then ⟨false, f, st.tick true⟩
      else
        match newBody T fail d st.nextId (fun pk s => runScript T fail d sub pk s) st.push with
        | (some ck, st3) => runScript T fail c next (.node m st.nextId (some (d, (T.cls d).hasDctor)) ck f) st3
        | (none, st3) => ⟨false, f, st3⟩

/-- result of `EB_NEW(root, <class c>_ctor, ..)` in a caller -/
structure Result where
  ok : Bool
  /-- the constructed object (one node) or `nil` -/
  root : Forest
  st : St
  deriving Repr, Inhabited

/-- `EB_NEW(root, <class c>_ctor, ..)` from an empty heap, `fail n` = "the n-th counted primitive fails" -/
def construct (T : Table) (fail : Nat → Bool) (c : Nat) (script : Script) : Result :=
  let st := St.init
  if fail st.cnt then ⟨false, .nil, st.tick true⟩
  else
    match newBody T fail c st.nextId (fun pk s => runScript T fail c script pk s) st.push with
    | (some ck, st3) => ⟨true, .node 0 st.nextId (some (c, (T.cls c).hasDctor)) ck .nil, st3⟩
    | (none, st3) => ⟨false, .nil, st3⟩

/-- `EB_DELETE(root)` of what `construct` returned -/
def destroy (T : Table) (r : Result) : St :=
  match r.root with
  | .node _ id (some (c, dset)) ck _ => deleteObj T c id dset ck r.st
  | _ => r.st

def failAt (k : Nat) : Nat → Bool := fun n => n == k
def noFail : Nat → Bool := fun _ => false

/-! ### the per-class obligations (decidable; evaluated for the generated table in `Lemmas/LifecycleTable.lean`) -/

def Ev.slot? : Ev → Option Nat
  | .alloc m _ => some m
  | .new m _ => some m
  | _ => none

def Ev.isNew : Ev → Bool
  | .new _ _ => true
  | _ => false

/-- slots the constructor can fill -/
def ClassDef.created (cd : ClassDef) : List Nat := (cd.pre ++ cd.post).filterMap Ev.slot?

/-- `pre` is `(call | failRet)* alloc?`: nothing that can return an error follows the first creation
    while the destructor is not yet registered -/
def preOK : List Ev → Bool
  | [] => true
  | .alloc _ _ :: es => es.isEmpty
  | .new _ _ :: _ => false
  | _ :: es => preOK es

/-- the destructor is registered before anything can go wrong with a member already created;
    a class without destructor creates nothing -/
def ClassDef.dctorFirst (cd : ClassDef) : Bool :=
  preOK cd.pre && (cd.created.isEmpty || cd.hasDctor)

/-- created ⊆ released -/
def ClassDef.covered (cd : ClassDef) : Bool := cd.created.all cd.releases

/-- the destructor never dereferences a member without a NULL test -/
def ClassDef.nullTol (cd : ClassDef) : Bool := cd.rels.all (fun r => r.needs.isEmpty)

def ClassDef.good (cd : ClassDef) : Bool := cd.dctorFirst && cd.covered && cd.nullTol

/-- classes constructed by `EB_NEW` inside class `cd` -/
def ClassDef.news (cd : ClassDef) : List Nat :=
  cd.post.filterMap (fun e => match e with | .new _ d => some d | _ => none)

/-- `S` is closed under "constructs" and every class in it meets the three obligations -/
def goodSet (T : Table) (S : List Nat) : Bool :=
  S.all (fun c => (T.cls c).good && (T.cls c).news.all (fun d => S.contains d))

/-- the largest good set: start from the locally good classes, drop those constructing a dropped class -/
def refine (T : Table) : Nat → List Nat → List Nat
  | 0, S => S
  | n + 1, S => refine T n (S.filter (fun c => (T.cls c).news.all (fun d => S.contains d)))

def goodClasses (T : Table) : List Nat :=
  refine T T.length ((List.range T.length).filter (fun c => (T.cls c).good))

/-- `S` is a good set none of whose classes discards an error code -/
def reportSet (T : Table) (S : List Nat) : Bool :=
  goodSet T S && S.all (fun c => (T.cls c).swallow == 0)

/-- the good classes none of whose (transitively) constructed classes discards an error code -/
def reportingClasses (T : Table) : List Nat :=
  refine T T.length ((List.range T.length).filter (fun c => (T.cls c).good && (T.cls c).swallow == 0))

/-! ### straight-line scripts (used by the driver, the examples and the witness search) -/

/-- every `post` event once, in source order; nested constructors likewise, `depth` levels deep -/
def straight (T : Table) : Nat → Nat → Script
  | 0, _ => .stop
  | depth + 1, c =>
    let n := (T.cls c).post.length
    (List.range n).foldr (fun i acc =>
      let sub := match (T.cls c).post[i]? with
                 | some (.new _ d) => straight T depth d
                 | _ => .stop
      .ev i sub acc) .stop

/-- a bad outcome of one fault-injected construction: a crash, a leak after the error return, or
    (no fault fired) a leak / crash when the completed object is destroyed -/
def badOutcome (T : Table) (fail : Nat → Bool) (c : Nat) (s : Script) : Bool :=
  let r := construct T fail c s
  if r.ok then
    let st := destroy T r
    r.st.crashed || st.crashed || !st.heap.isEmpty
  else r.st.crashed || !r.st.heap.isEmpty

/-- search a witness `k` (0 = no fault) on the straight-line script: `some k` means
    `badOutcome T (if k = 0 then noFail else failAt (k-1)) c (straight ..)` -/
def findWitness (T : Table) (depth : Nat) (c : Nat) : Option Nat :=
  let s := straight T depth c
  let sites := (construct T noFail c s).st.cnt
  (List.range (sites + 1)).find? (fun k =>
    badOutcome T (if k = 0 then noFail else failAt (k - 1)) c s)

end Unwind
