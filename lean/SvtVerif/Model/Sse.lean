/-
  C26 — executable model of `psnr_calculations`
  (/repo/Source/Lib/Encoder/Codec/EbEncDecProcess.c l.967-1451), the function that fills
  `parent_pcs_ptr->luma_sse / cb_sse / cr_sse`; they are copied to the output packet in
  EbPacketizationProcess.c l.686-689 when `static_config.stat_report` is set.

  Core Lean only.  Buffers are whole allocations (`Nat → Nat`, index = element offset from the start of
  the allocation, value = the stored unsigned sample); pointers are element offsets; the C loops are
  transcribed one to one (explicit loop condition, pointer bumping by the stride after every row,
  `uint64_t` accumulation with an explicit `% 2^64`, the `(int64_t)SQR(..)` term with explicit `wrapS 64`,
  and the final `(uint32_t)` truncation).

  What is modelled: the 8-bit path (l.973-1084) and the unpacked 16-bit path (`ten_bit_format != 1`,
  l.1320-1449).  Not modelled: the `ten_bit_format == 1` superblock-packed path (l.1103-1319; see the
  note at the end) and `EB_FREE_ARRAY` of the saved buffers (l.1079-1083, 1437-1444; no effect on values).
-/
import SvtVerif.CSem

namespace Sse
open CSem

/-- A whole allocation: element offset -> stored unsigned sample (uint8_t or uint16_t). -/
abbrev Buf := Nat → Nat

/-- `(int64_t)SQR((int64_t)(a) - (b))` (l.1020-1021; `#define SQR(x) ((x) * (x))`, EbUtility.h), followed by the
    implicit conversion to `uint64_t` that `residual_distortion += …` performs. `a`, `b` are the unsigned samples. -/
def sqrTerm (a b : Nat) : Nat :=
  let d : Int := wrapS 64 ((a : Int) - (b : Int))     -- (int64_t)(a) - (b)          in int64_t
  let s : Int := wrapS 64 (d * d)                     -- (int64_t)((d) * (d))        in int64_t
  (wrapU 64 s).toNat                                  -- converted to uint64_t by `+=`

/-- `residual_distortion += t` on `uint64_t residual_distortion` (l.987, l.1020). -/
def accAdd (acc t : Nat) : Nat := (acc + t) % 2 ^ 64

/-- The inner loop `for (int column_index = c; column_index < w; ++column_index) residual_distortion += term(column_index);`
    (l.1017-1022, 1040-1045, 1063-1068; 16-bit: l.1358-1365, 1389-1396, 1421-1428). `term c` is the value added for column `c`. -/
def colLoop (term : Nat → Nat) (w : Nat) (c acc : Nat) : Nat :=
  if c < w then colLoop term w (c + 1) (accAdd acc (term c)) else acc
termination_by w - c

/-- 8-bit row loop (l.1014-1026; chroma l.1037-1049, 1060-1072):
    ```
    for (int row_index = r; row_index < h; ++row_index) {
        for (column_index = 0; column_index < w; ++column_index)
            residual_distortion += (int64_t)SQR((int64_t)(input_buffer[column_index]) - (recon_coeff_buffer[column_index]));
        input_buffer += input_stride;  recon_coeff_buffer += recon_stride;
    }
    ```
    `ip`, `rp` are the current values of `input_buffer`, `recon_coeff_buffer` (offsets into `inB`, `recB`). -/
def rowLoop8 (inB recB : Buf) (inStride recStride w h : Nat) (r ip rp acc : Nat) : Nat :=
  if r < h then
    let acc := colLoop (fun c => sqrTerm (inB (ip + c)) (recB (rp + c))) w 0 acc
    rowLoop8 inB recB inStride recStride w h (r + 1) (ip + inStride) (rp + recStride) acc
  else acc
termination_by h - r

/-- One plane of the 8-bit path: `residual_distortion = 0; <row loop>; sse_total[i] = residual_distortion;`
    (l.1012-1028). Returns the `uint64_t` value `sse_total[i]`. `inOrg`/`recOrg` are the offsets computed at
    l.1007-1010 (`origin_x + origin_y * stride`). -/
def ssePlane64 (inB recB : Buf) (inOrg inStride recOrg recStride w h : Nat) : Nat :=
  rowLoop8 inB recB inStride recStride w h 0 inOrg recOrg 0

/-- `pcs_ptr->parent_pcs_ptr->luma_sse = (uint32_t)sse_total[0];` (l.1075-1077). -/
def toU32 (x : Nat) : Nat := x % 2 ^ 32

/-- The value reported for one plane (8-bit path). -/
def ssePlane (inB recB : Buf) (inOrg inStride recOrg recStride w h : Nat) : Nat :=
  toU32 (ssePlane64 inB recB inOrg inStride recOrg recStride w h)

/-! ### 16-bit path (`ten_bit_format != 1`, l.1320-1435) -/

/-- `((input_buffer[c]) << 2) | ((input_buffer_bit_inc[c] >> 6) & 3)` (l.1362-1363): the 10-bit source sample assembled from
    the 8 MSB plane and the "bit increment" plane (2 LSBs stored in bits 7..6). Operands are `uint8_t` promoted to `int`; all
    values are non-negative and below 2^10, so the `int` operations coincide with the `Nat` ones. -/
def src10 (msb inc : Nat) : Nat := (msb <<< 2) ||| ((inc >>> 6) &&& 3)

/-- 16-bit row loop (l.1355-1370; chroma l.1386-1401, 1418-1433): three pointers are bumped per row
    (`input_buffer += stride; input_buffer_bit_inc += stride_bit_inc; recon_coeff_buffer += recon stride` in `uint16_t` elements). -/
def rowLoop16 (inB incB recB : Buf) (inStride incStride recStride w h : Nat) (r ip bp rp acc : Nat) : Nat :=
  if r < h then
    let acc := colLoop (fun c => sqrTerm (src10 (inB (ip + c)) (incB (bp + c))) (recB (rp + c))) w 0 acc
    rowLoop16 inB incB recB inStride incStride recStride w h (r + 1) (ip + inStride) (bp + incStride) (rp + recStride) acc
  else acc
termination_by h - r

def ssePlane64_16 (inB incB recB : Buf) (inOrg inStride incOrg incStride recOrg recStride w h : Nat) : Nat :=
  rowLoop16 inB incB recB inStride incStride recStride w h 0 inOrg incOrg recOrg 0

/-- l.1447-1449. -/
def ssePlane16 (inB incB recB : Buf) (inOrg inStride incOrg incStride recOrg recStride w h : Nat) : Nat :=
  toU32 (ssePlane64_16 inB incB recB inOrg inStride incOrg incStride recOrg recStride w h)

/-! ### The picture-level function: buffer choice, origins, dimensions -/

/-- The fields of `EbPictureBufferDesc` that `psnr_calculations` reads. For a 16-bit recon picture the three
    buffers hold `uint16_t` elements (the C code casts `buffer_y + byte offset` to `uint16_t *`). -/
structure PicDesc where
  bufY : Buf
  bufCb : Buf
  bufCr : Buf
  bitIncY : Buf := fun _ => 0
  bitIncCb : Buf := fun _ => 0
  bitIncCr : Buf := fun _ => 0
  originX : Nat
  originY : Nat
  strideY : Nat
  strideCb : Nat
  strideCr : Nat
  strideBitIncY : Nat := 0
  strideBitIncCb : Nat := 0
  strideBitIncCr : Nat := 0
  width : Nat
  height : Nat

/-- Three plane buffers (`save_enhanced_picture_ptr[0..2]`, or the three buffers of a picture). -/
structure Planes where
  y : Buf
  cb : Buf
  cr : Buf

/-- What `psnr_calculations` reads from `pcs_ptr` / `pcs_ptr->parent_pcs_ptr`. -/
structure Pcs where
  isUsedAsReferenceFlag : Bool      -- parent_pcs_ptr->is_used_as_reference_flag
  temporalFilteringOn : Bool        -- parent_pcs_ptr->temporal_filtering_on
  referencePicture : PicDesc        -- ((EbReferenceObject*)parent_pcs_ptr->reference_picture_wrapper_ptr->object_ptr)->reference_picture[16bit]
  reconPicture : PicDesc            -- pcs_ptr->recon_picture_ptr / recon_picture16bit_ptr
  enhancedUnscaled : PicDesc        -- parent_pcs_ptr->enhanced_unscaled_picture_ptr
  saveEnhanced : Planes             -- parent_pcs_ptr->save_enhanced_picture_ptr[3]
  saveEnhancedBitInc : Planes := ⟨fun _ => 0, fun _ => 0, fun _ => 0⟩   -- save_enhanced_picture_bit_inc_ptr[3]

/-- What it reads from `scs_ptr`. -/
structure Scs where
  is16bit : Bool                    -- static_config.encoder_bit_depth > EB_8BIT  (l.968)
  ssX : Nat                         -- subsampling_x (l.970)
  ssY : Nat                         -- subsampling_y (l.971)
  maxInputPadRight : Nat            -- max_input_pad_right
  maxInputPadBottom : Nat           -- max_input_pad_bottom

/-- l.976-981 (8-bit) / l.1088-1093 (16-bit): which reconstruction is measured. `recon_output` (l.448-460) makes the same choice. -/
def chooseRecon (p : Pcs) : PicDesc :=
  if p.isUsedAsReferenceFlag then p.referencePicture else p.reconPicture

/-- l.997-1005 (8-bit) / l.1331-1345 (16-bit, MSB planes): which source samples are measured: the copy saved by
    `save_src_pic_buffers` (EbTemporalFiltering.c l.2620, called at l.2781 before the filter overwrites the picture) when the picture
    was temporally filtered, else the input picture's own buffers. -/
def chooseSrc (p : Pcs) : Planes :=
  if p.temporalFilteringOn then p.saveEnhanced
  else ⟨p.enhancedUnscaled.bufY, p.enhancedUnscaled.bufCb, p.enhancedUnscaled.bufCr⟩

/-- l.1331-1345, the bit-increment planes. -/
def chooseSrcBitInc (p : Pcs) : Planes :=
  if p.temporalFilteringOn then p.saveEnhancedBitInc
  else ⟨p.enhancedUnscaled.bitIncY, p.enhancedUnscaled.bitIncCb, p.enhancedUnscaled.bitIncCr⟩

/-- Both choices at once: (recon picture, source planes). -/
def chooseBuffers (p : Pcs) : PicDesc × Planes := (chooseRecon p, chooseSrc p)

/-- `recon_output` (EbEncDecProcess.c l.446-461): the picture handed to the application as reconstruction
    (before the optional film-grain synthesis of l.465-486). A second C site making the same test as `chooseRecon`
    (l.976-981), hence the same body. -/
def reconOutputChoice (p : Pcs) : PicDesc :=
  if p.isUsedAsReferenceFlag then p.referencePicture else p.reconPicture

/-- Loop bounds: `input_picture_ptr->width - scs_ptr->max_input_pad_right` (l.1018; both `uint16_t`, promoted to `int`;
    a negative value gives zero iterations, as does the truncated `Nat` subtraction) and its `>> ss_x` (l.1041). -/
def lumaW (inp : PicDesc) (s : Scs) : Nat := inp.width - s.maxInputPadRight
def lumaH (inp : PicDesc) (s : Scs) : Nat := inp.height - s.maxInputPadBottom
def chromaW (inp : PicDesc) (s : Scs) : Nat := (inp.width - s.maxInputPadRight) >>> s.ssX
def chromaH (inp : PicDesc) (s : Scs) : Nat := (inp.height - s.maxInputPadBottom) >>> s.ssY

/-- The three reported values `(luma_sse, cb_sse, cr_sse)` of the 8-bit path (l.973-1084). -/
def psnr8 (p : Pcs) (s : Scs) : Nat × Nat × Nat :=
  let rec_ := chooseRecon p                                                  -- l.976-981
  let inp := p.enhancedUnscaled                                              -- l.983-984
  let src := chooseSrc p                                                     -- l.997-1005
  -- l.1007-1028
  let y := ssePlane src.y rec_.bufY (inp.originX + inp.originY * inp.strideY) inp.strideY
             (rec_.originX + rec_.originY * rec_.strideY) rec_.strideY (lumaW inp s) (lumaH inp s)
  -- l.1030-1051
  let cb := ssePlane src.cb rec_.bufCb (inp.originX / 2 + inp.originY / 2 * inp.strideCb) inp.strideCb
             (rec_.originX / 2 + rec_.originY / 2 * rec_.strideCb) rec_.strideCb (chromaW inp s) (chromaH inp s)
  -- l.1053-1074
  let cr := ssePlane src.cr rec_.bufCr (inp.originX / 2 + inp.originY / 2 * inp.strideCr) inp.strideCr
             (rec_.originX / 2 + rec_.originY / 2 * rec_.strideCr) rec_.strideCr (chromaW inp s) (chromaH inp s)
  (y, cb, cr)                                                                -- l.1075-1077

/-- The three reported values of the unpacked 16-bit path (l.1085-1102, 1320-1449). The recon buffers hold `uint16_t`;
    the C code forms a *byte* offset `(origin_x << 1) + (origin_y << 1) * stride_y` (l.1322-1323; chroma
    `(origin_x << 1) / 2 + (origin_y << 1) / 2 * stride_cb`, l.1375-1377) and casts to `uint16_t *`; the element offset is
    half of it (the model assumes it is even, i.e. the access is aligned; true for the encoder's even origins). -/
def psnr16 (p : Pcs) (s : Scs) : Nat × Nat × Nat :=
  let rec_ := chooseRecon p                                                  -- l.1088-1093
  let inp := p.enhancedUnscaled                                              -- l.1094-1095
  let src := chooseSrc p                                                     -- l.1331-1345
  let inc := chooseSrcBitInc p
  -- l.1321-1372
  let y := ssePlane16 src.y inc.y rec_.bufY
             (inp.originX + inp.originY * inp.strideY) inp.strideY
             (inp.originX + inp.originY * inp.strideBitIncY) inp.strideBitIncY
             (((rec_.originX <<< 1) + (rec_.originY <<< 1) * rec_.strideY) / 2) rec_.strideY (lumaW inp s) (lumaH inp s)
  -- l.1374-1403
  let cb := ssePlane16 src.cb inc.cb rec_.bufCb
             (inp.originX / 2 + inp.originY / 2 * inp.strideCb) inp.strideCb
             (inp.originX / 2 + inp.originY / 2 * inp.strideBitIncCb) inp.strideBitIncCb
             (((rec_.originX <<< 1) / 2 + (rec_.originY <<< 1) / 2 * rec_.strideCb) / 2) rec_.strideCb (chromaW inp s) (chromaH inp s)
  -- l.1405-1435
  let cr := ssePlane16 src.cr inc.cr rec_.bufCr
             (inp.originX / 2 + inp.originY / 2 * inp.strideCr) inp.strideCr
             (inp.originX / 2 + inp.originY / 2 * inp.strideBitIncCr) inp.strideBitIncCr
             (((rec_.originX <<< 1) / 2 + (rec_.originY <<< 1) / 2 * rec_.strideCr) / 2) rec_.strideCr (chromaW inp s) (chromaH inp s)
  (y, cb, cr)                                                                -- l.1447-1449

/-- `psnr_calculations` (l.967): `is_16bit` selects the path (l.973 / l.1085). -/
def psnrCalculations (p : Pcs) (s : Scs) : Nat × Nat × Nat :=
  if s.is16bit then psnr16 p s else psnr8 p s

/-- EbPacketizationProcess.c l.686-700: what the packet header carries: (luma_sse, cb_sse, cr_sse) of the picture's parent PCS
    when `stat_report` is set (l.687-689 assign `luma_sse`, `cr_sse`, `cb_sse` field by field, no swap), zeros otherwise. -/
def packetFields (statReport : Bool) (pcsSse : Nat × Nat × Nat) : Nat × Nat × Nat :=
  if statReport then pcsSse else (0, 0, 0)


/-! ### Which reconstruction is in the measured buffer: the CDEF application condition (EbCdefProcess.c l.523-540)

    `psnr_calculations` runs in the restoration kernel (EbRestProcess.c l.573-576) after the CDEF kernel. The CDEF kernel always
    *searches* and signals the strengths when CDEF is on for the picture (l.510-525: `finish_cdef_search`), but *applies* the filter
    to the reconstruction buffer only under the condition of l.527-530:
    ```
    if (scs_ptr->seq_header.enable_restoration != 0 || pcs_ptr->parent_pcs_ptr->is_used_as_reference_flag ||
        scs_ptr->static_config.stat_report || scs_ptr->static_config.recon_enabled) { svt_av1_cdef_frame(0, scs_ptr, pcs_ptr); }
    ```
    A decoder applies CDEF whenever it is signalled. -/

/-- l.523 `scs_ptr->seq_header.cdef_level && pcs_ptr->parent_pcs_ptr->cdef_level` is `cdefOn`; l.527-530 is the rest.
    `withStatReport` says whether the condition has the disjunct `scs_ptr->static_config.stat_report` (l.529): it does in /repo
    (`withStatReport = true` is the code as it is); `false` is the condition without that disjunct (the one
    hooks/fix-c26-cdef-stat-report.patch adds), for which `C26.sse_cdef_gap_witness` shows the mismatch. checks/c26.py
    reads the condition from the current source, refuses anything but these two forms, and records which one is present. -/
def cdefFrameApplied (withStatReport cdefOn enableRestoration isRef reconEnabled statReport : Bool) : Bool :=
  cdefOn && (enableRestoration || isRef || (withStatReport && statReport) || reconEnabled)

/-- The buffer contents `psnr_calculations` finds: the CDEF-filtered picture if the filter was applied, else the unfiltered one. -/
def measuredRecon {α : Type} (withStatReport cdefOn enableRestoration isRef reconEnabled statReport : Bool) (preCdef postCdef : α) : α :=
  if cdefFrameApplied withStatReport cdefOn enableRestoration isRef reconEnabled statReport then postCdef else preCdef

/-- What a conforming decoder reconstructs from the packet: CDEF applied iff signalled. -/
def decodedRecon {α : Type} (cdefOn : Bool) (preCdef postCdef : α) : α :=
  if cdefOn then postCdef else preCdef

/-! ### `save_src_pic_buffers` (EbTemporalFiltering.c l.2620-2709) -/

/-- `pic_copy_kernel_8bit(src, stride, dst, stride, stride, height)` copies `stride * height` elements starting at the
    beginning of the allocation (l.2659-2678): the saved plane agrees with the original on `[0, n)`. Model: the copy itself. -/
def picCopy (src : Buf) (n : Nat) : Buf := fun i => if i < n then src i else 0

/-- The saved planes for a picture whose allocation spans `lumaSize` / `chromaSize` elements (l.2623-2628, 2642-2678). -/
def saveSrcPicBuffers (pic : PicDesc) (lumaSize chromaSize : Nat) : Planes :=
  ⟨picCopy pic.bufY lumaSize, picCopy pic.bufCb chromaSize, picCopy pic.bufCr chromaSize⟩

/-
  Note on the `ten_bit_format == 1` path (l.1103-1319), not modelled: it walks 64x64 superblocks and adds four terms per
  packed 2-bit byte in loops `for (k = 0; k < sb_width / 4; k++)`, i.e. it visits only `4 * (sb_width / 4)` columns of the
  last superblock column; it also reads `input_picture_ptr->buffer_*` unconditionally (never the saved pre-filter copy).
  `ten_bit_format` is not validated by `verify_settings`, `compressed_ten_bit_format` must be 0, so the layout this path expects
  is never produced by the library itself. Outside the 8-bit property.
-/

end Sse
