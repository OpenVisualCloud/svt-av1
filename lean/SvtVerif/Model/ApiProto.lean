/-
  C14 — protocol model of the public encoder / decoder API (core Lean only).

  Three layers:
  1. table types filled by the translator (`Gen/ApiTables.lean`, generated from the C source)
     and their generic semantics: what a call does to a NULL argument along a path (`runNullEvs`), what a
     path does to the set of held mutexes (`runLocks`);
  2. the protocol automaton of one encoder handle and one decoder handle as the application sees them
     (`step`), parameterised by the tables: NULL-argument behaviour and mutex effects are *looked up* in the
     generated tables, call-order behaviour is transcribed by hand from EbEncHandle.c / EbDecHandle.c
     (line numbers in comments; compared with the real library by harness/apiseq.c);
  3. `run`: the predicted result class of every call of a sequence.

  The model mirrors the code as it is: where the code dereferences without a check, or relies on an earlier
  call having happened, the prediction is `undef tag` (outside what the code enforces: the real library may
  crash or hang there), never "returns an error".
-/
namespace ApiProto

/-! ## 1. Tables -/

/-- Events of one pointer along one path, up to its first dereference. -/
inductive PEv where
  | chkNonNull            -- took the branch of a NULL test on which the pointer is non-NULL
  | chkNull               -- took the branch on which it is NULL
  | deref (line : Nat)    -- `->`, `*`, `[]`, or handed to a same-file callee that dereferences it unguarded
  | escape (line : Nat)   -- handed to a function of another translation unit (counted as a dereference)
  deriving DecidableEq, Repr

inductive LEv where
  | lock (m : String)
  | unlock (m : String)
  deriving DecidableEq, Repr

structure GuardPath where
  evs : List PEv
  ret : Option Nat        -- statically known return code of the path
  deriving Repr

structure GuardEntry where
  fn : String
  ptr : String
  derived : Bool          -- `*p` / `p->field` of a parameter rather than a parameter
  paths : List GuardPath

structure LockPath where
  evs : List LEv
  ret : Option Nat
  nulls : List String     -- pointers known to be NULL when the path returns
  deriving Repr

structure LockEntry where
  fn : String
  paths : List LockPath

structure Tables where
  guards : List GuardEntry
  locks : List LockEntry

/-! ### NULL-argument semantics of a path -/

inductive NullRun where
  | infeasible            -- the path needs the pointer to be non-NULL
  | returns               -- the call returns along this path without touching the pointer
  | nullAccess (line : Nat)
  deriving DecidableEq, Repr

/-- What happens along a path when the pointer argument is NULL. -/
def runNullEvs : List PEv → NullRun
  | [] => .returns
  | .chkNonNull :: _ => .infeasible
  | .chkNull :: r => runNullEvs r
  | .deref l :: _ => .nullAccess l
  | .escape l :: _ => .nullAccess l

/-- Syntactic criterion used for the table: every access is preceded by a successful non-NULL test. -/
def pathGuarded : List PEv → Bool
  | [] => true
  | .chkNonNull :: _ => true
  | .chkNull :: r => pathGuarded r
  | .deref _ :: _ => false
  | .escape _ :: _ => false

def entryGuarded (e : GuardEntry) : Bool := e.paths.all (fun p => pathGuarded p.evs)

/-- Line of a NULL access on some path of the entry, if any. -/
def nullWitness (e : GuardEntry) : Option Nat :=
  e.paths.findSome? (fun p => match runNullEvs p.evs with | .nullAccess l => some l | _ => none)

/-- Return codes of the paths a NULL argument can take to a `return`. -/
def nullRets (e : GuardEntry) : List (Option Nat) :=
  (e.paths.filter (fun p => runNullEvs p.evs == .returns)).map (·.ret)

def findGuard (T : Tables) (fn ptr : String) : Option GuardEntry :=
  T.guards.find? (fun e => e.fn == fn && e.ptr == ptr)

inductive NullClass where
  | unguarded (line : Nat)   -- some path dereferences the NULL pointer
  | ret (code : Nat)         -- guarded, and every NULL path returns this code
  | dyn                      -- guarded (never touched when NULL); return code not static
  deriving DecidableEq, Repr

def nullClass (T : Tables) (fn ptr : String) : NullClass :=
  match findGuard T fn ptr with
  | none => .unguarded 0
  | some e =>
    match nullWitness e with
    | some l => .unguarded l
    | none =>
      match nullRets e with
      | some c :: rs => if rs.all (· == some c) then .ret c else .dyn
      | _ => .dyn

/-! ### Mutex semantics of a path -/

inductive LockRun where
  | done (held : List String)
  | blocked (m : String)       -- `lock m` while m is held: never returns (non-recursive mutex)
  | badUnlock (m : String)     -- `unlock m` while m is not held
  deriving DecidableEq, Repr

def runLocks (h : List String) : List LEv → LockRun
  | [] => .done h
  | .lock m :: r => if h.contains m then .blocked m else runLocks (m :: h) r
  | .unlock m :: r => if h.contains m then runLocks (h.erase m) r else .badUnlock m

/-- The path releases everything it acquires (and never blocks on itself). -/
def pathBalanced (p : LockPath) : Bool := runLocks [] p.evs == .done []

def allBalanced (T : Tables) : Bool := T.locks.all (fun e => e.paths.all pathBalanced)

/-- A sequence of calls, each along some path, starting with the mutexes `h` held. -/
def runCalls (h : List String) : List LockPath → LockRun
  | [] => .done h
  | p :: ps =>
    match runLocks h p.evs with
    | .done h' => runCalls h' ps
    | r => r

def findLocks (T : Tables) (fn : String) : List LockPath :=
  match T.locks.find? (fun e => e.fn == fn) with
  | some e => e.paths
  | none => []

/-! ## 2. Protocol automaton -/

inductive Tag where
  | null (fn ptr : String)     -- NULL argument dereferenced
  | order (fn what : String)   -- call made in a state the function does not check for
  deriving DecidableEq, Repr

/-- Predicted result class of one call, protocol level (everything except mutex effects). -/
inductive PRes where
  | ok
  | err (code : Nat)
  | oneOf (codes : List Nat)   -- timing dependent, one of these
  | mayBlock                   -- the documented blocking packet wait with nothing guaranteed to arrive
  | undef (t : Tag)            -- outside what the code enforces: the real call may crash or hang
  deriving DecidableEq, Repr

/-- Predicted result class of one call. -/
inductive Res where
  | ok
  | err (code : Nat)
  | oneOf (codes : List Nat)
  | mayBlock
  | undef (t : Tag)
  | blocked (m : String)       -- blocks forever on mutex m left held by an earlier call that returned
  | skipped                    -- after a call that is not predicted to return normally
  deriving DecidableEq, Repr

def PRes.toRes : PRes → Res
  | .ok => .ok
  | .err c => .err c
  | .oneOf cs => .oneOf cs
  | .mayBlock => .mayBlock
  | .undef t => .undef t

def Res.continues : Res → Bool
  | .ok | .err _ | .oneOf _ => true
  | _ => false

inductive Phase where
  | noHandle | handle | inited | deinited
  deriving DecidableEq, Repr

inductive CfgSt where
  | none | accepted | rejected
  deriving DecidableEq, Repr

/-- Application-visible state of the encoder handle variable. -/
structure Enc where
  phase : Phase := .noHandle
  cfg : CfgSt := .none          -- outcome of the last set_parameter with a non-NULL configuration
  touched : Bool := false       -- some configuration has been copied into the handle (copy_api_from_app runs before verify_settings)
  sent : Nat := 0               -- pictures handed to send_picture since enc_init
  eos : Bool := false
  recvLo : Nat := 0             -- packets certainly / possibly received
  recvHi : Nat := 0
  heldLo : Nat := 0             -- packets certainly / possibly held by the application
  heldHi : Nat := 0
  hasHdr : Bool := false
  fuzzy : Bool := false         -- a NULL picture was sent: packet count no longer predictable
  midstream : Bool := false     -- deinit was called with pictures still in the pipeline
  deriving DecidableEq, Repr

structure Dec where
  phase : Phase := .noHandle
  cfgSet : Bool := false
  fed : Nat := 0
  everDeinit : Bool := false    -- svt_av1_dec_deinit has run in this process (the decoder's memory map is a process global)
  deriving DecidableEq, Repr

structure St where
  enc : Enc := {}
  dec : Dec := {}
  held : List String := []      -- mutexes left held by calls that returned
  deriving DecidableEq, Repr

/-- The seven protocol states named in the property. -/
inductive ProtoState where
  | NoHandle | Handle | Configured | Rejected | Inited | Draining | Deinit
  deriving DecidableEq, Repr

def Enc.proto (e : Enc) : ProtoState :=
  match e.phase with
  | .noHandle => .NoHandle
  | .handle => match e.cfg with | .none => .Handle | .accepted => .Configured | .rejected => .Rejected
  | .inited => if e.eos then .Draining else .Inited
  | .deinited => .Deinit

inductive CfgArg where
  | valid | invalid | null
  deriving DecidableEq, Repr

inductive Op where
  -- encoder
  | initHandle | initHandleNull | initHandleNullCfg
  | setParam (a : CfgArg) | setParamNullH (a : CfgArg)
  | encInit | encInitNullH
  | streamHeader | streamHeaderNullH | streamHeaderNullOut | streamHeaderRelease | streamHeaderReleaseNull
  | send (k : Nat) | sendEos | sendNull | sendNullH
  | getPacket (blocking : Bool) | getPacketNullH | getPacketNullOut
  | releaseOut | releaseNull | releaseNullP
  | getRecon | getReconNullH | getReconNullBuf
  | getStreamInfo | getStreamInfoNullH | getStreamInfoNullInfo | getStreamInfoBadId
  | eosNal | eosNalNullH | drain | sleep
  | deinit | deinitNullH | deinitHandle | deinitHandleNullH
  -- decoder
  | decInitHandle | decInitHandleNull | decInitHandleNullCfg
  | decSetParam (null : Bool) | decSetParamNullH (null : Bool)
  | decInit | decInitNullH
  | decFrame | decFrameNullH | decFrameNullData | decFrameNullDataN
  | decGetPicture | decGetPictureNullH | decGetPictureNullBuf | decGetPictureNullInfo
  | decDeinit | decDeinitNullH | decDeinitHandle | decDeinitHandleNullH
  deriving DecidableEq, Repr

def EB_ErrorNone : Nat := 0
def EB_ErrorBadParameter : Nat := 0x80001005
def EB_ErrorInvalidComponent : Nat := 0x80001004
def EB_NoErrorEmptyQueue : Nat := 0x80002033
def EB_ErrorMax : Nat := 0x7FFFFFFF
def EB_DecNoOutputPicture : Nat := 0x40001004

/-- More than this many pictures in flight is outside the model (send_picture back-pressure, C27). -/
def maxInFlight : Nat := 16

/-- A call with a NULL argument `ptr` of `fn`: looked up in the generated table.  `k` is what the call does when the
    NULL argument is never touched and does not decide the return code. -/
def nullArg {σ : Type} (T : Tables) (fn ptr : String) (s : σ) (k : PRes × σ) : PRes × σ :=
  match nullClass T fn ptr with
  | .unguarded _ => (.undef (.null fn ptr), s)
  | .ret c => if c = 0 then k else (.err c, s)
  | .dyn => k

/-- Mutex effect of a call of `fn` that returns `code` (`none`: code not static) with a non-NULL handle `hparam`.
    All table paths compatible with that are followed; `Sum.inl m`: blocks on `m`. -/
def lockEffect (T : Tables) (fn hparam : String) (codes : List (Option Nat)) (held : List String) : Sum String (List String) :=
  let cands := (findLocks T fn).filter (fun p => codes.contains p.ret && !p.nulls.contains hparam)
  if cands.isEmpty then .inr held else
  cands.foldl (fun acc p =>
    match acc with
    | .inl m => .inl m
    | .inr h =>
      match runLocks held p.evs with
      | .blocked m => .inl m
      | .badUnlock _ => .inr h
      | .done h' => .inr (h ++ h'.filter (fun m => !h.contains m))) (.inr [])

def encFn (o : Op) : String :=
  match o with
  | .initHandle | .initHandleNull | .initHandleNullCfg => "svt_av1_enc_init_handle"
  | .setParam _ | .setParamNullH _ => "svt_av1_enc_set_parameter"
  | .encInit | .encInitNullH => "svt_av1_enc_init"
  | .streamHeader | .streamHeaderNullH | .streamHeaderNullOut => "svt_av1_enc_stream_header"
  | .streamHeaderRelease | .streamHeaderReleaseNull => "svt_av1_enc_stream_header_release"
  | .send _ | .sendEos | .sendNull | .sendNullH => "svt_av1_enc_send_picture"
  | .getPacket _ | .getPacketNullH | .getPacketNullOut | .drain => "svt_av1_enc_get_packet"
  | .releaseOut | .releaseNull | .releaseNullP => "svt_av1_enc_release_out_buffer"
  | .getRecon | .getReconNullH | .getReconNullBuf => "svt_av1_get_recon"
  | .getStreamInfo | .getStreamInfoNullH | .getStreamInfoNullInfo | .getStreamInfoBadId => "svt_av1_enc_get_stream_info"
  | .eosNal | .eosNalNullH => "svt_av1_enc_eos_nal"
  | .deinit | .deinitNullH => "svt_av1_enc_deinit"
  | .deinitHandle | .deinitHandleNullH => "svt_av1_enc_deinit_handle"
  | .decInitHandle | .decInitHandleNull | .decInitHandleNullCfg => "svt_av1_dec_init_handle"
  | .decSetParam _ | .decSetParamNullH _ => "svt_av1_dec_set_parameter"
  | .decInit | .decInitNullH => "svt_av1_dec_init"
  | .decFrame | .decFrameNullH | .decFrameNullData | .decFrameNullDataN => "svt_av1_dec_frame"
  | .decGetPicture | .decGetPictureNullH | .decGetPictureNullBuf | .decGetPictureNullInfo => "svt_av1_dec_get_picture"
  | .decDeinit | .decDeinitNullH => "svt_av1_dec_deinit"
  | .decDeinitHandle | .decDeinitHandleNullH => "svt_av1_dec_deinit_handle"
  | .sleep => "-"

def ENC_H : String := "svt_enc_component"
def DEC_H : String := "svt_dec_component"

def orderU {σ : Type} (o : Op) (what : String) (s : σ) : PRes × σ := (.undef (.order (encFn o) what), s)

/-- Encoder calls that reach the pipeline need a running encoder. -/
def pipelineReady (e : Enc) : Bool := e.phase == .inited

/-- svt_av1_enc_set_parameter with a non-NULL handle and configuration (EbEncHandle.c:3327-3384), protocol part;
    its mutex effect is applied by `step`. -/
def setParamStep (e : Enc) (o : Op) (valid : Bool) : PRes × Enc :=
  -- after enc_init the running pipeline reads the structure that copy_api_from_app overwrites (3342-3344): no check
  if e.phase != .handle then orderU o "after-init" e else
  (if valid then .ok else .err EB_ErrorBadParameter,
   { e with cfg := if valid then .accepted else .rejected, touched := true })

def encStep (T : Tables) (e : Enc) (o : Op) : PRes × Enc :=
  let s := e
  let fn := encFn o
  -- a NULL handle: either the op says so, or the application's variable is still / again NULL
  let withH (k : PRes × Enc) : PRes × Enc :=
    if e.phase == .noHandle then nullArg T fn ENC_H s (.ok, s) else k
  match o with
  | .initHandle =>
    -- EbEncHandle.c:1914-1959: a fresh handle (an older one is simply leaked by the application)
    (.ok, { phase := .handle })
  | .initHandleNull => nullArg T fn "p_handle" s (.ok, s)
  | .initHandleNullCfg =>
    -- 1948-1957: svt_svt_enc_init_parameter(NULL) = BadParameter, the component is freed and *p_handle = NULL
    (.err EB_ErrorBadParameter, { phase := .noHandle })
  | .setParamNullH _ => nullArg T fn ENC_H s (.ok, s)
  | .setParam a => withH (
      match a with
      | .null => nullArg T fn "config_struct" s (.ok, s)
      | .valid => setParamStep e o true
      | .invalid => setParamStep e o false)
  | .encInitNullH => nullArg T fn ENC_H s (.ok, s)
  | .encInit => withH (
      -- 1132-1877: reads scs->static_config and builds the pipeline from it; nothing checks that a configuration was accepted
      if e.phase == .handle then
        if e.cfg == .accepted then (.ok, { e with phase := .inited, sent := 0, eos := false, recvLo := 0, recvHi := 0,
                                                                   heldLo := 0, heldHi := 0, fuzzy := false, midstream := false })
        else orderU o "without-accepted-config" s
      else if e.phase == .inited then orderU o "twice" s
      else orderU o "after-deinit" s)
  | .streamHeaderNullH => nullArg T fn ENC_H s (.ok, s)
  | .streamHeaderNullOut => withH (nullArg T fn "output_stream_ptr" s (.ok, s))
  | .streamHeader => withH (
      -- 3385-3433: sizes its buffer from scs->max_input_luma_width/height as last copied in
      if e.cfg == .rejected then orderU o "rejected-config" s
      else (.ok, { e with hasHdr := true }))
  | .streamHeaderReleaseNull => nullArg T fn "stream_header_ptr" s (.ok, s)
  | .streamHeaderRelease =>
      if e.hasHdr then (.ok, { e with hasHdr := false })
      else nullArg T fn "stream_header_ptr" s (.ok, s)
  | .sendNullH => nullArg T fn ENC_H s (.ok, s)
  | .send _ | .sendEos | .sendNull => withH (
      -- 3670-3696: svt_get_empty_object(enc_handle_ptr->input_buffer_producer_fifo_ptr): the fifo exists only after enc_init
      if e.phase == .handle then orderU o "before-init" s
      else if e.phase == .deinited then orderU o "after-deinit" s
      else if e.eos then orderU o "after-eos" s
      else match o with
        | .send k =>
          if e.sent + k - e.recvLo > maxInFlight then orderU o "backpressure" s
          else (.ok, { e with sent := e.sent + k })
        | .sendEos => (.ok, { e with eos := true })
        | _ => nullArg T fn "p_buffer" s (.ok, { e with fuzzy := true }))
  | .getPacketNullH => nullArg T fn ENC_H s (.ok, s)
  | .getPacketNullOut => withH (nullArg T fn "p_buffer" s (.ok, s))
  | .getPacket blocking => withH (
      -- 3728-3759: enc_handle->output_stream_buffer_consumer_fifo_ptr exists only after enc_init
      if e.phase == .handle then orderU o "before-init" s
      else if e.phase == .deinited then (if blocking then (.mayBlock, s) else orderU o "after-deinit" s)
      else if blocking then
        if e.eos && !e.fuzzy && e.recvHi < e.sent then
          (.ok, { e with recvLo := e.recvLo + 1, recvHi := e.recvHi + 1, heldLo := e.heldLo + 1, heldHi := e.heldHi + 1 })
        else (.mayBlock, s)
      else if e.fuzzy || e.recvLo < e.sent then
        (.oneOf [EB_ErrorNone, EB_NoErrorEmptyQueue], { e with recvHi := e.recvHi + 1, heldHi := e.heldHi + 1 })
      else (.err EB_NoErrorEmptyQueue, s))
  | .drain => withH (
      if e.phase == .handle then orderU o "before-init" s
      else if e.phase == .deinited then (.mayBlock, s)          -- the blocking wait on a pipeline that was shut down
      else if e.eos && !e.fuzzy && e.recvHi < e.sent then
        (.ok, { e with recvLo := e.sent, recvHi := e.sent })
      else (.mayBlock, s))
  | .releaseNull => nullArg T fn "p_buffer" s (.ok, s)
  | .releaseNullP => nullArg T fn "*p_buffer" s (.ok, s)
  | .releaseOut =>
      -- 3761-3772: the harness passes the most recent packet it holds, or a NULL `*p_buffer` when it holds none
      if e.heldLo ≥ 1 && e.phase == .inited then
        (.ok, { e with heldLo := e.heldLo - 1, heldHi := e.heldHi - 1 })
      else if e.heldHi ≥ 1 && e.phase == .inited then
        nullArg T fn "*p_buffer" s (.ok, { e with heldHi := e.heldHi - 1 })
      else if e.heldHi ≥ 1 then orderU o "after-deinit" s
      else nullArg T fn "*p_buffer" s (.ok, s)
  | .getReconNullH => nullArg T fn ENC_H s (.ok, s)
  | .getReconNullBuf => withH (nullArg T fn "p_buffer" s (.ok, s))
  | .getRecon => withH (
      -- 3777-3812: recon_enabled is read from the configuration last copied in; the fifo exists only after enc_init
      if e.phase == .inited then (.oneOf [EB_ErrorNone, EB_NoErrorEmptyQueue, EB_ErrorMax], s)
      else if e.phase == .deinited then orderU o "after-deinit" s
      else if e.touched then orderU o "before-init" s
      else (.err EB_ErrorMax, s))
  | .getStreamInfoNullH => nullArg T fn ENC_H s (.ok, s)
  | .getStreamInfoNullInfo => withH (nullArg T fn "info" s (.ok, s))
  | .getStreamInfoBadId => (.err EB_ErrorBadParameter, s)          -- 4052-4054, before anything is touched
  | .getStreamInfo => withH (.ok, s)
  | .eosNal | .eosNalNullH => (.ok, s)                                -- 3449-3457: does nothing
  | .deinitNullH => nullArg T fn ENC_H s (.ok, s)
  | .deinit => withH (
      -- 1879-1905: shuts the kernels' input queues down; NULL resource pointers (before enc_init) are skipped
      if e.phase == .inited then
        (.ok, { e with phase := .deinited,
                                        midstream := e.fuzzy || e.recvLo < e.sent || e.heldHi > 0 || (!e.eos && e.sent > 0) })
      else (.ok, s))
  | .deinitHandleNullH => nullArg T fn ENC_H s (.ok, s)
  | .deinitHandle => withH (
      -- 1973-1989: EB_DELETE(handle) joins every kernel thread; they only exit after svt_av1_enc_deinit
      if e.phase == .inited then orderU o "without-deinit" s
      else if e.phase == .deinited && e.midstream then orderU o "teardown-midstream" s
      else (.ok, { phase := .noHandle }))
  | _ => (.ok, s)

def decStep (T : Tables) (d : Dec) (o : Op) : PRes × Dec :=
  let s := d
  let fn := encFn o
  let withH (k : PRes × Dec) : PRes × Dec :=
    if d.phase == .noHandle then nullArg T fn DEC_H s (.ok, s) else k
  match o with
  | .decInitHandle => (.ok, { phase := .handle, everDeinit := d.everDeinit })                 -- EbDecHandle.c:481-514
  | .decInitHandleNull => nullArg T fn "p_handle" s (.ok, s)
  | .decInitHandleNullCfg =>
    -- 489-513: the handle is created first; svt_svt_dec_set_default_parameter(NULL) then returns BadParameter and the handle stays
    (.err EB_ErrorBadParameter, { phase := .handle, everDeinit := d.everDeinit })
  | .decSetParamNullH _ => nullArg T fn DEC_H s (.ok, s)
  | .decSetParam isNull => withH (
      if isNull then nullArg T fn "config_struct" s (.ok, s)
      else if d.phase == .deinited then orderU o "after-deinit" s
      else (.ok, { d with cfgSet := true }))                       -- 516-527
  | .decInitNullH => nullArg T fn DEC_H s (.ok, s)
  | .decInit => withH (
      -- 529-573: dec_mem_init sizes everything from dec_config as it happens to be
      if d.phase == .handle then
        -- svt_dec_memory_map / memory_map_index are process globals that svt_av1_dec_deinit leaves dangling: a later
        -- svt_av1_dec_init (same or new handle) builds on them
        if d.everDeinit then orderU o "after-deinit" s
        else if d.cfgSet then (.ok, { d with phase := .inited, fed := 0 })
        else orderU o "before-set_parameter" s
      else if d.phase == .inited then orderU o "twice" s
      else orderU o "after-deinit" s)
  | .decFrameNullH => nullArg T fn DEC_H s (.ok, s)
  | .decFrameNullData | .decFrameNullDataN => withH (
      if d.phase == .inited then nullArg T fn "data" s (.ok, s)
      else if d.phase == .handle then orderU o "before-init" s else orderU o "after-deinit" s)
  | .decFrame => withH (
      -- 575-618: uses the frame buffers and the parse context that only svt_av1_dec_init allocates
      if d.phase == .inited then (.ok, { d with fed := d.fed + 1 })
      else if d.phase == .handle then orderU o "before-init" s else orderU o "after-deinit" s)
  | .decGetPictureNullH => nullArg T fn DEC_H s (.ok, s)
  | .decGetPicture | .decGetPictureNullInfo | .decGetPictureNullBuf => withH (
      if d.phase == .handle then orderU o "before-init" s
      else if d.phase == .deinited then orderU o "after-deinit" s
      else
        let normal : PRes × Dec := if d.fed == 0 then (.err EB_DecNoOutputPicture, s) else (.oneOf [EB_ErrorNone, EB_DecNoOutputPicture], s)
        match o with
        | .decGetPictureNullBuf => nullArg T fn "p_buffer" s normal
        | .decGetPictureNullInfo => nullArg T fn "stream_info" s (nullArg T fn "frame_info" s normal)
        | _ => normal)
  | .decDeinitNullH => nullArg T fn DEC_H s (.ok, s)
  | .decDeinit => withH (
      -- 638-674: walks the global svt_dec_memory_map, freeing every entry down to memory_map_init_address, then frees that one:
      -- before the first decoded frame the map holds only the initial entry, which is then freed twice (668 and 672)
      if d.phase == .inited then
        if d.fed == 0 then orderU o "before-first-frame" s else (.ok, { d with phase := .deinited, everDeinit := true })
      else if d.phase == .handle then orderU o "before-init" s else orderU o "twice" s)
  | .decDeinitHandleNullH => nullArg T fn DEC_H s (.ok, s)
  | .decDeinitHandle => withH (.ok, { phase := .noHandle, everDeinit := d.everDeinit })       -- 689-699
  | _ => (.ok, s)

def Op.isDec : Op → Bool
  | .decInitHandle | .decInitHandleNull | .decInitHandleNullCfg | .decSetParam _ | .decSetParamNullH _ | .decInit | .decInitNullH
  | .decFrame | .decFrameNullH | .decFrameNullData | .decFrameNullDataN | .decGetPicture | .decGetPictureNullH | .decGetPictureNullBuf
  | .decGetPictureNullInfo | .decDeinit | .decDeinitNullH | .decDeinitHandle | .decDeinitHandleNullH => true
  | _ => false

/-- Calls whose mutex events are applied: set_parameter with a non-NULL handle and configuration on a handle that is
    not yet initialised (the only API function with mutex events in the generated lock table). -/
def lockCodes (e : Enc) (o : Op) : Option (List (Option Nat)) :=
  if e.phase != .handle then none else
  match o with
  | .setParam .valid => some [none, some EB_ErrorNone]
  | .setParam .invalid => some [some EB_ErrorBadParameter]
  | _ => none

/-- Mutex outcome of the call: `inl m` = blocks on `m`; `inr h` = returns with `h` held. -/
def lockResult (T : Tables) (s : St) (o : Op) : Sum String (List String) :=
  match lockCodes s.enc o with
  | some codes => lockEffect T (encFn o) ENC_H codes s.held
  | none => .inr s.held

def step (T : Tables) (s : St) (o : Op) : Res × St :=
  if o == .sleep then (.ok, s)
  else if o.isDec then
    ((decStep T s.dec o).1.toRes, { s with dec := (decStep T s.dec o).2 })
  else
    match lockResult T s o with
    | .inl m => (.blocked m, s)
    | .inr h =>
      -- a fresh handle comes with its own (free) mutex
      ((encStep T s.enc o).1.toRes,
       { s with enc := (encStep T s.enc o).2, held := if o == .initHandle || o == .initHandleNullCfg then [] else h })

/-! ## 3. Sequences -/

/-- Predicted classes of a call sequence; after a call that is not predicted to return normally the rest is `skipped`. -/
def runFrom (T : Tables) (s : St) : List Op → List Res × St
  | [] => ([], s)
  | o :: os =>
    let (r, s') := step T s o
    if r.continues then
      let (rs, s'') := runFrom T s' os
      (r :: rs, s'')
    else (r :: os.map (fun _ => .skipped), s')

def run (T : Tables) (ops : List Op) : List Res := (runFrom T {} ops).1

def finalState (T : Tables) (ops : List Op) : St := (runFrom T {} ops).2

end ApiProto
