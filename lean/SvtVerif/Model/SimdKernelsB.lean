/-
  C07 (part B) — lane-level models of the 32-bit full-distortion kernels, transcribed intrinsic by intrinsic.

  K2a  svt_full_distortion_kernel32_bits_c      Source/Lib/Common/Codec/EbPictureOperators.c:156-180
       svt_full_distortion_kernel32_bits_avx2   Source/Lib/Common/ASM_AVX2/EbPictureOperators_Intrinsic_AVX2.c:1242-1291
  K2b  svt_full_distortion_kernel_cbf_zero32_bits_c     EbPictureOperators.c:212-231
       svt_full_distortion_kernel_cbf_zero32_bits_avx2  EbPictureOperators_Intrinsic_AVX2.c:1293-1325

  Conventions (see Model/Simd.lean): `int32_t *coeff` = a `Mem 32` plus an element index `cp`; `coeff += coeff_stride`
  is `cp + cs` (Nat, no wrap: buffers are far smaller than 2^32 elements); `uint64_t distortion_result[2]` = a `Mem 64`
  plus element index `dp`.  `area_width`/`area_height` are `uint32_t`: the models take `w h : Nat` and are meant for
  `w, h < 2^32`.  The models mirror the code AS IT IS, in particular `sum1 = _mm256_add_epi32(sum1, x)` (line 1268).

  The AVX2 loops are `do { .. } while (--col_count)` / `do { .. row_count -= 1; } while (row_count > 0)` on `uint32_t`
  counters: modelled with `BitVec 32` counters and fuel; fuel exhaustion (`none`) happens exactly outside the
  domain (col_count = area_width / 4 = 0 wraps to 2^32 - 1 in the real code and runs off the buffers).
  Core Lean only.
-/
import SvtVerif.Model.Simd

namespace Simd

/-- `(int64_t)(int32 value)` -/
def sext64 (x : BitVec 32) : BitVec 64 := x.signExtend 64

/-! ### K2a C reference: EbPictureOperators.c:156-180 -/

/-- accumulators + the two moving pointers of `svt_full_distortion_kernel32_bits_c` -/
structure Fd32C where
  residual : BitVec 64      -- uint64_t residual_distortion   (line 161)
  prediction : BitVec 64    -- uint64_t prediction_distortion (line 162)
  coeff : Nat               -- int32_t *coeff (element index)
  recon : Nat               -- int32_t *recon_coeff

/-- lines 166-171: `while (column_index < area_width) { .. ++column_index; }` (column_index = 0 .. area_width-1).
    `SQR(x) = (x)*(x)` on `int64_t` (wrap-around 64-bit product; the value is then converted to uint64_t and added
    mod 2^64).  NOTE: for |coeff - recon| > 3037000499 the int64 square overflows (undefined behaviour in C; two's
    complement wrap with gcc/clang in practice, which is what `*` on `BitVec 64` models). -/
def fd32cRow (coeff recon : Mem 32) (w : Nat) (s : Fd32C) : Fd32C :=
  (List.range w).foldl (fun s column_index =>
    -- 167-168: residual_distortion += (int64_t)SQR((int64_t)(coeff[column_index]) - (recon_coeff[column_index]));
    let d := sext64 (coeff (s.coeff + column_index)) - sext64 (recon (s.recon + column_index))
    -- 169: prediction_distortion += (int64_t)SQR((int64_t)(coeff[column_index]));
    let c := sext64 (coeff (s.coeff + column_index))
    { s with residual := s.residual + d * d, prediction := s.prediction + c * c }) s

/-- lines 164-176: `while (row_index < area_height) { row; coeff += coeff_stride; recon_coeff += recon_coeff_stride; ++row_index; }` -/
def fd32cRows (coeff recon : Mem 32) (cs rs w h : Nat) (s : Fd32C) : Fd32C :=
  (List.range h).foldl (fun s _row_index =>
    let s := fd32cRow coeff recon w s
    { s with coeff := s.coeff + cs, recon := s.recon + rs }) s

/-- `svt_full_distortion_kernel32_bits_c`: the updated `distortion_result` buffer
    (178: `[DIST_CALC_RESIDUAL = 0] = residual_distortion`, 179: `[DIST_CALC_PREDICTION = 1] = prediction_distortion`) -/
def fullDist32_c_mem (coeff : Mem 32) (cp cs : Nat) (recon : Mem 32) (rp rs : Nat) (dist : Mem 64) (dp : Nat)
    (w h : Nat) : Mem 64 :=
  let s := fd32cRows coeff recon cs rs w h ⟨0, 0, cp, rp⟩
  store1 (store1 dist (dp + 0) s.residual) (dp + 1) s.prediction

/-- the two values written: (residual, prediction) -/
def fullDist32_c (coeff : Mem 32) (cp cs : Nat) (recon : Mem 32) (rp rs : Nat) (w h : Nat) : BitVec 64 × BitVec 64 :=
  let m := fullDist32_c_mem coeff cp cs recon rp rs (fun _ => 0) 0 w h
  (m 0, m 1)

/-! ### K2a AVX2: EbPictureOperators_Intrinsic_AVX2.c:1242-1291 -/

structure Fd32V where
  sum1 : Reg   -- __m256i sum1 (line 1247)
  sum2 : Reg   -- __m256i sum2 (line 1248)

/-- loop body, lines 1258-1268, at `coeff_temp = ct`, `recon_coeff_temp = rt` -/
def fd32vBody (coeff recon : Mem 32) (ct rt : Nat) (s : Fd32V) : Fd32V :=
  let x0 := loadU32 coeff ct 4 16            -- 1260: x0 = _mm_loadu_si128((__m128i *)(coeff_temp));
  let y0 := loadU32 recon rt 4 16            -- 1261: y0 = _mm_loadu_si128((__m128i *)(recon_coeff_temp));
  let x := mm256_cvtepi32_epi64 x0           -- 1262: x = _mm256_cvtepi32_epi64(x0);
  let y := mm256_cvtepi32_epi64 y0           -- 1263: y = _mm256_cvtepi32_epi64(y0);
  let z := mul_epi32 x x                     -- 1264: z = _mm256_mul_epi32(x, x);
  let sum2 := add_epi64 s.sum2 z             -- 1265: sum2 = _mm256_add_epi64(sum2, z);
  let x := sub_epi64 x y                     -- 1266: x = _mm256_sub_epi64(x, y);
  let x := mul_epi32 x x                     -- 1267: x = _mm256_mul_epi32(x, x);   (LOW dwords of x only)
  let sum1 := add_epi32 s.sum1 x             -- 1268: sum1 = _mm256_add_epi32(sum1, x);   (32-bit lanes!)
  ⟨sum1, sum2⟩

/-- lines 1257-1271: `do { body; coeff_temp += 4; recon_coeff_temp += 4; } while (--col_count);` -/
def fd32vCols (coeff recon : Mem 32) : Nat → BitVec 32 → Nat → Nat → Fd32V → Option Fd32V
  | 0, _, _, _, _ => none
  | fuel + 1, col_count, ct, rt, s =>
    let s := fd32vBody coeff recon ct rt s
    let ct := ct + 4                          -- 1269
    let rt := rt + 4                          -- 1270
    let col_count := col_count - 1            -- 1271: --col_count (uint32_t, wraps)
    if col_count != 0 then fd32vCols coeff recon fuel col_count ct rt s else some s

/-- lines 1252-1276: `do { cols; coeff += coeff_stride; recon_coeff += recon_coeff_stride; row_count -= 1; } while (row_count > 0);` -/
def fd32vRows (coeff recon : Mem 32) (cs rs w : Nat) : Nat → BitVec 32 → Nat → Nat → Fd32V → Option Fd32V
  | 0, _, _, _, _ => none
  | fuel + 1, row_count, cp, rp, s =>
    let col_count := BitVec.ofNat 32 (w / 4)  -- 1256: uint32_t col_count = area_width / 4;
    match fd32vCols coeff recon (w / 4) col_count cp rp s with
    | none => none
    | some s =>
      let cp := cp + cs                       -- 1273
      let rp := rp + rs                       -- 1274
      let row_count := row_count - 1          -- 1275
      if row_count.toNat > 0 then fd32vRows coeff recon cs rs w fuel row_count cp rp s else some s

/-- `svt_full_distortion_kernel32_bits_avx2`: the updated `distortion_result` buffer, `none` = out of fuel (outside the domain) -/
def fullDist32_avx2_mem (coeff : Mem 32) (cp cs : Nat) (recon : Mem 32) (rp rs : Nat) (dist : Mem 64) (dp : Nat)
    (w h : Nat) : Option (Mem 64) :=
  -- 1247-1248: sum1 = sum2 = _mm256_setzero_si256();  1251: row_count = area_height;
  match fd32vRows coeff recon cs rs w h (BitVec.ofNat 32 h) cp rp ⟨mm256_setzero_si256, mm256_setzero_si256⟩ with
  | none => none
  | some s =>
    let temp1 := mm256_castsi256_si128 s.sum1          -- 1278
    let temp2 := mm256_extracti128_si256 s.sum1 1      -- 1279
    let temp1 := add_epi64 temp1 temp2                 -- 1280
    let temp2 := mm_shuffle_epi32 temp1 0x4e           -- 1281
    let temp3 := add_epi64 temp1 temp2                 -- 1282
    let temp1 := mm256_castsi256_si128 s.sum2          -- 1283
    let temp2 := mm256_extracti128_si256 s.sum2 1      -- 1284
    let temp1 := add_epi64 temp1 temp2                 -- 1285
    let temp2 := mm_shuffle_epi32 temp1 0x4e           -- 1286
    let temp1 := add_epi64 temp1 temp2                 -- 1287
    let temp1 := mm_unpacklo_epi64 temp3 temp1         -- 1288
    some (storeU64 dist dp temp1 2)                    -- 1290: _mm_storeu_si128((__m128i *)distortion_result, temp1);

/-- the two values written: (residual, prediction) -/
def fullDist32_avx2 (coeff : Mem 32) (cp cs : Nat) (recon : Mem 32) (rp rs : Nat) (w h : Nat) :
    Option (BitVec 64 × BitVec 64) :=
  (fullDist32_avx2_mem coeff cp cs recon rp rs (fun _ => 0) 0 w h).map fun m => (m 0, m 1)

/-! ### K2b C reference: EbPictureOperators.c:212-231 -/

structure FdzC where
  prediction : BitVec 64    -- uint64_t prediction_distortion (line 216)
  coeff : Nat

/-- lines 220-223 -/
def fdzcRow (coeff : Mem 32) (w : Nat) (s : FdzC) : FdzC :=
  (List.range w).foldl (fun s column_index =>
    -- 221: prediction_distortion += (int64_t)SQR((int64_t)(coeff[column_index]));
    let c := sext64 (coeff (s.coeff + column_index))
    { s with prediction := s.prediction + c * c }) s

/-- lines 218-227 -/
def fdzcRows (coeff : Mem 32) (cs w h : Nat) (s : FdzC) : FdzC :=
  (List.range h).foldl (fun s _row_index =>
    let s := fdzcRow coeff w s
    { s with coeff := s.coeff + cs }) s

/-- `svt_full_distortion_kernel_cbf_zero32_bits_c`: 229-230 write `prediction_distortion` to BOTH entries -/
def fullDistCbfZero32_c_mem (coeff : Mem 32) (cp cs : Nat) (dist : Mem 64) (dp : Nat) (w h : Nat) : Mem 64 :=
  let s := fdzcRows coeff cs w h ⟨0, cp⟩
  store1 (store1 dist (dp + 0) s.prediction) (dp + 1) s.prediction

def fullDistCbfZero32_c (coeff : Mem 32) (cp cs : Nat) (w h : Nat) : BitVec 64 × BitVec 64 :=
  let m := fullDistCbfZero32_c_mem coeff cp cs (fun _ => 0) 0 w h
  (m 0, m 1)

/-! ### K2b AVX2: EbPictureOperators_Intrinsic_AVX2.c:1293-1325 -/

/-- loop body, lines 1306-1312 -/
def fdzvBody (coeff : Mem 32) (ct : Nat) (sum : Reg) : Reg :=
  let x0 := loadU32 coeff ct 4 16            -- 1308: x0 = _mm_loadu_si128((__m128i *)(coeff_temp));
  let y0 := mm256_cvtepi32_epi64 x0          -- 1310: y0 = _mm256_cvtepi32_epi64(x0);
  let z0 := mul_epi32 y0 y0                  -- 1311: z0 = _mm256_mul_epi32(y0, y0);
  add_epi64 sum z0                           -- 1312: sum = _mm256_add_epi64(sum, z0);

/-- lines 1305-1313: `do { body (coeff_temp += 4 at 1309) } while (--col_count);` -/
def fdzvCols (coeff : Mem 32) : Nat → BitVec 32 → Nat → Reg → Option Reg
  | 0, _, _, _ => none
  | fuel + 1, col_count, ct, sum =>
    let sum := fdzvBody coeff ct sum
    let ct := ct + 4                          -- 1309
    let col_count := col_count - 1            -- 1313
    if col_count != 0 then fdzvCols coeff fuel col_count ct sum else some sum

/-- lines 1301-1317 -/
def fdzvRows (coeff : Mem 32) (cs w : Nat) : Nat → BitVec 32 → Nat → Reg → Option Reg
  | 0, _, _, _ => none
  | fuel + 1, row_count, cp, sum =>
    let col_count := BitVec.ofNat 32 (w / 4)  -- 1304
    match fdzvCols coeff (w / 4) col_count cp sum with
    | none => none
    | some sum =>
      let cp := cp + cs                       -- 1315
      let row_count := row_count - 1          -- 1316
      if row_count.toNat > 0 then fdzvRows coeff cs w fuel row_count cp sum else some sum

def fullDistCbfZero32_avx2_mem (coeff : Mem 32) (cp cs : Nat) (dist : Mem 64) (dp : Nat) (w h : Nat) : Option (Mem 64) :=
  -- 1297: sum = _mm256_setzero_si256();  1300: row_count = area_height;
  match fdzvRows coeff cs w h (BitVec.ofNat 32 h) cp mm256_setzero_si256 with
  | none => none
  | some sum =>
    let temp1 := mm256_castsi256_si128 sum             -- 1319
    let temp2 := mm256_extracti128_si256 sum 1         -- 1320
    let temp1 := add_epi64 temp1 temp2                 -- 1321
    let temp2 := mm_shuffle_epi32 temp1 0x4e           -- 1322
    let temp1 := add_epi64 temp1 temp2                 -- 1323
    some (storeU64 dist dp temp1 2)                    -- 1324: _mm_storeu_si128((__m128i *)distortion_result, temp1);

def fullDistCbfZero32_avx2 (coeff : Mem 32) (cp cs : Nat) (w h : Nat) : Option (BitVec 64 × BitVec 64) :=
  (fullDistCbfZero32_avx2_mem coeff cp cs (fun _ => 0) 0 w h).map fun m => (m 0, m 1)

end Simd
