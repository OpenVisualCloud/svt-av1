/-
  C09 — executable model of the decoder's row wavefronts.

  Transcribes the code as it is in /repo (line numbers of /repo):
    * `decode_tile` / `decode_tile_row`                    Source/Lib/Decoder/Codec/EbDecProcessFrame.c:67-180
    * `get_sb_row_to_process`                              EbDecProcess.c:116-131
    * `dec_av1_loop_filter_frame_mt` + `dec_loop_filter_row`   EbDecProcess.c:825-891, EbDecLF.c:699-748
    * `svt_cdef_frame_mt` + `svt_cdef_sb_row_mt`           EbDecProcess.c:989-1050, EbDecCdef.c:494-587
    * `dec_av1_loop_restoration_filter_frame_mt` + `dec_av1_loop_restoration_filter_row`
                                                           EbDecProcess.c:1225-1294, EbDecRestoration.c:294-470
    * `parse_tile` row flag                                EbDecParseFrame.c:289-296

  All four stages (recon of one tile, LF, CDEF, LR) have the same shape:
    - rows are handed out in increasing order by a mutex-protected counter (`sb_row_to_process`);
    - the worker holding row `r` first spins on a *row gate* (recon: `sb_recon_row_parsed[r]`; LF: `sb_recon_row_map`
      of rows r-1, r, r+1 of every tile column; CDEF: `lf_row_map[r + (r == last ? 0 : 1)]`; LR:
      `cdef_completed_for_row_map[r]`);
    - then walks the columns `j = 0 .. W-1`; before column `j` of a row `r > 0` it spins on the progress counter of
      row `r-1` (the "top-right sync"), processes the column, and stores its own progress counter;
    - after the column loop it publishes a row map for the next stage.
  They differ in how the counter is encoded and tested (`Kind`): these are transcribed literally below.

  One atomic step = the code a worker executes between two scheduling points; the scheduling points are the mutex
  (`pick`), every evaluation of a spin condition (`enter`, `dec`), the end of the processing of a column (`pub`), the
  end of the column loop (`fin`) and the unlocked re-read of `sb_row_to_process` (`chk`, decode_tile:174).  Memory is
  sequentially consistent in the model (the C code spins on plain `volatile` ints).
-/
namespace DecWf

/-! ## lists as C arrays: total get / set -/
def lget {α : Type} [Inhabited α] (l : List α) (i : Nat) : α := l.getD i default
def lset {α : Type} (l : List α) (i : Nat) (v : α) : List α := l.set i v

inductive Kind where
  | recon   -- decode_tile_row : `sb_recon_completed_in_row` (uint32, memset 0, stores absolute sb_col + 1)
  | lf      -- dec_loop_filter_row : `sb_lf_completed_in_row` (int32, memset -1, stores x_sb_index)
  | cdef    -- svt_cdef_sb_row_mt : `cdef_completed_in_row` (uint32, memset 0, stores sb_fbc + 1 = number of SBs done)
  | lr      -- dec_av1_loop_restoration_filter_row : `sb_lr_completed_in_row` (int32, memset -1, stores sb_col_y)
deriving Repr, BEq, DecidableEq, Inhabited

/-- static description of one wavefront: a tile's reconstruction, or a frame-level filter stage -/
structure Stage where
  kind : Kind
  c0 : Nat      -- absolute SB column of the first column (recon: tile start; 0 for the frame-level stages)
  W : Nat       -- number of columns walked by the row loop
  H : Nat       -- number of rows (`tile_num_sb_rows` / `picture_height_in_sb`)
  en : Bool     -- the row body runs (LF: filter levels non-zero and !intrabc; CDEF: do_cdef; LR: do_lr; recon: true)
  n : Nat       -- number of workers that pass through the stage
deriving Repr, Inhabited

/-- counter value after the per-frame reset (EbDecParseObu.c:2323 memset 0; EbDecProcess.c:628 memset -1;
    EbDecProcess.c:905 memset 0; EbDecProcess.c:1079 memset -1) -/
def initCtr : Kind → Int
  | .recon => 0
  | .lf => -1
  | .cdef => 0
  | .lr => -1

/-- value stored after column `j` (EbDecProcessFrame.c:120 `sb_col + 1`; EbDecLF.c:746 `x_sb_index`;
    EbDecCdef.c:587 `(uint32_t)(sb_fbc + 1)`; EbDecRestoration.c:468 `sb_col_y`) -/
def pubVal (s : Stage) (j : Nat) : Int :=
  match s.kind with
  | .recon => (s.c0 + j + 1 : Nat)
  | .cdef => (j + 1 : Nat)
  | _ => (j : Nat)

/-- `nsync` of the CDEF / LR loops: 1 until the last column is reached, then 0 (EbDecCdef.c:523-524,
    EbDecRestoration.c:320-321) -/
def nsync (s : Stage) (j : Nat) : Nat := if j + 1 = s.W then 0 else 1

/-- the spin loop of column `j` in a row `r > 0` is LEFT when this holds of the previous row's counter `v`:
    * recon  `while (*sb_completed_in_prev_row < MIN((sb_col + 2), tile_wd_in_sb)) ;`   EbDecProcessFrame.c:114
             (`sb_col`, `tile_wd_in_sb` absolute: `c0 + j`, `c0 + W`; int32 comparison)
    * lf     `while (*sb_lf_completed_in_prev_row < MIN((x_sb_index + 2), pic_width_in_sb - 1)) ;`  EbDecLF.c:729 (int32)
    * cdef   `while (*cdef_completed_in_prev_row < (uint32_t)(sb_fbc + 1) + nsync) ;`   EbDecCdef.c:526 (uint32 comparison;
             the counter stores `sb_fbc + 1`, so the test waits also for W = 1, where `nsync = 0` at the only column)
    * lr     `while (*sb_lr_completed_in_prev_row < (sb_col_y + nsync)) ;`   EbDecRestoration.c:322 (int32) -/
def pass (s : Stage) (j : Nat) (v : Int) : Bool :=
  match s.kind with
  | .recon => ! decide (v < ((min (s.c0 + j + 2) (s.c0 + s.W) : Nat) : Int))
  | .lf => ! decide (v < min ((j : Int) + 2) ((s.W : Int) - 1))
  | .cdef => ! decide (v.toNat < j + 1 + nsync s j)
  | .lr => ! decide (v < ((j + nsync s j : Nat) : Int))

/-- phase of one row -/
inductive Ph where
  | unpicked
  | gate            -- handed out; the worker spins on the row gate
  | at (j : Nat)    -- in the column loop, at the top-right spin of column `j`
  | busy (j : Nat)  -- spin left; column `j` is being processed
  | tail            -- column loop over (or body disabled); row map not yet published
  | fin             -- row map published
deriving Repr, BEq, DecidableEq

instance : Inhabited Ph := ⟨.unpicked⟩

structure WSt where
  next : Nat                 -- `sb_row_to_process`
  ctr : List Int             -- the progress counters exactly as the C code stores them
  ph : List Ph
  idle : Nat                 -- workers about to execute the mutex-protected pick
  chk : Nat                  -- workers at the unlocked `sb_row_to_process == tile_num_sb_rows` test (decode_tile:174)
  out : Nat                  -- workers that left the stage
  log : List (Nat × Nat)     -- ghost: (row, column) of every column processing started, newest first
deriving Repr, Inhabited

inductive Op where
  | pick           -- get_sb_row_to_process / decode_tile:140-150
  | enter (r : Nat)  -- the gate spin of row `r` is left (decode_tile:156; EbDecProcess.c:850, 1005, 1231)
  | dec (r : Nat)    -- the top-right spin of the current column of row `r` is left; processing starts
  | pub (r : Nat)    -- processing done; the counter is stored; loop increment
  | fin (r : Nat)    -- row map published (EbDecProcessFrame.c:125; EbDecProcess.c:880-887, 1046, 1291)
  | chk            -- decode_tile:174-177 (recon only)
deriving Repr, BEq, DecidableEq, Inhabited

def initW (s : Stage) : WSt :=
  { next := 0, ctr := List.replicate s.H (initCtr s.kind), ph := List.replicate s.H Ph.unpicked,
    idle := s.n, chk := 0, out := 0, log := [] }

/-- one atomic step of some worker; `g r` = "the gate of row `r` is open now" -/
def step (s : Stage) (g : Nat → Bool) (st : WSt) : Op → Option WSt
  | .pick =>
    if st.idle = 0 then none
    else if st.next ≠ s.H then      -- `if (sb_row_to_process != num_sb_rows)`: `!=`, not `<`
      some { st with idle := st.idle - 1, next := st.next + 1, ph := lset st.ph st.next Ph.gate }
    else if s.kind = Kind.recon then   -- decode_tile: falls through to the test of line 174
      some { st with idle := st.idle - 1, chk := st.chk + 1 }
    else                               -- the frame-level stages `break` out of their `while (1)`
      some { st with idle := st.idle - 1, out := st.out + 1 }
  | .enter r =>
    if lget st.ph r = Ph.gate ∧ g r = true then
      some { st with ph := lset st.ph r (if s.en = true ∧ 0 < s.W then Ph.at 0 else Ph.tail) }
    else none
  | .dec r =>
    match lget st.ph r with
    | Ph.at j =>
      if r = 0 ∨ pass s j (lget st.ctr (r - 1)) = true then    -- `if (sb_row_in_tile)` / `if (y_sb_index)` / `if (sb_fbr)` / `if (sb_row)`
        some { st with ph := lset st.ph r (Ph.busy j), log := (r, j) :: st.log }
      else none
    | _ => none
  | .pub r =>
    match lget st.ph r with
    | Ph.busy j =>
      some { st with ctr := lset st.ctr r (pubVal s j),
                     ph := lset st.ph r (if j + 1 < s.W then Ph.at (j + 1) else Ph.tail) }
    | _ => none
  | .fin r =>
    if lget st.ph r = Ph.tail then
      if s.kind = Kind.recon then some { st with ph := lset st.ph r Ph.fin, chk := st.chk + 1 }
      else some { st with ph := lset st.ph r Ph.fin, idle := st.idle + 1 }
    else none
  | .chk =>
    if st.chk = 0 then none
    else if st.next = s.H then some { st with chk := st.chk - 1, out := st.out + 1 }
    else some { st with chk := st.chk - 1, idle := st.idle + 1 }

/-- candidate ops (used by the driver to detect quiescence) -/
def allOps (s : Stage) : List Op :=
  [Op.pick, Op.chk] ++ (List.range s.H).flatMap fun r => [Op.enter r, Op.dec r, Op.pub r, Op.fin r]

def enabledOps (s : Stage) (g : Nat → Bool) (st : WSt) : List Op :=
  (allOps s).filter fun op => (step s g st op).isSome

/-! ## the frame: tiles, then LF → CDEF → LR, tied by the row maps -/

structure Tile where
  tr : Nat      -- tile row
  tc : Nat      -- tile column
  r0 : Nat      -- first SB row (absolute)
  st : Stage
deriving Repr, Inhabited

structure Frame where
  tileCols : Nat
  tiles : List Tile          -- raster order: index = tr * tileCols + tc
  H : Nat                    -- `picture_height_in_sb` = `dec_mt_frame_data->sb_rows`
  lf : Stage
  cdef : Stage
  lr : Stage
deriving Repr, Inhabited

structure FSt where
  parsed : List (List Bool)  -- per tile: `sb_recon_row_parsed`
  tiles : List WSt
  reconMap : List Bool       -- `sb_recon_row_map[sb_row * tile_cols + tile_col]`
  lf : WSt
  lfMap : List Bool          -- `lf_row_map`
  cdef : WSt
  cdefMap : List Bool        -- `cdef_completed_for_row_map`
  lr : WSt
  lrMap : List Bool          -- `lr_row_map`
deriving Repr, Inhabited

inductive FOp where
  | parse (t r : Nat)        -- parse_tile finishes SB row `r` of tile `t` (EbDecParseFrame.c:294-295)
  | tile (t : Nat) (op : Op)
  | lf (op : Op)
  | cdef (op : Op)
  | lr (op : Op)
deriving Repr, BEq, Inhabited

def initF (F : Frame) : FSt :=
  { parsed := F.tiles.map fun t => List.replicate t.st.H false,
    tiles := F.tiles.map fun t => initW t.st,
    reconMap := List.replicate (F.H * F.tileCols) false,
    lf := initW F.lf, lfMap := List.replicate F.H false,
    cdef := initW F.cdef, cdefMap := List.replicate F.H false,
    lr := initW F.lr, lrMap := List.replicate F.H false }

/-- `start_lf[0] & start_lf[1] & start_lf[2]` after one evaluation of the loop body, EbDecProcess.c:841-859 -/
def lfGate (F : Frame) (fs : FSt) (r : Nat) : Bool :=
  let up := r - (if r = 0 then 0 else 1)
  let dn := r + (if r = F.H - 1 then 0 else 1)
  (List.range F.tileCols).all fun i =>
    lget fs.reconMap (r * F.tileCols + i) && lget fs.reconMap (up * F.tileCols + i) &&
    lget fs.reconMap (dn * F.tileCols + i)

/-- `lf_row_map[sb_row + offset]`, `offset = sb_row == sb_rows - 1 ? 0 : 1`, EbDecProcess.c:999-1005 -/
def cdefGate (F : Frame) (fs : FSt) (r : Nat) : Bool :=
  lget fs.lfMap (r + (if r = F.H - 1 then 0 else 1))

/-- `cdef_completed_for_row_map[sb_row]`, EbDecProcess.c:1229-1231 -/
def lrGate (fs : FSt) (r : Nat) : Bool := lget fs.cdefMap r

/-- the map stores that follow the row body -/
def lfPublish (F : Frame) (m : List Bool) (r : Nat) : List Bool :=
  let m := if r ≠ 0 then lset m (r - 1) true else m             -- EbDecProcess.c:875-881
  if r = F.H - 1 then lset m r true else m                       -- EbDecProcess.c:882-888

def fstep (F : Frame) (fs : FSt) : FOp → Option FSt
  | .parse t r =>
    let p := lget fs.parsed t
    if r < p.length ∧ lget p r = false ∧ (r = 0 ∨ lget p (r - 1) = true) then
      some { fs with parsed := lset fs.parsed t (lset p r true) }
    else none
  | .tile t op =>
    if t < F.tiles.length then
      let T := lget F.tiles t
      match step T.st (fun r => lget (lget fs.parsed t) r) (lget fs.tiles t) op with
      | none => none
      | some w =>
        let fs := { fs with tiles := lset fs.tiles t w }
        match op with
        | .fin r => some { fs with reconMap := lset fs.reconMap ((T.r0 + r) * F.tileCols + T.tc) true }  -- EbDecProcessFrame.c:123-125
        | _ => some fs
    else none
  | .lf op =>
    match step F.lf (lfGate F fs) fs.lf op with
    | none => none
    | some w =>
      match op with
      | .fin r => some { fs with lf := w, lfMap := lfPublish F fs.lfMap r }
      | _ => some { fs with lf := w }
  | .cdef op =>
    match step F.cdef (cdefGate F fs) fs.cdef op with
    | none => none
    | some w =>
      match op with
      | .fin r => some { fs with cdef := w, cdefMap := lset fs.cdefMap r true }   -- EbDecProcess.c:1046
      | _ => some { fs with cdef := w }
  | .lr op =>
    match step F.lr (lrGate fs) fs.lr op with
    | none => none
    | some w =>
      match op with
      | .fin r => some { fs with lr := w, lrMap := lset fs.lrMap r true }         -- EbDecProcess.c:1291
      | _ => some { fs with lr := w }

/-- a regular tile grid: `cs` = SB column boundaries (length tileCols+1), `rs` = SB row boundaries -/
def mkFrame (cs rs : List Nat) (lfW cdefW lrW : Nat) (lfEn cdefEn lrEn : Bool) (n : Nat) : Frame :=
  let tcN := cs.length - 1
  let trN := rs.length - 1
  let H := lget rs trN
  { tileCols := tcN,
    tiles := (List.range trN).flatMap fun tr => (List.range tcN).map fun tc =>
      { tr := tr, tc := tc, r0 := lget rs tr,
        st := { kind := Kind.recon, c0 := lget cs tc, W := lget cs (tc + 1) - lget cs tc,
                H := lget rs (tr + 1) - lget rs tr, en := true, n := n } },
    H := H,
    lf := { kind := Kind.lf, c0 := 0, W := lfW, H := H, en := lfEn, n := n },
    cdef := { kind := Kind.cdef, c0 := 0, W := cdefW, H := H, en := cdefEn, n := n },
    lr := { kind := Kind.lr, c0 := 0, W := lrW, H := H, en := lrEn, n := n } }

end DecWf
