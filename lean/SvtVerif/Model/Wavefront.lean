/-
  C04 — task graphs executed by any number of workers (generic model) and its EncDec-segment instance.

  The encoder's intra-picture parallelism has one shape everywhere: a picture is cut into TASKS (EncDec segments,
  ME / TF / CDEF / restoration segments, entropy-coding rows, tiles); a worker thread dequeues a task, runs the
  kernel body on it and reports completion; the hand-out logic releases a task only after the tasks it waits for
  (`guard`) have completed:
    * EncDec segments: `assign_enc_dec_segments` (EbEncDecProcess.c:284-413) hands out segment `t` only when
      `dependency_map[t]` has been counted down by its left neighbour in the row and by the segment `t − band_count`
      of the row above (proved for every grid and interleaving in C24; instance `segDag` below);
    * ME / TF / CDEF / restoration segments: no dependencies at all (`guard t = []`), completion is counted
      (`Model/Counter.lean`).

  Model.  A `Dag` has tasks `0 … n−1`; the shared per-picture state is a store `Nat → V` with one CELL per task
  (cell `t` = everything task `t` writes: its superblocks' reconstruction, modes, neighbour arrays, …).
  `body t σ` is the value the kernel writes into cell `t` when the store is `σ`.  A state records which tasks have been
  handed out (`started` — a worker is running it) and which have completed (`done`).  Two kinds of atomic events,
  interleaved arbitrarily (= any number of worker threads, any schedule; the running workers are `started \ done`):
    `start t`   enabled iff `t < n`, not yet handed out, every task of `guard t` is done     (the hand-out logic)
    `finish t`  enabled iff `t` is running; writes `body t σ` into cell `t`                    (the kernel body)
  Reading happens at `finish`; since the cells a body may read (hypothesis `Footprint`: only cells of tasks that are
  ancestors of `t` through `guard`) are final from the moment `t` is handed out, reading them at any earlier moment
  of the task's execution yields the same values.

  Core Lean only.
-/
import SvtVerif.Model.Segments

namespace Wavefront

/-- store update: cell `t` := `v` -/
def upd {V : Type} (σ : Nat → V) (t : Nat) (v : V) : Nat → V := fun j => if j = t then v else σ j

structure Dag (V : Type) where
  n : Nat                              -- number of tasks
  guard : Nat → List Nat               -- tasks the hand-out logic waits for before releasing `t`
  body : Nat → (Nat → V) → V           -- kernel body: the value written to cell `t`

structure St (V : Type) where
  started : List Nat
  done : List Nat
  store : Nat → V

inductive Ev where
  | start (t : Nat)
  | finish (t : Nat)
deriving Repr, DecidableEq

def init {V : Type} (σ0 : Nat → V) : St V := { started := [], done := [], store := σ0 }

def canStart {V : Type} (G : Dag V) (s : St V) (t : Nat) : Prop :=
  t < G.n ∧ t ∉ s.started ∧ ∀ d, d ∈ G.guard t → d ∈ s.done

instance {V : Type} (G : Dag V) (s : St V) (t : Nat) : Decidable (canStart G s t) := by
  unfold canStart; infer_instance

def canFinish {V : Type} (s : St V) (t : Nat) : Prop := t ∈ s.started ∧ t ∉ s.done

instance {V : Type} (s : St V) (t : Nat) : Decidable (canFinish s t) := by
  unfold canFinish; infer_instance

/-- one atomic event; `none` = not enabled -/
def step {V : Type} (G : Dag V) (s : St V) : Ev → Option (St V)
  | .start t => if canStart G s t then some { s with started := t :: s.started } else none
  | .finish t =>
    if canFinish s t then some { s with done := t :: s.done, store := upd s.store t (G.body t s.store) } else none

/-- every state any interleaving of any number of workers can produce from the initial store `σ0` -/
inductive Reachable {V : Type} (G : Dag V) (σ0 : Nat → V) : St V → Prop
  | init : Reachable G σ0 (init σ0)
  | step {s s' : St V} {ev : Ev} : Reachable G σ0 s → step G s ev = some s' → Reachable G σ0 s'

/-- run a list of events (an execution); `none` if one of them is not enabled -/
def run {V : Type} (G : Dag V) (s : St V) : List Ev → Option (St V)
  | [] => some s
  | ev :: evs => match step G s ev with
    | some s' => run G s' evs
    | none => none

/-- the execution is complete: every task has finished -/
def Complete {V : Type} (G : Dag V) (s : St V) : Prop := ∀ t, t < G.n → t ∈ s.done

/-- no event is enabled (all workers idle, nothing to hand out) -/
def Terminal {V : Type} (G : Dag V) (s : St V) : Prop := ∀ ev, step G s ev = none

/-- the single-threaded program: run the kernel bodies one after the other in the listed order -/
def seqStore {V : Type} (G : Dag V) (σ0 : Nat → V) (order : List Nat) : Nat → V :=
  order.foldl (fun σ t => upd σ t (G.body t σ)) σ0

/-- `order` continues a topological order: every task is new, and its guard tasks are in `pre` or earlier in `order` -/
def TopoFrom {V : Type} (G : Dag V) : List Nat → List Nat → Prop
  | _, [] => True
  | pre, t :: rest => t < G.n ∧ t ∉ pre ∧ (∀ d, d ∈ G.guard t → d ∈ pre) ∧ TopoFrom G (t :: pre) rest

/-- a topological order of all tasks -/
def Topo {V : Type} (G : Dag V) (order : List Nat) : Prop := TopoFrom G [] order ∧ ∀ t, t < G.n → t ∈ order

/-- `Anc G d t`: `d` is reachable from `t` by following `guard` one or more times (a proper ancestor of `t`) -/
inductive Anc {V : Type} (G : Dag V) : Nat → Nat → Prop
  | base {d t : Nat} : d ∈ G.guard t → Anc G d t
  | step {d e t : Nat} : e ∈ G.guard t → Anc G d e → Anc G d t

/-- **Hypothesis H-footprint at task granularity.**  `reads t` lists the cells the kernel body of task `t` may read
    besides its own inputs: all of them belong to proper ancestors of `t`, and the body's result depends on the store
    only through them (it neither reads its own cell's previous content nor any cell of an unrelated task). -/
def Footprint {V : Type} (G : Dag V) (reads : Nat → List Nat) : Prop :=
  (∀ t d, d ∈ reads t → Anc G d t) ∧
  ∀ t (σ σ' : Nat → V), (∀ d, d ∈ reads t → σ d = σ' d) → G.body t σ = G.body t σ'

/-- The dependency relation is acyclic and stays inside the task set (a rank function decreasing along `guard`). -/
def Acyclic {V : Type} (G : Dag V) (rank : Nat → Nat) : Prop :=
  ∀ t, t < G.n → ∀ d, d ∈ G.guard t → d < G.n ∧ rank d < rank t

/-! ## EncDec segments as a task graph (deps = the two edges counted by `enc_dec_segments_init`) -/

/-- `p → t` is one of the two dependency edges whose count `enc_dec_segments_init` stores in `dependency_map[t]`
    (EbEncDecSegments.c:146-165) and `assign_enc_dec_segments` counts down: the right neighbour in the same row
    (EbEncDecProcess.c:352-368) or the segment one band-count further in the next row (372-393). -/
def segEdgeB (g : Seg.SegCtl) (p t : Nat) : Bool :=
  (List.range g.segRowCount).any fun r =>
    (decide (Seg.rowStart g.rows r ≤ p) && decide (p < Seg.rowEnd g.rows r) && decide (t = p + 1)) ||
    (decide (r + 1 < g.segRowCount) && decide (Seg.rowStart g.rows r ≤ p) && decide (p ≤ Seg.rowEnd g.rows r) &&
      decide (Seg.rowStart g.rows (r + 1) ≤ p + g.segBandCount) && decide (t = p + g.segBandCount))

/-- the segments segment `t` waits for -/
def segGuard (g : Seg.SegCtl) (t : Nat) : List Nat :=
  (List.range g.segTtlCount).filter fun p => segEdgeB g p t

/-- the EncDec segments of one picture (tile group) as a task graph; `body` = what the SB loop of a segment computes -/
def segDag {V : Type} (g : Seg.SegCtl) (body : Nat → (Nat → V) → V) : Dag V :=
  { n := g.segTtlCount, guard := segGuard g, body := body }

end Wavefront
