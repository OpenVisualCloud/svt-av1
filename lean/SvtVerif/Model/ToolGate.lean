/-
  C20 — tool gating and tile layout: executable transcription of the chain
      configuration member  →  derived signal(s)  →  sequence / frame header bit (and MD-level block gates)
  from /repo.  Every definition names the C site it mirrors (file:line; the cited lines of EbEncHandle.c beyond line 794
  are 7 further down in /repo as it is, e.g. `disable_dlf_flag` :2224 is at :2231; the other cited files agree).
  Core Lean only (the driver `svtmodel toolgate` links this file).

  What is NOT modelled and enters as an opaque input (`Pic`): the encoder's *search results* (picked loop-filter
  levels, CDEF strengths, restoration types, estimated global-motion types, screen-content detection) and the
  picture's place in the prediction structure (slice type, temporal layer, reference flag).  The model says how
  the configuration GATES those results on their way to the header.
-/
namespace ToolGate

/-- `DEFAULT` (EbSvtAv1Enc.h / EbDefinitions.h): "take the preset's choice". -/
def DEFAULT : Int := -1

/-- `(uint8_t)x` of a C int. -/
def u8 (x : Int) : Nat := (x % 256).toNat

/-- C truthiness of `(uint8_t)x` / `(EbBool)x`. -/
def truthy (x : Int) : Bool := u8 x != 0

/-- The configuration members the property names (static_config after copy_api_from_app,
    EbEncHandle.c:2203-2435 copies each of them verbatim). -/
structure Cfg where
  encMode : Int := 8                 -- enc_mode, EbEncHandle.c:2203
  disableDlf : Int := 0              -- disable_dlf_flag :2224
  enableWarpedMotion : Int := -1     -- :2227
  enableGlobalMotion : Int := 1      -- :2230
  cdefLevel : Int := -1              -- :2233
  enableRestoration : Int := -1      -- enable_restoration_filtering :2236
  enableMfmv : Int := -1             -- :2241
  interIntraCompound : Int := -1     -- :2253
  disableCfl : Int := -1             -- disable_cfl_flag :2263
  obmcLevel : Int := -1              -- :2266
  compoundLevel : Int := -1          -- :2275
  filterIntraLevel : Int := -1       -- :2281
  enableIntraEdgeFilter : Int := -1  -- :2283
  paletteLevel : Int := -1           -- :2323
  tileRows : Nat := 0                -- :2325 (log2)
  tileColumns : Nat := 0             -- :2326 (log2)
  screenContentMode : Int := 2       -- :2380
  intrabcMode : Int := -1            -- :2382
  superresMode : Int := 0            -- :2435
  deriving Repr, Inhabited

/-- Per-picture facts the gating chain reads but the configuration does not determine. -/
structure Pic where
  iSlice : Bool := false           -- slice_type == I_SLICE (KEY or INTRA_ONLY frame)
  frameType : Nat := 1             -- 0 KEY, 1 INTER, 2 INTRA_ONLY, 3 S_FRAME
  temporalLayer : Nat := 0
  isRef : Bool := true             -- is_used_as_reference_flag
  errorRes : Bool := false         -- frm_hdr.error_resilient_mode
  superresScaled : Bool := false   -- frame_superres_enabled (denominator != 8 for this frame)
  scAuto : Bool := false           -- is_screen_content() verdict of the governing I picture (auto mode only)
  pickLf : Nat × Nat × Nat × Nat := (0, 0, 0, 0)   -- svt_av1_pick_filter_level: y0 y1 u v
  pickCdefBits : Nat := 0          -- finish_cdef_search
  pickCdefY : List Nat := [0]
  pickCdefUv : List Nat := [0]
  pickLr : Nat × Nat × Nat := (0, 0, 0)            -- restoration search: frame_restoration_type y u v
  pickGm : List Nat := [0, 0, 0, 0, 0, 0, 0]       -- global_motion_estimation: wmtype per reference LAST..ALTREF
  deriving Repr, Inhabited

/-! ### sequence header (write_sequence_header, EbEntropyCoding.c:3303-3382) -/

structure SeqBits where
  filterIntra : Nat      -- :3334  seq_header.filter_intra_level
  intraEdge : Nat        -- :3342
  interintra : Nat       -- :3345
  masked : Nat           -- :3346
  warped : Nat           -- :3348
  jntComp : Nat          -- :3354
  refMvs : Nat           -- :3355
  sct : Nat              -- :3358 seq_force_screen_content_tools (2 = per frame)
  superres : Nat         -- :3379
  cdef : Nat             -- :3380
  restoration : Nat      -- :3381
  deriving Repr, DecidableEq, Inhabited

/-- scs_ptr->compound_mode, EbResourceCoordinationProcess.c:903-906 (`M8_NEW_REF` is not defined: :908 is dead). -/
def compoundMode (c : Cfg) : Nat :=
  if c.compoundLevel == DEFAULT then (if c.encMode ≤ 9 then 1 else 0) else u8 c.compoundLevel

def seqFilterIntra (c : Cfg) : Nat :=           -- EbResourceCoordinationProcess.c:893-899
  if c.filterIntraLevel == DEFAULT then (if c.encMode ≤ 5 then 1 else 0)
  else (if c.filterIntraLevel == 0 then 0 else 1)

def seqIntraEdge (c : Cfg) : Nat :=             -- EbResourceCoordinationProcess.c:177-181, again EbEntropyCoding.c:3336-3340
  if c.enableIntraEdgeFilter == DEFAULT then 1 else u8 c.enableIntraEdgeFilter

def seqInterintra (c : Cfg) : Nat :=            -- EbResourceCoordinationProcess.c:877-888
  if c.interIntraCompound == DEFAULT then (if c.encMode ≤ 2 then 1 else 0) else u8 c.interIntraCompound

def seqWarped (c : Cfg) : Nat :=                -- EbResourceCoordinationProcess.c:199-203
  if c.enableWarpedMotion == DEFAULT then 1 else u8 c.enableWarpedMotion

def seqCdef (c : Cfg) : Nat :=                  -- EbResourceCoordinationProcess.c:194-197
  if c.cdefLevel == DEFAULT then 1 else (if c.cdefLevel > 0 then 1 else 0)

def seqRestoration (c : Cfg) : Nat :=           -- EbResourceCoordinationProcess.c:188-192
  if c.enableRestoration == DEFAULT then (if c.encMode ≤ 6 then 1 else 0) else u8 c.enableRestoration

/-- seq_header.enable_superres: cleared with the first picture (EbResourceCoordinationProcess.c:875), set by
    init_resize_picture when a frame is scaled (EbResize.c:1575-1576), which is only called when
    superres_mode > SUPERRES_NONE (EbPictureDecisionProcess.c:5519). -/
def seqSuperres (c : Cfg) (anyFrameScaled : Bool) : Nat :=
  if c.superresMode > 0 && anyFrameScaled then 1 else 0

def seqHdr (c : Cfg) (anyFrameScaled : Bool) : SeqBits :=
  { filterIntra := seqFilterIntra c
    intraEdge := seqIntraEdge c
    interintra := seqInterintra c
    masked := if compoundMode c != 0 then 1 else 0       -- EbResourceCoordinationProcess.c:911-917
    warped := seqWarped c
    jntComp := if compoundMode c != 0 then 1 else 0
    refMvs := 1                                          -- EbSequenceControlSet.c:147
    sct := 2                                             -- EbSequenceControlSet.c:138
    superres := seqSuperres c anyFrameScaled
    cdef := seqCdef c
    restoration := seqRestoration c }

/-! ### frame header (signal_derivation_multi_processes_oq, EbPictureDecisionProcess.c:799-1060;
      signal_derivation_mode_decision_config_kernel_oq, EbModeDecisionConfigurationProcess.c:478-570;
      write_uncompressed_header_obu, EbEntropyCoding.c:3763-4071) -/

/-- pcs->sc_content_detected: EbPictureAnalysisProcess.c:4014-4018 (mode 2 = detector, else the mode itself),
    inherited by non-I pictures from the last I picture (EbPictureDecisionProcess.c:5175-5178). -/
def scDetected (c : Cfg) (p : Pic) : Bool :=
  if c.screenContentMode == 2 then p.scAuto else truthy c.screenContentMode

/-- frm_hdr->allow_screen_content_tools, EbPictureDecisionProcess.c:870 / :895. -/
def allowSct (c : Cfg) (p : Pic) : Bool := scDetected c p

/-- frm_hdr->allow_intrabc as the encoder holds it, EbPictureDecisionProcess.c:869-898. -/
def allowIntrabc (c : Cfg) (p : Pic) : Bool :=
  if p.iSlice then
    if c.intrabcMode == DEFAULT then (if c.encMode ≤ 9 then scDetected c p else false)
    else decide (c.intrabcMode > 0)
  else false

/-- allow_intrabc as a decoder reads it: the bit is written only when allow_screen_content_tools is set and the
    frame is not scaled (EbEntropyCoding.c:3901-3903, :3912-3914); absent = 0. -/
def hdrAllowIntrabc (c : Cfg) (p : Pic) : Bool :=
  allowSct c p && !p.superresScaled && allowIntrabc c p

/-- pcs->palette_level, EbPictureDecisionProcess.c:912-922. -/
def picPaletteLevel (c : Cfg) (p : Pic) : Nat :=
  if allowSct c p then
    if c.paletteLevel == -1 then (if allowSct c p && p.temporalLayer == 0 && c.encMode ≤ 9 then 6 else 0)
    else u8 c.paletteLevel
  else 0

/-- context_ptr->md_palette_level for PD pass `pd` (0,1,2), EbEncDecProcess.c:3018-3023.  Palette candidates are
    injected only when it is non-zero (EbModeDecision.c:5190-5195) and the palette syntax is written with
    `svt_av1_allow_palette(pcs->palette_level, bsize)` (EbEntropyCoding.c:6096). -/
def mdPaletteLevel (c : Cfg) (p : Pic) (pd : Nat) : Nat :=
  if pd < 2 then 0 else picPaletteLevel c p

/-- pcs->loop_filter_mode, EbPictureDecisionProcess.c:926-934. -/
def loopFilterMode (c : Cfg) (p : Pic) : Nat :=
  if !truthy c.disableDlf && !allowIntrabc c p then
    (if c.encMode ≤ 6 then 3 else (if p.isRef then 1 else 0))
  else 0

/-- Loop-filter levels in the header.  Levels are reset to 0 for every picture
    (EbResourceCoordinationProcess.c:430-433) and only written by svt_av1_pick_filter_level, which runs only when
    loop_filter_mode != 0 (EbDlfProcess.c:171-204, EbCodingLoop.c:2240-2249); encode_loopfilter writes nothing when
    allow_intrabc (EbEntropyCoding.c:2830) and the decoder then infers 0. -/
def hdrLf (c : Cfg) (p : Pic) : Nat × Nat × Nat × Nat :=
  if allowIntrabc c p then (0, 0, 0, 0)
  else if loopFilterMode c p == 0 then (0, 0, 0, 0)
  else
    let (y0, y1, u, v) := p.pickLf
    if y0 == 0 && y1 == 0 then (0, 0, 0, 0) else (y0, y1, u, v)   -- u,v only coded when y0|y1 (:2839-2842)

/-- pcs->cdef_level, EbPictureDecisionProcess.c:942-953. -/
def picCdefLevel (c : Cfg) (p : Pic) : Nat :=
  if seqCdef c != 0 && !allowIntrabc c p then
    if c.cdefLevel == DEFAULT then (if c.encMode ≤ 3 then 1 else 4) else u8 c.cdefLevel
  else 0

/-- (cdef_bits, y strengths, uv strengths) as decoded.  encode_cdef is called only when seq cdef_level != 0
    (EbEntropyCoding.c:4037) and returns at once under allow_intrabc (:2893); with pcs->cdef_level == 0 the CDEF kernel
    stores bits 0 / strength 0 (EbCdefProcess.c:533-538). -/
def hdrCdef (c : Cfg) (p : Pic) : Nat × List Nat × List Nat :=
  if seqCdef c == 0 || allowIntrabc c p then (0, [0], [0])
  else if picCdefLevel c p == 0 then (0, [0], [0])
  else (p.pickCdefBits, p.pickCdefY, p.pickCdefUv)

/-- frame_restoration_type y,u,v as decoded: encode_restoration_mode is called only when
    seq enable_restoration (EbEntropyCoding.c:4041) and returns at once under allow_intrabc (:2725). -/
def hdrLr (c : Cfg) (p : Pic) : Nat × Nat × Nat :=
  if seqRestoration c == 0 || allowIntrabc c p then (0, 0, 0) else p.pickLr

/-- scs->mfmv_enabled, EbEncHandle.c:2170-2173. -/
def mfmvEnabled (c : Cfg) : Bool :=
  if c.enableMfmv == DEFAULT then decide (c.encMode ≤ 9) else truthy c.enableMfmv

/-- use_ref_frame_mvs as decoded: EbPictureDecisionProcess.c:1030-1033, cleared again for a scaled (super-res) frame
    by scale_pcs_params (EbResize.c:1109), written only for
    inter frames without error resilience (EbEntropyCoding.c:3984). -/
def hdrUseRefMvs (c : Cfg) (p : Pic) : Bool :=
  if p.iSlice || p.errorRes || p.superresScaled then false else mfmvEnabled c

/-- enable_wm, EbModeDecisionConfigurationProcess.c:516-525. -/
def enableWm (c : Cfg) (p : Pic) : Bool :=
  if c.enableWarpedMotion != DEFAULT then truthy c.enableWarpedMotion
  else if c.encMode ≤ 3 then true
  else if c.encMode ≤ 9 then p.temporalLayer == 0
  else false

/-- frm_hdr->allow_warped_motion, EbModeDecisionConfigurationProcess.c:529-531. -/
def allowWarped (c : Cfg) (p : Pic) : Bool :=
  enableWm c p && !(p.frameType == 0 || p.frameType == 2) && !p.errorRes && !p.superresScaled

/-- allow_warped_motion as decoded: written only when frame_might_allow_warped_motion (seq flag set, inter frame,
    no error resilience; EbEntropyCoding.c:4057). -/
def hdrAllowWarped (c : Cfg) (p : Pic) : Bool := allowWarped c p && seqWarped c != 0

/-- pic_obmc_level, EbModeDecisionConfigurationProcess.c:545-555. -/
def picObmcLevel (c : Cfg) : Nat :=
  if c.obmcLevel == DEFAULT then
    (if c.encMode ≤ 1 then 1 else if c.encMode ≤ 4 then 2 else if c.encMode ≤ 5 then 3 else 0)
  else u8 c.obmcLevel

/-- md_pic_obmc_level for PD pass `pd`, EbEncDecProcess.c:2900-2906 (OBMC candidates need obmc_ctrls.enabled,
    EbModeDecision.c:111). -/
def mdObmcLevel (c : Cfg) (pd : Nat) : Nat := if pd < 2 then 0 else picObmcLevel c

/-- is_motion_mode_switchable as decoded: EbModeDecisionConfigurationProcess.c:533, :558-559; the bit exists in inter
    frames only (EbEntropyCoding.c:3982). -/
def hdrSwitchableMotion (c : Cfg) (p : Pic) : Bool :=
  (p.frameType == 1 || p.frameType == 3) && (allowWarped c p || picObmcLevel c != 0)

/-- gm_level of signal_derivation_me_kernel_oq, EbMotionEstimationProcess.c:393-403. -/
def gmLevel (c : Cfg) (p : Pic) : Nat :=
  if c.enableGlobalMotion == 1 && !p.superresScaled then
    (if c.encMode ≤ 1 then 2 else if c.encMode ≤ 6 then 3 else (if p.isRef then 4 else 0))
  else 0

/-- gm types as decoded.  With gm_ctrls.enabled == 0 `is_global_motion` is cleared (EbMotionEstimationProcess.c:952-958)
    and set_global_motion_field leaves every model IDENTITY (EbModeDecisionConfigurationProcess.c:108-134); intra frames
    carry no global-motion syntax (EbEntropyCoding.c:4064). -/
def hdrGm (c : Cfg) (p : Pic) : List Nat :=
  if p.iSlice then [0, 0, 0, 0, 0, 0, 0]
  else if gmLevel c p == 0 then [0, 0, 0, 0, 0, 0, 0]
  else p.pickGm

/-- use_superres as decoded: calc_superres_params gives denominator 8 for SUPERRES_NONE (EbResize.c:1003) and
    init_resize_picture is not even called (EbPictureDecisionProcess.c:5519). -/
def hdrUseSuperres (c : Cfg) (p : Pic) : Bool := decide (c.superresMode > 0) && p.superresScaled

/-! ### block-level gates without a frame-level flag -/

/-- pic_filter_intra_level, EbModeDecisionConfigurationProcess.c:500-509; md level EbEncDecProcess.c:3002-3008;
    candidates EbModeDecision.c:5176. -/
def picFilterIntraLevel (c : Cfg) : Nat :=
  if c.filterIntraLevel == DEFAULT then
    (if seqFilterIntra c != 0 then (if c.encMode ≤ 5 then 1 else 0) else 0)
  else u8 c.filterIntraLevel

def mdFilterIntraLevel (c : Cfg) (pd : Nat) : Nat := if pd < 2 then 0 else picFilterIntraLevel c

/-- md_inter_intra_level, EbEncDecProcess.c:2917-2930 (candidates EbProductCodingLoop.c:7390). -/
def mdInterIntraLevel (c : Cfg) (p : Pic) (pd : Nat) : Nat :=
  if !p.iSlice && seqInterintra c != 0 then
    (if pd < 2 then 0 else if c.encMode ≤ 1 then 2 else if c.encMode ≤ 2 then 3 else 0)
  else 0

/-- inter_compound_mode, EbEncDecProcess.c:2677-2700 (0 = average only: no wedge / diff-weighted / distance). -/
def interCompoundMode (c : Cfg) (pd : Nat) : Nat :=
  if compoundMode c != 0 then
    if c.compoundLevel == DEFAULT then
      (if pd < 2 then 0 else if c.encMode ≤ -1 then 1 else if c.encMode ≤ 0 then 3
       else if c.encMode ≤ 3 then 4 else if c.encMode ≤ 4 then 6 else 0)
    else u8 c.compoundLevel
  else 0

/-- `disable_cfl_flag` local of the three intra-candidate injectors (EbModeDecision.c:4714-4722, :4917-4922,
    :5073-5082): block larger than 32, or md_disable_cfl, or the configuration when it is not DEFAULT.
    A candidate gets `UV_CFL_PRED` only when this is false; cfl_prediction (EbProductCodingLoop.c:5974-5981) only
    re-decides candidates that already are CfL. -/
def cflDisabled (c : Cfg) (blkMaxDim : Nat) (mdDisableCfl : Bool) : Bool :=
  let d0 := decide (blkMaxDim > 32)
  let d1 := if mdDisableCfl then true else d0
  if c.disableCfl != DEFAULT && !d1 then truthy c.disableCfl else d1

/-! ### everything the driver prints for one frame -/

structure FrameBits where
  allowSct : Bool
  allowIntrabc : Bool
  lf : Nat × Nat × Nat × Nat
  cdef : Nat × List Nat × List Nat
  lr : Nat × Nat × Nat
  warped : Bool
  switchable : Bool
  refMvs : Bool
  gm : List Nat
  useSuperres : Bool
  deriving Repr, DecidableEq, Inhabited

def frameHdr (c : Cfg) (p : Pic) : FrameBits :=
  { allowSct := allowSct c p
    allowIntrabc := hdrAllowIntrabc c p
    lf := hdrLf c p
    cdef := hdrCdef c p
    lr := hdrLr c p
    warped := hdrAllowWarped c p
    switchable := hdrSwitchableMotion c p
    refMvs := hdrUseRefMvs c p
    gm := hdrGm c p
    useSuperres := hdrUseSuperres c p }

/-! ### AV1 block syntax: which element is conditional on which sequence / frame flag
    (AV1 specification 5.11.x; the decoder counterpart is EbDecParseBlock.c / EbDecParseInterBlock.c) -/

/-- The header-level flags a block parser consults. -/
structure Flags where
  seqFilterIntra : Bool
  seqInterintra : Bool
  seqMasked : Bool
  seqJntComp : Bool
  allowSct : Bool
  allowIntrabc : Bool
  switchableMotion : Bool
  allowWarped : Bool
  seqCdef : Bool
  codedLossless : Bool
  lrTypeNonNone : Bool         -- FrameRestorationType[plane] != NONE for some plane
  cdefStrengthsAllZero : Bool  -- every cdef_y/uv strength in the frame header is 0
  deriving Repr, DecidableEq, Inhabited

/-- Block-level syntax elements that signal the use of a gated tool. -/
inductive Elem
  | useFilterIntra       -- 5.11.24 filter_intra_mode_info: use_filter_intra
  | hasPaletteY          -- 5.11.46 palette_mode_info
  | hasPaletteUv
  | useIntrabc           -- 5.11.7 intra_frame_mode_info: use_intrabc
  | interintra           -- 5.11.28 read_interintra_mode
  | motionModeObmc       -- 5.11.27 read_motion_mode: motion_mode == OBMC
  | motionModeWarp       --                           motion_mode == LOCALWARP
  | compGroupIdx         -- 5.11.29 read_compound_type: comp_group_idx (wedge / diff-weighted)
  | compoundIdx          --                            compound_idx (distance weights)
  | cdefIdx              -- 5.11.56 read_cdef
  | lrUnit               -- 5.11.57/58 read_lr_unit: use_wiener / use_sgrproj / restoration_type
  | cflAlphas            -- 5.11.45 read_cfl_alphas (UV_CFL chosen): no header-level gate exists
  deriving Repr, DecidableEq, Inhabited

/-- The spec table: *necessary* header condition for the element to be present in a block (size, mode and
    neighbour conditions of the specification are further conjuncts and are left out: absent stays absent). -/
def mayBePresent (f : Flags) : Elem → Bool
  | .useFilterIntra => f.seqFilterIntra
  | .hasPaletteY => f.allowSct
  | .hasPaletteUv => f.allowSct
  | .useIntrabc => f.allowIntrabc
  | .interintra => f.seqInterintra
  | .motionModeObmc => f.switchableMotion
  | .motionModeWarp => f.switchableMotion && f.allowWarped
  | .compGroupIdx => f.seqMasked
  | .compoundIdx => f.seqJntComp
  | .cdefIdx => f.seqCdef && !f.codedLossless && !f.allowIntrabc
  | .lrUnit => f.lrTypeNonNone
  | .cflAlphas => true

def allElems : List Elem :=
  [.useFilterIntra, .hasPaletteY, .hasPaletteUv, .useIntrabc, .interintra, .motionModeObmc, .motionModeWarp,
   .compGroupIdx, .compoundIdx, .cdefIdx, .lrUnit, .cflAlphas]

/-- What a conforming block parser reports for one block: the coded value when the element may be present, the
    specification's inferred value (0 = tool not used) otherwise. -/
def decodedUse (f : Flags) (coded : Elem → Nat) (e : Elem) : Nat :=
  if mayBePresent f e then coded e else 0

/-- "non-zero CDEF strength applied to this block": the block's cdef_idx selects a header strength. -/
def cdefApplied (f : Flags) : Bool :=
  mayBePresent f .cdefIdx && !f.cdefStrengthsAllZero

/-- Flags a decoder derives from the modelled headers. -/
def flagsOf (c : Cfg) (p : Pic) (anyScaled : Bool) : Flags :=
  let s := seqHdr c anyScaled
  let fb := frameHdr c p
  { seqFilterIntra := s.filterIntra != 0
    seqInterintra := s.interintra != 0
    seqMasked := s.masked != 0
    seqJntComp := s.jntComp != 0
    allowSct := fb.allowSct
    allowIntrabc := fb.allowIntrabc
    switchableMotion := fb.switchable
    allowWarped := fb.warped
    seqCdef := s.cdef != 0
    codedLossless := false
    lrTypeNonNone := fb.lr != (0, 0, 0)
    cdefStrengthsAllZero := fb.cdef.2.1.all (· == 0) && fb.cdef.2.2.all (· == 0) }

/-! ### tile info (svt_av1_get_tile_limits / set_tile_info / svt_av1_calculate_tile_cols|rows / write_tile_info_max_tile,
    EbEntropyCoding.c:2944-3115; AV1 specification 5.9.15) -/

/-- `tile_log2(blk, target)`: smallest k with (blk << k) >= target (EbBlockStructures.h:218-222).  Fuel = target. -/
def tileLog2Aux (blk target : Nat) : Nat → Nat → Nat
  | 0, k => k
  | fuel + 1, k => if blk * 2 ^ k < target then tileLog2Aux blk target fuel (k + 1) else k

def tileLog2 (blk target : Nat) : Nat := tileLog2Aux blk target target 0

/-- Superblock count of one dimension: ALIGN_POWER_OF_TWO(mi, log2_sb_sz) >> log2_sb_sz (:2988-2991). -/
def sbCount (mi log2Sb : Nat) : Nat := (mi + 2 ^ log2Sb - 1) / 2 ^ log2Sb

/-- mi units (4 pixels) of a frame dimension: cm->mi_cols = aligned_width >> 2 with 8-pixel alignment. -/
def miOf (pixels : Nat) : Nat := 2 * ((pixels + 7) / 8)

structure TileLimits where
  sbCols : Nat
  sbRows : Nat
  maxTileWidthSb : Nat
  minLog2Cols : Nat
  maxLog2Cols : Nat
  minLog2Rows : Nat     -- as svt_av1_get_tile_limits leaves it (0, ":3001 CHKN Tiles"); see `minLog2RowsSpec`
  maxLog2Rows : Nat
  minLog2Tiles : Nat
  deriving Repr, DecidableEq, Inhabited

def MAX_TILE_WIDTH : Nat := 4096
def MAX_TILE_AREA : Nat := 4096 * 2304
def MAX_TILE_COLS : Nat := 64
def MAX_TILE_ROWS : Nat := 64

/-- svt_av1_get_tile_limits, EbEntropyCoding.c:2985-3005.  `log2Sb` = log2 of the SB size in mi units (4 or 5). -/
def tileLimits (miCols miRows log2Sb : Nat) : TileLimits :=
  let sbCols := sbCount miCols log2Sb
  let sbRows := sbCount miRows log2Sb
  let sbSizeLog2 := log2Sb + 2
  let maxW := MAX_TILE_WIDTH / 2 ^ sbSizeLog2
  let maxArea := MAX_TILE_AREA / 2 ^ (2 * sbSizeLog2)
  let minC := tileLog2 maxW sbCols
  { sbCols := sbCols, sbRows := sbRows, maxTileWidthSb := maxW
    minLog2Cols := minC
    maxLog2Cols := tileLog2 1 (min sbCols MAX_TILE_COLS)
    maxLog2Rows := tileLog2 1 (min sbRows MAX_TILE_ROWS)
    minLog2Rows := 0
    minLog2Tiles := max (tileLog2 maxArea (sbCols * sbRows)) minC }

/-- One dimension of a uniform layout: tile size in SBs and the tile start positions, as the loops of
    svt_av1_calculate_tile_cols / _rows produce them (:3016-3025, :3064-3074). -/
def tileSizeSb (sb log2 : Nat) : Nat := (sb + 2 ^ log2 - 1) / 2 ^ log2

/-- the `for (start_sb = 0; start_sb < sb; i++) start_sb += size_sb` loop; fuel = sb. -/
def tileStartsAux (sb size : Nat) : Nat → Nat → List Nat
  | 0, _ => []
  | fuel + 1, start => if start < sb then start :: tileStartsAux sb size fuel (start + size) else []

def tileStarts (sb log2 : Nat) : List Nat := tileStartsAux sb (tileSizeSb sb log2) sb 0

structure TileInfo where
  colsLog2 : Nat
  rowsLog2 : Nat
  tileCols : Nat
  tileRows : Nat
  colStartsSb : List Nat
  rowStartsSb : List Nat
  colSizeSb : Nat
  rowSizeSb : Nat
  deriving Repr, DecidableEq, Inhabited

def clampLog2 (req lo hi : Nat) : Nat := min (max req lo) hi

/-- set_tile_info (:3077-3115) with uniform_tile_spacing_flag = 1 (:3096).  Rows are clamped below by
    max(min_log2_tiles - log2_tile_cols, 0), the value svt_av1_calculate_tile_cols stores (:3027-3028). -/
def tileInfo (miCols miRows log2Sb reqCols reqRows : Nat) : TileInfo :=
  let L := tileLimits miCols miRows log2Sb
  let cl := clampLog2 reqCols L.minLog2Cols L.maxLog2Cols
  let minRows := L.minLog2Tiles - cl
  let rl := clampLog2 reqRows minRows L.maxLog2Rows
  let cs := tileStarts L.sbCols cl
  let rs := tileStarts L.sbRows rl
  { colsLog2 := cl, rowsLog2 := rl, tileCols := cs.length, tileRows := rs.length
    colStartsSb := cs, rowStartsSb := rs
    colSizeSb := tileSizeSb L.sbCols cl, rowSizeSb := tileSizeSb L.sbRows rl }

/-- Number of `1` increment bits write_tile_info_max_tile emits for the rows (:2957-2960): the writer counts from
    tiles_info.min_log2_tile_rows, which write_tile_info has just reset to 0 through svt_av1_get_tile_limits (:3123),
    whereas a decoder counts from max(minLog2Tiles - TileColsLog2, 0).  The two agree iff that value is 0. -/
def rowsIncrementBitsWritten (miCols miRows log2Sb reqCols reqRows : Nat) : Nat :=
  (tileInfo miCols miRows log2Sb reqCols reqRows).rowsLog2

def minLog2RowsSpec (miCols miRows log2Sb reqCols : Nat) : Nat :=
  let L := tileLimits miCols miRows log2Sb
  L.minLog2Tiles - clampLog2 reqCols L.minLog2Cols L.maxLog2Cols

end ToolGate
