/-
  C11 (b) — size of the reconstruction output buffer versus what `recon_output` writes into it.

  * allocation: `svt_output_recon_buffer_header_creator` (Source/Lib/Encoder/Globals/EbEncHandle.c:4022-4050)
  * filling:    `recon_output` (Source/Lib/Encoder/Codec/EbEncDecProcess.c:414-575): three planes, each
                `CHECK_REPORT_ERROR(n_filled_len + sample_total_count <= n_alloc_len)`; `picture_copy_kernel`
                (Source/Lib/Common/C_DEFAULT/EbPictureOperators_C.c:42-58); `n_filled_len += sample_total_count`.
  `uint32_t` objects are `wrapU 32`; `int` intermediates are exact (their range on accepted sizes is a theorem).
  Core Lean only.
-/
import SvtVerif.CSem

namespace ReconSize
open CSem

/-- `ten_bit` / `is_16bit`: `encoder_bit_depth > 8` (EbEncHandle.c:4033, EbEncDecProcess.c:422). -/
def is16 (bitDepth : Int) : Nat := if bitDepth > 8 then 1 else 0

/-- EbEncHandle.c:4028-4034, 4044-4046: `n_alloc_len` of every recon output buffer.
    ```
    const uint32_t luma_size   = seq_header.max_frame_width * seq_header.max_frame_height;
    const uint32_t chroma_size = luma_size >> 1;                      // both u and v
    const uint32_t ten_bit     = (static_config.encoder_bit_depth > 8);
    const uint32_t frame_size  = (luma_size + chroma_size) << ten_bit;
    ``` -/
def reconAlloc (maxFrameW maxFrameH bitDepth : Int) : Int :=
  let luma := wrapU 32 (maxFrameW * maxFrameH)
  let chroma := luma / 2
  wrapU 32 ((luma + chroma) * 2 ^ is16 bitDepth)

/-- The three `sample_total_count` values (uint32_t) of EbEncDecProcess.c:490-492, 515-518, 540-543.
    `maxW/maxH` = `recon_ptr->max_width/max_height`, `padR/padB` = `scs_ptr->max_input_pad_right/bottom`.
    ```
    sample_total_count = ((max_width - pad_right) * (max_height - pad_bottom)) << is_16bit;          // Y
    sample_total_count = ((max_width - pad_right) * (max_height - pad_bottom) >> 2) << is_16bit;     // U, V
    ``` -/
def reconIncs (maxW maxH padR padB bitDepth : Int) : List Int :=
  let area := (maxW - padR) * (maxH - padB)
  let y := wrapU 32 (area * 2 ^ is16 bitDepth)
  let c := wrapU 32 (area / 4 * 2 ^ is16 bitDepth)
  [y, c, c]

/-- `n_filled_len` before each plane's check (starts at 0, l.438; `+=` on uint32_t, l.512/537/563) and after the last. -/
def filledAfter : Int → List Int → List Int
  | _, [] => []
  | acc, x :: xs => wrapU 32 (acc + x) :: filledAfter (wrapU 32 (acc + x)) xs

/-- The condition each `CHECK_REPORT_ERROR` tests (l.498, 524, 549): `n_filled_len + sample_total_count <= n_alloc_len`
    (uint32_t arithmetic), for every plane in order. -/
def checksPass (alloc : Int) : Int → List Int → Bool
  | _, [] => true
  | acc, x :: xs => decide (wrapU 32 (acc + x) ≤ alloc) && checksPass alloc (wrapU 32 (acc + x)) xs

/-- Bytes `picture_copy_kernel` writes, counted from `dst`: the loop runs while `sample_count < area_width*area_height`,
    advancing `dst` by `dst_stride*bytes_per_sample` and writing `area_width*bytes_per_sample` bytes each time
    (EbPictureOperators_C.c:46-57). One past the highest byte written (0 if nothing is written). -/
def copyExtent (dstStride areaW areaH bps : Int) : Int :=
  if areaW ≤ 0 ∨ areaH ≤ 0 then 0 else (areaH - 1) * (dstStride * bps) + areaW * bps

/-- Extents of the three copies of `recon_output` relative to the start of their plane (l.504-510, 530-536, 556-562):
    `dst_stride = max_width - max_input_pad_right`, area `(width - pad_right) x (height - pad_bottom)`, chroma halved. -/
def reconCopyExtents (maxW padR width height padRight padBottom bitDepth : Int) : List Int :=
  let bps : Int := 2 ^ is16 bitDepth
  [ copyExtent (maxW - padR) (width - padRight) (height - padBottom) bps,
    copyExtent ((maxW - padR) / 2) ((width - padRight) / 2) ((height - padBottom) / 2) bps,
    copyExtent ((maxW - padR) / 2) ((width - padRight) / 2) ((height - padBottom) / 2) bps ]

end ReconSize
