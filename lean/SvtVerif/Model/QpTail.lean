/-
  C18 model — the tail of `rate_control_kernel` (case RC_PICTURE_MANAGER_RESULT) that assigns
  `frm_hdr->quantization_params.base_q_idx` and `pcs_ptr->picture_qp`, and the recode-loop clamp.

  Transcribed from /repo:
    * `quantizer_to_qindex`                 Source/Lib/Encoder/Codec/EbModeDecisionProcess.h:632-636 (GENERATED: Gen/QTable.lean)
    * `CLIP3`                               Source/Lib/Common/Codec/EbUtility.h:171-172
    * `rcTail`                              Source/Lib/Encoder/Codec/EbRateControlProcess.c:7322-7478
    * `recodeClamp`                         Source/Lib/Encoder/Codec/EbEncDecProcess.c:4237-4249
    * `effCfg`                              Source/Lib/Encoder/Globals/EbEncHandle.c:2197, 2214-2221, 2348-2354 (copy_api_from_app)
    * `initPicQp`                           Source/Lib/Encoder/Codec/EbResourceCoordinationProcess.c:1047-1057

  Everything upstream of the tail (the value returned by `cqp_qindex_calc*` / `rc_pick_q_and_bounds` /
  `find_fp_qindex`, and the `picture_qp` left by `frame_level_rc_input_picture_{vbr,cvbr}` +
  `rate_control_refinement`) is an ARBITRARY input.  All C conversions are explicit (`CSem.wrap*`).
  Core Lean only.
-/
import SvtVerif.CSem
import SvtVerif.Gen.QTable

namespace QpTail
open CSem

/-- `quantizer_to_qindex[i]`; an out-of-range index is an out-of-bounds read in C (UB) and is modelled as 0. -/
def q2q (i : Int) : Int :=
  if i < 0 then 0 else ((Gen.QTable.quantizerToQindex.getD i.toNat 0 : Nat) : Int)

/-- Inputs of one evaluation of the tail, in the driver's field order. C type in brackets. -/
structure RcIn where
  rcMode            : Int  -- scs->static_config.rate_control_mode            [uint32]
  fixedOffsets      : Int  -- scs->static_config.use_fixed_qindex_offsets     [EbBool = uint8]
  qpScaling         : Int  -- scs->static_config.enable_qp_scaling_flag       [uint32]
  onTheFly          : Int  -- pcs->parent_pcs_ptr->qp_on_the_fly              [EbBool]
  twoPass           : Int  -- use_input_stat(scs) || scs->lap_enabled         [0/1]
  minQp             : Int  -- scs->static_config.min_qp_allowed               [uint32]
  maxQp             : Int  -- scs->static_config.max_qp_allowed               [uint32]
  qp                : Int  -- scs->static_config.qp                           [uint32]
  picQp             : Int  -- pcs->picture_qp on entry                        [uint8]
  parentPicQp       : Int  -- pcs->parent_pcs_ptr->picture_qp on entry        [uint8]
  intraOnly         : Int  -- frame_is_intra_only(pcs->parent_pcs_ptr)        [0/1]
  layerOffset       : Int  -- qindex_offsets[pcs->temporal_layer_index]       [int32]
  keyOffset         : Int  -- key_frame_qindex_offset                         [int32]
  chromaLayerOffset : Int  -- chroma_qindex_offsets[pcs->temporal_layer_index][int32]
  keyChromaOffset   : Int  -- key_frame_chroma_qindex_offset                  [int32]
  newQindex         : Int  -- UPSTREAM: `new_qindex` at line 7400 / 7440      [int32]
  rcPicQp           : Int  -- UPSTREAM: pcs->picture_qp just before line 7471 in 1-pass VBR / CVBR [uint8]
deriving Repr, DecidableEq

/-- Outputs. `branch`: 0 plain CQP (no assignment after line 7325), 1 fixed qindex offsets, 2 CQP + QP scaling,
    3 qp-on-the-fly, 4 VBR with 2-pass/LAP stats, 5 VBR 1-pass, 6 CVBR, 7 any other non-zero mode. -/
structure RcOut where
  branch      : Nat
  baseQIdx    : Int   -- frm_hdr->quantization_params.base_q_idx after line 7478 [uint8]
  pictureQp   : Int   -- pcs->picture_qp == pcs->parent_pcs_ptr->picture_qp after line 7478 [uint8]
  chromaSet   : Bool  -- delta_q_{dc,ac}[1..2] were assigned (branch 1 only)
  chromaDelta : Int   -- their value [int8]
deriving Repr, DecidableEq

/-- lines 7353-7355 / 7405-7408 / 7445-7448 / EbEncDecProcess.c:4245-4248:
    `(uint8_t)CLIP3((int32_t)min, (int32_t)max, (base_q_idx + 2) >> 2)` -/
def qpFromQidx (minQp maxQp base : Int) : Int :=
  wrapU8 (clip3 (wrapI32 minQp) (wrapI32 maxQp) (shr (base + 2) 2))

/-- lines 7400-7403 / 7440-7443 / EbEncDecProcess.c:4240-4243:
    `(uint8_t)CLIP3((int32_t)q2q[min], (int32_t)q2q[max], (int32_t)q)` -/
def clampQidx (minQp maxQp q : Int) : Int :=
  wrapU8 (clip3 (q2q minQp) (q2q maxQp) (wrapI32 q))

def rcTail (i : RcIn) : RcOut :=
  -- normalise every field to its C type
  let rcMode := wrapU32 i.rcMode
  let minQp := wrapU32 i.minQp
  let maxQp := wrapU32 i.maxQp
  let qp := wrapU32 i.qp
  let picQp := wrapU8 i.picQp
  let parentPicQp := wrapU8 i.parentPicQp
  if rcMode = 0 then
    -- 7325: base_q_idx = quantizer_to_qindex[pcs->picture_qp]
    let base0 := q2q picQp
    if wrapU8 i.fixedOffsets = 1 then
      -- 7328-7355
      -- 7329: picture_qp = static_config.qp (uint32 -> uint8); dead store, overwritten at 7352
      let qindex0 := q2q (wrapU8 qp)                                         -- 7330
      let qindex1 := if i.intraOnly = 0 then wrapI32 (qindex0 + wrapI32 i.layerOffset)  -- 7331-7332
                     else wrapI32 (qindex0 + wrapI32 i.keyOffset)            -- 7334
      let qindex := clip3 (q2q minQp) (q2q maxQp) qindex1                    -- 7336-7337
      let chroma1 := if i.intraOnly ≠ 0 then wrapI32 (qindex + wrapI32 i.keyChromaOffset)   -- 7339-7340
                     else wrapI32 (qindex + wrapI32 i.chromaLayerOffset)     -- 7342
      let chroma := clip3 (q2q minQp) (q2q maxQp) chroma1                    -- 7345-7346
      let base := wrapU8 qindex                                              -- 7347 (int32 -> uint8)
      let cd := wrapI8 (chroma - qindex)                                     -- 7348-7351 (int -> int8)
      let pq := qpFromQidx minQp maxQp base                                  -- 7352-7355
      { branch := 1, baseQIdx := base, pictureQp := pq, chromaSet := true, chromaDelta := cd }
    else if wrapU32 i.qpScaling ≠ 0 ∧ wrapU8 i.onTheFly = 0 then
      -- 7370-7409; new_qindex is whatever 7379 / 7393 / 7395 / 7397 returned
      let base := clampQidx minQp maxQp i.newQindex                          -- 7400-7403
      let pq := qpFromQidx minQp maxQp base                                  -- 7405-7408
      { branch := 2, baseQIdx := base, pictureQp := pq, chromaSet := false, chromaDelta := 0 }
    else if wrapU8 i.onTheFly = 1 then
      -- 7410-7417
      let pq := wrapU8 (clip3 (wrapI32 minQp) (wrapI32 maxQp) parentPicQp)   -- 7411-7414
      { branch := 3, baseQIdx := q2q pq, pictureQp := pq, chromaSet := false, chromaDelta := 0 }  -- 7415-7416
    else
      { branch := 0, baseQIdx := base0, pictureQp := picQp, chromaSet := false, chromaDelta := 0 }
  else
    -- 7421-7476
    let (br, pq0) :=
      if rcMode = 1 then
        if i.twoPass ≠ 0 then
          -- 7424-7449
          let base := clampQidx minQp maxQp i.newQindex                      -- 7440-7443
          (4, qpFromQidx minQp maxQp base)                                   -- 7445-7448
        else (5, wrapU8 i.rcPicQp)                                           -- 7451-7462
      else if rcMode = 2 then (6, wrapU8 i.rcPicQp)                          -- 7465-7469
      else (7, picQp)
    -- 7471-7473: (uint8_t)CLIP3(min (uint32), max (uint32), picture_qp (uint8 -> int -> uint32))
    let pq := wrapU8 (clip3 minQp maxQp (wrapU32 pq0))
    { branch := br, baseQIdx := q2q pq, pictureQp := pq, chromaSet := false, chromaDelta := 0 }  -- 7475

/-- `recode_loop_decision_maker`, the `*do_recode` branch, EbEncDecProcess.c:4237-4249:
    `q` is the value left by `recode_loop_update_q` (arbitrary int). Returns (base_q_idx, picture_qp). -/
def recodeClamp (minQp maxQp q : Int) : Int × Int :=
  let minQp := wrapU32 minQp
  let maxQp := wrapU32 maxQp
  let base := clampQidx minQp maxQp q                                        -- 4240-4243
  (base, qpFromQidx minQp maxQp base)                                        -- 4245-4249

/-- The members of the application's configuration that `effCfg` reads. -/
structure ApiCfg where
  rcMode       : Int
  minQp        : Int
  maxQp        : Int
  fixedOffsets : Int
  useQpFile    : Int
deriving Repr, DecidableEq

/-- The effective (min_qp_allowed, max_qp_allowed, enable_qp_scaling_flag, use_qp_file) the tail sees. -/
structure EffCfg where
  minQp     : Int
  maxQp     : Int
  qpScaling : Int
  useQpFile : Int
deriving Repr, DecidableEq

/-- The part of `copy_api_from_app` that produces the *effective* settings the tail sees
    (EbEncHandle.c:2197, 2214-2221, 2348-2354; `rate_control_mode` itself is copied at 2338). -/
def effCfg (c : ApiCfg) : EffCfg :=
  let fixed := wrapU8 c.fixedOffsets = 1
  { minQp := if wrapU32 c.rcMode ≠ 0 then wrapU32 c.minQp else 1       -- 2352-2354
    maxQp := if wrapU32 c.rcMode ≠ 0 then wrapU32 c.maxQp else 63      -- 2348-2350
    qpScaling := if fixed then 0 else 1                                 -- 2197, 2219-2220
    useQpFile := if fixed then 0 else wrapU8 c.useQpFile }              -- 2214, 2221

/-- EbResourceCoordinationProcess.c:1047-1057: (qp_on_the_fly, picture_qp) handed to the tail,
    from `use_qp_file`, the per-picture `input_ptr->qp` (uint32) and `static_config.qp`. `MAX_QP_VALUE = 63`. -/
def initPicQp (useQpFile inputQp qp : Int) : Int × Int :=
  if wrapU8 useQpFile = 1 then
    ((if wrapU32 inputQp > 63 then 0 else 1), wrapU8 (wrapU32 inputQp))
  else (0, wrapU8 (wrapU32 qp))

end QpTail
