/-
  C07 — lane-level model of the x86 SIMD intrinsics used by the modelled kernels, and of typed memory.

  Conventions
  * `Mem k` : a typed buffer, element index → `BitVec k` (uint8_t* = `Mem 8`, int16_t*/uint16_t* = `Mem 16`,
    int32_t* = `Mem 32`, uint64_t* = `Mem 64`).  Pointers are element indices into one such buffer; pointer
    arithmetic is `Nat` addition (strides are `uint32_t`, buffers are far smaller than 2^32 elements: no wrap).
  * `Reg`   : a SIMD register = the list of its bytes, least significant first (`__m128i` = 16 bytes, `__m256i` = 32).
    Every intrinsic is a function on byte lists; wider lanes are little-endian groups of bytes (`lanes16/32/64`),
    exactly as the hardware reinterprets the same register (`_mm256_mul_epi32` reads the low dword of each qword of a
    register that `_mm256_add_epi32` treats as 8 dwords, etc.).
  * Each intrinsic below is validated against the real instruction by harness/simd_ops_a.c, simd_ops_b.c via `svtmodel simd`
    (all lanes, boundary and random values).  Intel Intrinsics Guide operation text is quoted per intrinsic.
  Core Lean only.
-/
namespace Simd

/-! ### typed memory -/

abbrev Mem (k : Nat) := Nat → BitVec k

/-- `n` consecutive elements starting at element index `a` -/
def loadL {k : Nat} (m : Mem k) (a n : Nat) : List (BitVec k) := (List.range n).map fun i => m (a + i)

/-- store consecutive elements at element index `a` -/
def storeL {k : Nat} (m : Mem k) (a : Nat) (vs : List (BitVec k)) : Mem k :=
  fun x => if a ≤ x ∧ x < a + vs.length then vs.getD (x - a) 0 else m x

/-- single element store `p[a] = v` -/
def store1 {k : Nat} (m : Mem k) (a : Nat) (v : BitVec k) : Mem k := fun x => if x = a then v else m x

/-! ### registers and lane views -/

abbrev Reg := List (BitVec 8)

def zeroReg (nbytes : Nat) : Reg := List.replicate nbytes 0

def le16 (b0 b1 : BitVec 8) : BitVec 16 := b1 ++ b0
def le32 (b0 b1 b2 b3 : BitVec 8) : BitVec 32 := b3 ++ b2 ++ b1 ++ b0
def le64 (b0 b1 b2 b3 b4 b5 b6 b7 : BitVec 8) : BitVec 64 := b7 ++ b6 ++ b5 ++ b4 ++ b3 ++ b2 ++ b1 ++ b0

def bytes16 (v : BitVec 16) : Reg := [v.extractLsb' 0 8, v.extractLsb' 8 8]
def bytes32 (v : BitVec 32) : Reg := [v.extractLsb' 0 8, v.extractLsb' 8 8, v.extractLsb' 16 8, v.extractLsb' 24 8]
def bytes64 (v : BitVec 64) : Reg :=
  [v.extractLsb' 0 8, v.extractLsb' 8 8, v.extractLsb' 16 8, v.extractLsb' 24 8,
   v.extractLsb' 32 8, v.extractLsb' 40 8, v.extractLsb' 48 8, v.extractLsb' 56 8]

def lanes16 : Reg → List (BitVec 16)
  | b0 :: b1 :: r => le16 b0 b1 :: lanes16 r
  | _ => []
def lanes32 : Reg → List (BitVec 32)
  | b0 :: b1 :: b2 :: b3 :: r => le32 b0 b1 b2 b3 :: lanes32 r
  | _ => []
def lanes64 : Reg → List (BitVec 64)
  | b0 :: b1 :: b2 :: b3 :: b4 :: b5 :: b6 :: b7 :: r => le64 b0 b1 b2 b3 b4 b5 b6 b7 :: lanes64 r
  | _ => []

def unlanes16 (l : List (BitVec 16)) : Reg := l.flatMap bytes16
def unlanes32 (l : List (BitVec 32)) : Reg := l.flatMap bytes32
def unlanes64 (l : List (BitVec 64)) : Reg := l.flatMap bytes64

/-- lane-wise binary operation on 8/16/32/64-bit lanes -/
def map2_8 (f : BitVec 8 → BitVec 8 → BitVec 8) (a b : Reg) : Reg := List.zipWith f a b
def map2_16 (f : BitVec 16 → BitVec 16 → BitVec 16) (a b : Reg) : Reg := unlanes16 (List.zipWith f (lanes16 a) (lanes16 b))
def map2_32 (f : BitVec 32 → BitVec 32 → BitVec 32) (a b : Reg) : Reg := unlanes32 (List.zipWith f (lanes32 a) (lanes32 b))
def map2_64 (f : BitVec 64 → BitVec 64 → BitVec 64) (a b : Reg) : Reg := unlanes64 (List.zipWith f (lanes64 a) (lanes64 b))

/-! ### loads / stores between typed memory and registers -/

/-- `_mm_loadu_si128` / `_mm256_loadu_si256` / `_mm_loadl_epi64` (nbytes = 8, upper half zero) / `_mm_cvtsi32_si128(*(uint32_t*)p)`
    (nbytes = 4) on a `uint8_t` buffer: `nbytes` bytes from memory, zero-filled up to `regbytes`. -/
def loadBytes (m : Mem 8) (a nbytes regbytes : Nat) : Reg := loadL m a nbytes ++ zeroReg (regbytes - nbytes)
/-- the same on an `int16_t`/`uint16_t` buffer: `n` elements -/
def loadU16 (m : Mem 16) (a n regbytes : Nat) : Reg := unlanes16 (loadL m a n) ++ zeroReg (regbytes - 2 * n)
/-- on an `int32_t` buffer -/
def loadU32 (m : Mem 32) (a n regbytes : Nat) : Reg := unlanes32 (loadL m a n) ++ zeroReg (regbytes - 4 * n)

/-- `_mm_storeu_si128` / `_mm256_storeu_si256` / `_mm_storel_epi64` (nbytes = 8) / `*(uint32_t*)p = _mm_cvtsi128_si32(r)` (nbytes = 4)
    to a `uint8_t` buffer: the low `nbytes` bytes of the register -/
def storeBytes (m : Mem 8) (a : Nat) (r : Reg) (nbytes : Nat) : Mem 8 := storeL m a (r.take nbytes)
def storeU16 (m : Mem 16) (a : Nat) (r : Reg) (n : Nat) : Mem 16 := storeL m a ((lanes16 r).take n)
def storeU32 (m : Mem 32) (a : Nat) (r : Reg) (n : Nat) : Mem 32 := storeL m a ((lanes32 r).take n)
def storeU64 (m : Mem 64) (a : Nat) (r : Reg) (n : Nat) : Mem 64 := storeL m a ((lanes64 r).take n)

/-! ### intrinsics (SSE2 / SSE4.1 / AVX2).  128-bit ones take 16-byte registers, 256-bit ones 32-byte registers. -/

/-- `_mm_setzero_si128`, `_mm256_setzero_si256` -/
def mm_setzero_si128 : Reg := zeroReg 16
def mm256_setzero_si256 : Reg := zeroReg 32

/-- `_mm256_castsi256_si128`: low 128 bits -/
def mm256_castsi256_si128 (a : Reg) : Reg := a.take 16
/-- `_mm256_extracti128_si256(a, imm)`: 128-bit half `imm & 1` -/
def mm256_extracti128_si256 (a : Reg) (imm : Nat) : Reg := (a.drop (16 * (imm % 2))).take 16
/-- `_mm256_setr_m128i(lo, hi)` / `_mm256_inserti128_si256(_mm256_castsi128_si256(lo), hi, 1)` -/
def mm256_setr_m128i (lo hi : Reg) : Reg := lo.take 16 ++ hi.take 16

/-- `_mm_add_epi16`/`_mm_sub_epi16`, `_mm256_*`: wrap-around 16-bit lanes.  Guide: `dst[i+15:i] := a[i+15:i] - b[i+15:i]` -/
def sub_epi16 (a b : Reg) : Reg := map2_16 (· - ·) a b
def add_epi16 (a b : Reg) : Reg := map2_16 (· + ·) a b
/-- `_mm_add_epi32`, `_mm256_add_epi32`: wrap-around 32-bit lanes (NO carry into the neighbouring dword) -/
def add_epi32 (a b : Reg) : Reg := map2_32 (· + ·) a b
def sub_epi32 (a b : Reg) : Reg := map2_32 (· - ·) a b
/-- `_mm_add_epi64`, `_mm256_add_epi64`, `_mm256_sub_epi64`: wrap-around 64-bit lanes -/
def add_epi64 (a b : Reg) : Reg := map2_64 (· + ·) a b
def sub_epi64 (a b : Reg) : Reg := map2_64 (· - ·) a b

/-- `_mm_avg_epu8`: Guide: `dst[i+7:i] := (a[i+7:i] + b[i+7:i] + 1) >> 1` computed without overflow (9 bits) -/
def avg8 (x y : BitVec 8) : BitVec 8 := ((x.zeroExtend 9 + y.zeroExtend 9 + 1) >>> 1).truncate 8
def avg_epu8 (a b : Reg) : Reg := map2_8 avg8 a b

/-- `_mm_unpacklo_epi8` on one 128-bit lane: interleave the low 8 bytes of `a` and `b` -/
def interleave : List (BitVec 8) → List (BitVec 8) → List (BitVec 8)
  | x :: xs, y :: ys => x :: y :: interleave xs ys
  | _, _ => []
def mm_unpacklo_epi8 (a b : Reg) : Reg := interleave (a.take 8) (b.take 8)
def mm_unpackhi_epi8 (a b : Reg) : Reg := interleave ((a.drop 8).take 8) ((b.drop 8).take 8)
/-- `_mm256_unpacklo_epi8` / `_mm256_unpackhi_epi8`: the 128-bit operation on each half independently -/
def mm256_unpacklo_epi8 (a b : Reg) : Reg :=
  mm_unpacklo_epi8 (a.take 16) (b.take 16) ++ mm_unpacklo_epi8 (a.drop 16) (b.drop 16)
def mm256_unpackhi_epi8 (a b : Reg) : Reg :=
  mm_unpackhi_epi8 (a.take 16) (b.take 16) ++ mm_unpackhi_epi8 (a.drop 16) (b.drop 16)

/-- the `i`-th 64-bit lane (8 bytes) of a register -/
def qword (a : Reg) (i : Nat) : Reg := (a.drop (8 * i)).take 8
/-- `_mm256_permute4x64_epi64(a, imm8)`: `dst.qword[j] := a.qword[(imm8 >> 2j) & 3]` -/
def mm256_permute4x64_epi64 (a : Reg) (imm : Nat) : Reg :=
  qword a (imm % 4) ++ qword a (imm / 4 % 4) ++ qword a (imm / 16 % 4) ++ qword a (imm / 64 % 4)

/-- the `i`-th 32-bit lane (4 bytes) -/
def dword (a : Reg) (i : Nat) : Reg := (a.drop (4 * i)).take 4
/-- `_mm_shuffle_epi32(a, imm8)`: `dst.dword[j] := a.dword[(imm8 >> 2j) & 3]` -/
def mm_shuffle_epi32 (a : Reg) (imm : Nat) : Reg :=
  dword a (imm % 4) ++ dword a (imm / 4 % 4) ++ dword a (imm / 16 % 4) ++ dword a (imm / 64 % 4)
/-- `_mm_unpacklo_epi64(a, b)`: `dst = a.qword[0] : b.qword[0]` -/
def mm_unpacklo_epi64 (a b : Reg) : Reg := qword a 0 ++ qword b 0

/-- `_mm256_cvtepi32_epi64(a)`: sign-extend the four dwords of a 128-bit register to four qwords -/
def mm256_cvtepi32_epi64 (a : Reg) : Reg := unlanes64 ((lanes32 (a.take 16)).map fun x => x.signExtend 64)
/-- `_mm256_mul_epi32(a, b)` / `_mm_mul_epi32`: for each 64-bit lane, signed product of the LOW dwords of a and b.
    Guide: `dst[i+63:i] := SignExtend64(a[i+31:i]) * SignExtend64(b[i+31:i])` -/
def mulLo32 (x y : BitVec 64) : BitVec 64 := (x.truncate 32).signExtend 64 * (y.truncate 32).signExtend 64
def mul_epi32 (a b : Reg) : Reg := map2_64 mulLo32 a b

/-! ### operations used only by the C07a kernels (residual_kernel8bit_avx2, picture_average_kernel_sse2) -/

/-- `*(int32_t *)p` / `*(uint32_t *)p` on a `uint8_t` buffer (x86 is little endian) -/
def loadI32 (m : Mem 8) (a : Nat) : BitVec 32 := le32 (m a) (m (a + 1)) (m (a + 2)) (m (a + 3))
/-- `_mm_insert_epi32(a, i, imm8)` (SSE4.1).  Guide: `dst[127:0] := a[127:0]; sel := imm8[1:0]*32; dst[sel+31:sel] := i[31:0]` -/
def mm_insert_epi32 (a : Reg) (v : BitVec 32) (imm : Nat) : Reg :=
  a.take (4 * (imm % 4)) ++ bytes32 v ++ a.drop (4 * (imm % 4) + 4)
/-- `_mm_castpd_si128(_mm_loadh_pd(_mm_castsi128_pd(a), (double *)p))` on a `uint8_t` buffer.
    Guide: `dst[63:0] := a[63:0]; dst[127:64] := MEM[mem_addr+63:mem_addr]` -/
def mm_loadh_pd (a : Reg) (m : Mem 8) (p : Nat) : Reg := a.take 8 ++ loadL m p 8
/-- `_mm_storeh_pd((double *)p, _mm_castsi128_pd(r))` to an `int16_t` buffer.
    Guide: `MEM[mem_addr+63:mem_addr] := a[127:64]` (four 16-bit elements) -/
def storehU16 (m : Mem 16) (a : Nat) (r : Reg) : Mem 16 := storeL m a (lanes16 (qword r 1))

end Simd
