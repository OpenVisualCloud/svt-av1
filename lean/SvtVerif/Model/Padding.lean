/-
  C11 (a) — picture padding arithmetic of `set_param_based_on_input`
  (Source/Lib/Encoder/Globals/EbEncHandle.c:2062-2089), transcribed line by line.

  All six fields are `uint16_t` members of `SequenceControlSet` (EbSequenceControlSet.h:107-112); the right-hand
  sides are computed in `int` (integer promotion) and converted back on assignment: `wrapU 16`.
  Core Lean only.
-/
import SvtVerif.CSem

namespace Padding
open CSem

/-- EbDefinitions.h:2305-2306  `#define MIN_BLOCK_SIZE (1 << LOG_MIN_BLOCK_SIZE)`, `LOG_MIN_BLOCK_SIZE` = 3 -/
def MIN_BLOCK_SIZE : Int := 8

/-- What `set_param_based_on_input` leaves in the sequence control set (l.2060-2089). -/
structure Dims where
  lumaW : Int       -- max_input_luma_width  = seq_header.max_frame_width  = static_config.source_width  (l.2062, 2086, 2088)
  lumaH : Int       -- max_input_luma_height = seq_header.max_frame_height = static_config.source_height (l.2069, 2087, 2089)
  padRight : Int    -- max_input_pad_right   (l.2061 / 2071)
  padBottom : Int   -- max_input_pad_bottom  (l.2068 / 2078)
  chromaW : Int     -- max_input_chroma_width  = chroma_width  (l.2074, 2084)
  chromaH : Int     -- max_input_chroma_height = chroma_height (l.2075, 2085)
  deriving Repr, DecidableEq

/-- One dimension of l.2060-2079: `(pad, padded)`.
    ```
    if (x % MIN_BLOCK_SIZE) { pad = MIN_BLOCK_SIZE - (x % MIN_BLOCK_SIZE); x = x + pad; } else pad = 0;
    ``` -/
def padDim (x : Int) : Int × Int :=
  if x % MIN_BLOCK_SIZE ≠ 0 then
    let pad := wrapU 16 (MIN_BLOCK_SIZE - x % MIN_BLOCK_SIZE)      -- l.2061 / 2075
    (pad, wrapU 16 (x + pad))                                      -- l.2062 / 2076
  else
    (0, x)                                                         -- l.2064 / 2078

/-- l.2055-2089 for input `max_input_luma_width = w`, `max_input_luma_height = h` (as `copy_api_from_app` l.2185-2193
    left them: the configuration's `source_width/height` truncated to 16 bits) and the sequence's subsampling shifts. -/
def setParamPad (w h : Int) (ssx ssy : Nat) : Dims :=
  let pw := padDim w
  let ph := padDim h
  { lumaW := pw.2, lumaH := ph.2, padRight := pw.1, padBottom := ph.1,
    chromaW := wrapU 16 (pw.2 / 2 ^ ssx),                    -- l.2074  `>> subsampling_x`
    chromaH := wrapU 16 (ph.2 / 2 ^ ssy) }                   -- l.2075  `>> subsampling_y`

/-- The picture sizes `verify_settings` lets through (EbEncHandle.c:2532-2568; rules d2,d3,d6-d9 of the C12 domain):
    64 ≤ w ≤ 4096, 64 ≤ h ≤ 2160, both even. -/
def AcceptedSize (w h : Int) : Prop :=
  64 ≤ w ∧ w ≤ 4096 ∧ 64 ≤ h ∧ h ≤ 2160 ∧ w % 2 = 0 ∧ h % 2 = 0

instance (w h : Int) : Decidable (AcceptedSize w h) := by unfold AcceptedSize; infer_instance

end Padding
