/-
  C04 (part A) — the value-carrying condition variable of /repo/Source/Lib/Common/Codec/EbThreads.c
  (pthread branch):

    svt_create_cond_var  (EbThreads.c:430-445)   cond_var->val = 0; pthread_mutex_init; pthread_cond_init
    svt_set_cond_var     (EbThreads.c:449-468)
        462  pthread_mutex_lock(&cond_var->m_mutex);
        463  cond_var->val = newval;
        464  pthread_cond_broadcast(&cond_var->m_cond);
        465  pthread_mutex_unlock(&cond_var->m_mutex);
    svt_wait_cond_var    (EbThreads.c:474-495)
        489  pthread_mutex_lock(&cond_var->m_mutex);
        490  while (cond_var->val == input)
        491      pthread_cond_wait(&cond_var->m_cond, &cond_var->m_mutex);
        492  pthread_mutex_unlock(&cond_var->m_mutex);

  Use as the `me_ready` handshake: created with val = 0 (EbResourceCoordinationProcess.c:495), one
  `svt_set_cond_var(&pcs->me_ready, 1)` (EbInitialRateControlProcess.c:357), waiters
  `svt_wait_cond_var(&...->me_ready, 0)` (EbRateControlProcess.c:1139).

  Model: a transition system over ANY number of threads (thread ids are `Nat`).  The program of each
  thread is fixed by the parameter `role : Nat → Role`: a thread calls `svt_set_cond_var(cv, newval)` once,
  or `svt_wait_cond_var(cv, input)` once, or does not touch the condition variable.  One transition = one
  pthread primitive / one memory access, so every interleaving of these is covered:

    setter:  idle --lock [mutex free]--> locked --val := newval--> wrote
                  --broadcast [every `sleeping` thread becomes `woken`]--> bcast --unlock--> done
    waiter:  idle --lock [mutex free]--> testing
             testing [val == input] --pthread_cond_wait: atomically release the mutex and sleep--> sleeping
             testing [val != input] --unlock--> done
             sleeping --(only by a broadcast, or by a spurious wake-up, which POSIX permits)--> woken
             woken --re-acquire the mutex inside pthread_cond_wait [mutex free]--> testing

  Core Lean only (this file may be linked into the executable driver).
-/
namespace CondVar

/-- What a thread does with the condition variable (once). -/
inductive Role
  | setter (newval : Int)   -- svt_set_cond_var(cv, newval)
  | waiter (input : Int)    -- svt_wait_cond_var(cv, input)
  | none                    -- does not use cv
  deriving DecidableEq, Repr

/-- Program counter of a thread inside its call. -/
inductive Pc
  | idle      -- before pthread_mutex_lock                       (462 / 489)
  | locked    -- setter: holds the mutex, before `val = newval`  (463)
  | wrote     -- setter: wrote val, before pthread_cond_broadcast (464)
  | bcast     -- setter: broadcast done, before unlock           (465)
  | testing   -- waiter: holds the mutex, at the `while` test    (490)
  | sleeping  -- waiter: inside pthread_cond_wait, mutex released, not signalled (491)
  | woken     -- waiter: inside pthread_cond_wait, signalled, re-acquiring the mutex (491)
  | done      -- call returned                                   (467 / 494)
  deriving DecidableEq, Repr

structure State where
  val : Int               -- cond_var->val
  owner : Option Nat      -- holder of cond_var->m_mutex
  pc : Nat → Pc

/-- After `svt_create_cond_var` (+ the initial value): nobody has started its call. -/
def init (v0 : Int) : State := { val := v0, owner := none, pc := fun _ => .idle }

/-- Thread `t` moves to `p`. -/
@[reducible] def setPc (f : Nat → Pc) (t : Nat) (p : Pc) : Nat → Pc :=
  fun u => if u = t then p else f u

/-- `pthread_cond_broadcast` by `t`: `t` moves to `bcast`, every sleeping thread is woken. -/
@[reducible] def bcastPc (f : Nat → Pc) (t : Nat) : Nat → Pc :=
  fun u => if u = t then .bcast else if f u = .sleeping then .woken else f u

/-- The next primitive of thread `t`; `none` = `t` has no enabled step (blocked on the mutex, sleeping
without having been woken, finished, or not a user of the condition variable). -/
def step (role : Nat → Role) (s : State) (t : Nat) : Option State :=
  match role t, s.pc t with
  | .setter _, .idle =>
    if s.owner = none then some { s with owner := some t, pc := setPc s.pc t .locked } else none
  | .setter v, .locked => some { s with val := v, pc := setPc s.pc t .wrote }
  | .setter _, .wrote => some { s with pc := bcastPc s.pc t }
  | .setter _, .bcast => some { s with owner := none, pc := setPc s.pc t .done }
  | .waiter _, .idle =>
    if s.owner = none then some { s with owner := some t, pc := setPc s.pc t .testing } else none
  | .waiter i, .testing =>
    if s.val = i then some { s with owner := none, pc := setPc s.pc t .sleeping }
    else some { s with owner := none, pc := setPc s.pc t .done }
  | .waiter _, .woken =>
    if s.owner = none then some { s with owner := some t, pc := setPc s.pc t .testing } else none
  | _, _ => none

/-- Spurious wake-up of a sleeping waiter (allowed by POSIX at any time; an environment action, never
counted as "the thread has an enabled step"). -/
def spurious (role : Nat → Role) (s : State) (t : Nat) : Option State :=
  match role t, s.pc t with
  | .waiter _, .sleeping => some { s with pc := setPc s.pc t .woken }
  | _, _ => none

/-- One action of the system: thread `t` executes its next primitive, or `t` is woken spuriously. -/
inductive Act
  | run (t : Nat)
  | spur (t : Nat)
  deriving DecidableEq, Repr

def act (role : Nat → Role) (s : State) : Act → Option State
  | .run t => step role s t
  | .spur t => spurious role s t

/-- All states reachable from `init v0` under every choice of actions (= every interleaving of the
primitives of all threads, with arbitrary spurious wake-ups). -/
inductive Reachable (role : Nat → Role) (v0 : Int) : State → Prop
  | init : Reachable role v0 (init v0)
  | step {s s' : State} {a : Act} : Reachable role v0 s → act role s a = some s' → Reachable role v0 s'

/-- Execute a schedule; `none` if some action of the schedule is not enabled. -/
def runActs (role : Nat → Role) : State → List Act → Option State
  | s, [] => some s
  | s, a :: as =>
    match act role s a with
    | some s' => runActs role s' as
    | none => none

/-- No thread has an enabled step (spurious wake-ups are not counted). -/
def Stuck (role : Nat → Role) (s : State) : Prop := ∀ t, step role s t = none

/-- Remaining-steps weight of a pc (used for the termination measure once `val` has its final value). -/
def weight : Pc → Nat
  | .idle => 4
  | .locked => 3
  | .wrote => 2
  | .bcast => 1
  | .testing => 1
  | .sleeping => 3
  | .woken => 2
  | .done => 0

/-- `mu s n` = sum of the weights of threads `0 .. n-1`. -/
def mu (s : State) : Nat → Nat
  | 0 => 0
  | n + 1 => mu s n + weight (s.pc n)

/-- The `me_ready` instance: the threads that use the condition variable are exactly those `< n`; every
setter sets the same value `v1`, every waiter waits for "different from `v0`", and `v0 ≠ v1`
(`v0 = 0`, `v1 = 1` in the encoder). -/
structure MeReady (role : Nat → Role) (n : Nat) (v0 v1 : Int) : Prop where
  ne : v0 ≠ v1
  roles : ∀ t, (t < n → role t = .setter v1 ∨ role t = .waiter v0) ∧ (n ≤ t → role t = .none)

/-- Observable part of a state for the first `n` threads (for executable examples). -/
def view (s : State) (n : Nat) : Int × Option Nat × List Pc :=
  (s.val, s.owner, (List.range n).map s.pc)

/-- Example roles: thread 0 waits for `val != 0`, thread 1 sets `val = 1` (the me_ready handshake with one
waiter), thread 2 is a second waiter. -/
def exRole : Nat → Role
  | 0 => .waiter 0
  | 1 => .setter 1
  | 2 => .waiter 0
  | _ => .none

end CondVar
