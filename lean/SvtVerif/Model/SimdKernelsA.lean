/-
  C07 (part a) — lane-level models of three kernels, each in its C reference form and its SIMD form.

  K1  svt_residual_kernel8bit_c     Source/Lib/Common/Codec/EbPictureOperators.c:130-149
      svt_residual_kernel8bit_avx2  Source/Lib/Common/ASM_AVX2/EbPictureOperators_Intrinsic_AVX2.c:1327-1420
                                    + residual_kernel4/8/16_avx2  ASM_AVX2/EbPictureOperators_Inline_AVX2.h:24-103
                                    + load/store helpers          ASM_AVX2/EbMemory_AVX2.h, ASM_SSE2/synonyms.h
  K3  svt_picture_average_kernel_c            Source/Lib/Common/C_DEFAULT/EbPictureOperators_C.c:18-29
      svt_picture_average_kernel_sse2_intrin  Source/Lib/Common/ASM_SSE2/EbAvcStyleMcp_Intrinsic_SSE2.c:26-85
  K4  svt_picture_average_kernel1_line_c            Source/Lib/Common/C_DEFAULT/EbPictureOperators_C.c:31-34
      svt_picture_average_kernel1_line_sse2_intrin  Source/Lib/Common/ASM_SSE2/EbAvcStyleMcp_Intrinsic_SSE2.c:87-209

  Conventions (see Model/Simd.lean): a pointer is (buffer, element index); `input`, `pred` are `Mem 8`,
  `residual` is a separate `Mem 16` (K1); `src0`, `src1`, `dst` are three separate `Mem 8` (K3): the models
  assume the output buffer does not alias the input buffers.  Strides/widths/heights are `uint32_t` in C and
  `Nat` here; pointer arithmetic does not wrap.  Every store is a functional update in program order, so
  overlapping rows (stride < width) are modelled exactly.
  Parameter order of the top-level functions: buffer, stride, start index for each of the three buffers, then
  width, height.
  Core Lean only.
-/
import SvtVerif.Model.Simd

namespace Simd

/-! ## K1 — C reference -/

/-- EbPictureOperators.c:138 `((int16_t)input[column_index]) - ((int16_t)pred[column_index])`: both operands are
    promoted to `int` (values 0..255, so the `int` subtraction is exact, -255..255) and the result is converted to
    `int16_t` by the assignment. -/
def residC (x y : BitVec 8) : BitVec 16 := BitVec.ofInt 16 ((x.toNat : Int) - (y.toNat : Int))

/-- EbPictureOperators.c:136-140: `column_index = 0; while (column_index < area_width) { residual[column_index] = …; ++column_index; }`
    (`fuel` = upper bound on the iteration count; called with `fuel = area_width`). -/
def resid8_c_cols (inp : Mem 8) (ia : Nat) (pred : Mem 8) (pa : Nat) (ra w : Nat) : Nat → Nat → Mem 16 → Mem 16
  | 0, _, res => res
  | fuel + 1, col, res =>
    if col < w then
      resid8_c_cols inp ia pred pa ra w fuel (col + 1) (store1 res (ra + col) (residC (inp (ia + col)) (pred (pa + col))))
    else res

/-- EbPictureOperators.c:133-146: `row_index = 0; while (row_index < area_height) { columns; input += input_stride;
    pred += pred_stride; residual += residual_stride; ++row_index; }` -/
def resid8_c_rows (inp : Mem 8) (is : Nat) (pred : Mem 8) (ps rs w h : Nat) : Nat → Nat → Nat → Nat → Nat → Mem 16 → Mem 16
  | 0, _, _, _, _, res => res
  | fuel + 1, row, ia, pa, ra, res =>
    if row < h then
      let res := resid8_c_cols inp ia pred pa ra w w 0 res
      resid8_c_rows inp is pred ps rs w h fuel (row + 1) (ia + is) (pa + ps) (ra + rs) res
    else res

/-- `svt_residual_kernel8bit_c(input+ia, is, pred+pa, ps, residual+ra, rs, w, h)`; result = the residual buffer afterwards -/
def resid8_c (inp : Mem 8) (is ia : Nat) (pred : Mem 8) (ps pa : Nat) (res : Mem 16) (rs ra w h : Nat) : Mem 16 :=
  resid8_c_rows inp is pred ps rs w h h 0 ia pa ra res

/-! ## K1 — load / store helpers -/

/-- EbMemory_AVX2.h:34-41 `load_u8_4x4_avx2` -/
def load_u8_4x4_avx2 (m : Mem 8) (src stride : Nat) : Reg :=
  let src01 := loadBytes m (src + 0 * stride) 4 16                          -- :36 _mm_cvtsi32_si128(*(int32_t *)(src + 0 * stride))
  let src01 := mm_insert_epi32 src01 (loadI32 m (src + 1 * stride)) 1       -- :37 _mm_insert_epi32(src01, *(int32_t *)(src + 1 * stride), 1)
  let src23 := loadBytes m (src + 2 * stride) 4 16                          -- :38
  let src23 := mm_insert_epi32 src23 (loadI32 m (src + 3 * stride)) 1       -- :39
  mm256_setr_m128i src01 src23                                              -- :40

/-- EbMemory_AVX2.h:49-58 `load_u8_8x4_avx2` -/
def load_u8_8x4_avx2 (m : Mem 8) (src stride : Nat) : Reg :=
  let src01 := loadBytes m (src + 0 * stride) 8 16                          -- :51 _mm_loadl_epi64
  let src01 := mm_loadh_pd src01 m (src + 1 * stride)                       -- :52-53 _mm_loadh_pd
  let src23 := loadBytes m (src + 2 * stride) 8 16                          -- :54
  let src23 := mm_loadh_pd src23 m (src + 3 * stride)                       -- :55-56
  mm256_setr_m128i src01 src23                                              -- :57

/-- EbMemory_AVX2.h:66-70,72-74 `loadu_u8_16x2_avx2` = `loadu_8bit_16x2_avx2(src, sizeof(*src) * stride)` -/
def loadu_u8_16x2_avx2 (m : Mem 8) (src stride : Nat) : Reg :=
  let src0 := loadBytes m src 16 16                                         -- :67 _mm_loadu_si128(src)
  let src1 := loadBytes m (src + stride) 16 16                              -- :68 _mm_loadu_si128(src + strideInByte)
  mm256_setr_m128i src0 src1                                                -- :69

/-- synonyms.h:85-88 `store_s16_4x2_sse2` -/
def store_s16_4x2_sse2 (src : Reg) (m : Mem 16) (dst stride : Nat) : Mem 16 :=
  let m := storeU16 m dst src 4                                             -- :86 _mm_storel_epi64((__m128i *)dst, src)
  storehU16 m (dst + stride) src                                            -- :87 _mm_storeh_epi64((__m128i *)(dst + stride), src)

/-- EbMemory_AVX2.h:80-86,93-96 `storeu_s16_8x2_avx2` = `storeu_8bit_16x2_avx2(src, dst, sizeof(*dst) * stride)` -/
def storeu_s16_8x2_avx2 (src : Reg) (m : Mem 16) (dst stride : Nat) : Mem 16 :=
  let d0 := mm256_castsi256_si128 src                                       -- :82
  let d1 := mm256_extracti128_si256 src 1                                   -- :83
  let m := storeU16 m dst d0 8                                              -- :84 _mm_storeu_si128(dst, d0)
  storeU16 m (dst + stride) d1 8                                            -- :85 _mm_storeu_si128(dst + strideInByte, d1)

/-! ## K1 — AVX2 -/

/-- A buffer boxed in a structure.  Logically `Buf k` is just `Mem k` (`Buf.get`).  The box matters only when the model
    is executed by the driver: it keeps the Lean compiler from eta-expanding buffer-valued kernel functions over the
    element index that is finally read.  It has no influence on the meaning of the definitions below. -/
structure Buf (k : Nat) where
  get : Mem k

/-- The common loop shape of the six `residual_kernelN_avx2` functions:
    `uint32_t y = area_height; do { body; input += k*is; pred += k*ps; residual += k*rs; y -= k; } while (y);`
    `y` is a `uint32_t`: `y -= k` wraps modulo 2^32 (so a height that is not a positive multiple of `k` does not stop
    at 0 — outside the valid domain).  `fuel` bounds the number of iterations (called with `fuel = area_height`,
    which is enough whenever `y` does reach 0). -/
def doWhileRows (k is ps rs : Nat) (body : Nat → Nat → Nat → Buf 16 → Buf 16) : Nat → Nat → Nat → Nat → Nat → Buf 16 → Buf 16
  | 0, _, _, _, _, res => res
  | fuel + 1, y, ia, pa, ra, res =>
    let res := body ia pa ra res
    let y := (y + 2 ^ 32 - k) % 2 ^ 32
    if y ≠ 0 then doWhileRows k is ps rs body fuel y (ia + k * is) (pa + k * ps) (ra + k * rs) res else res

/-- EbPictureOperators_Inline_AVX2.h:31-46, one iteration of `residual_kernel4_avx2` (4 rows of 4) -/
def residual_kernel4_body (inp : Mem 8) (is : Nat) (pred : Mem 8) (ps rs : Nat) (ia pa ra : Nat) (res : Buf 16) : Buf 16 :=
  let zero := mm256_setzero_si256                                           -- :28
  let in_ := load_u8_4x4_avx2 inp ia is                                     -- :32
  let pr := load_u8_4x4_avx2 pred pa ps                                     -- :33
  let in_lo := mm256_unpacklo_epi8 in_ zero                                 -- :34
  let pr_lo := mm256_unpacklo_epi8 pr zero                                  -- :35
  let re_lo := sub_epi16 in_lo pr_lo                                        -- :36
  let r0 := mm256_castsi256_si128 re_lo                                     -- :37
  let r1 := mm256_extracti128_si256 re_lo 1                                 -- :38
  let m := store_s16_4x2_sse2 r0 res.get (ra + 0 * rs) rs                   -- :40
  ⟨store_s16_4x2_sse2 r1 m (ra + 2 * rs) rs⟩                                -- :41

/-- EbPictureOperators_Inline_AVX2.h:24-49 `residual_kernel4_avx2` -/
def residual_kernel4_avx2 (inp : Mem 8) (is ia : Nat) (pred : Mem 8) (ps pa : Nat) (res : Buf 16) (rs ra h : Nat) : Buf 16 :=
  doWhileRows 4 is ps rs (residual_kernel4_body inp is pred ps rs) h h ia pa ra res

/-- EbPictureOperators_Inline_AVX2.h:57-73, one iteration of `residual_kernel8_avx2` (4 rows of 8) -/
def residual_kernel8_body (inp : Mem 8) (is : Nat) (pred : Mem 8) (ps rs : Nat) (ia pa ra : Nat) (res : Buf 16) : Buf 16 :=
  let zero := mm256_setzero_si256                                           -- :54
  let in_ := load_u8_8x4_avx2 inp ia is                                     -- :58
  let pr := load_u8_8x4_avx2 pred pa ps                                     -- :59
  let in_lo := mm256_unpacklo_epi8 in_ zero                                 -- :60
  let in_hi := mm256_unpackhi_epi8 in_ zero                                 -- :61
  let pr_lo := mm256_unpacklo_epi8 pr zero                                  -- :62
  let pr_hi := mm256_unpackhi_epi8 pr zero                                  -- :63
  let r0 := sub_epi16 in_lo pr_lo                                           -- :64
  let r1 := sub_epi16 in_hi pr_hi                                           -- :65
  let m := storeu_s16_8x2_avx2 r0 res.get (ra + 0 * rs) (2 * rs)            -- :67
  ⟨storeu_s16_8x2_avx2 r1 m (ra + 1 * rs) (2 * rs)⟩                         -- :68

/-- EbPictureOperators_Inline_AVX2.h:51-76 `residual_kernel8_avx2` -/
def residual_kernel8_avx2 (inp : Mem 8) (is ia : Nat) (pred : Mem 8) (ps pa : Nat) (res : Buf 16) (rs ra h : Nat) : Buf 16 :=
  doWhileRows 4 is ps rs (residual_kernel8_body inp is pred ps rs) h h ia pa ra res

/-- EbPictureOperators_Inline_AVX2.h:84-101, one iteration of `residual_kernel16_avx2` (2 rows of 16) -/
def residual_kernel16_body (inp : Mem 8) (is : Nat) (pred : Mem 8) (ps rs : Nat) (ia pa ra : Nat) (res : Buf 16) : Buf 16 :=
  let zero := mm256_setzero_si256                                           -- :81
  let in0 := loadu_u8_16x2_avx2 inp ia is                                   -- :85
  let pr0 := loadu_u8_16x2_avx2 pred pa ps                                  -- :86
  let in1 := mm256_permute4x64_epi64 in0 0xD8                               -- :87
  let pr1 := mm256_permute4x64_epi64 pr0 0xD8                               -- :88
  let in_lo := mm256_unpacklo_epi8 in1 zero                                 -- :89
  let in_hi := mm256_unpackhi_epi8 in1 zero                                 -- :90
  let pr_lo := mm256_unpacklo_epi8 pr1 zero                                 -- :91
  let pr_hi := mm256_unpackhi_epi8 pr1 zero                                 -- :92
  let re_lo := sub_epi16 in_lo pr_lo                                        -- :93
  let re_hi := sub_epi16 in_hi pr_hi                                        -- :94
  let m := storeU16 res.get (ra + 0 * rs) re_lo 16                          -- :96 _mm256_storeu_si256(residual + 0 * residual_stride, re_lo)
  ⟨storeU16 m (ra + 1 * rs) re_hi 16⟩                                       -- :97

/-- EbPictureOperators_Inline_AVX2.h:78-103 `residual_kernel16_avx2` -/
def residual_kernel16_avx2 (inp : Mem 8) (is ia : Nat) (pred : Mem 8) (ps pa : Nat) (res : Buf 16) (rs ra h : Nat) : Buf 16 :=
  doWhileRows 2 is ps rs (residual_kernel16_body inp is pred ps rs) h h ia pa ra res

/-- EbPictureOperators_Intrinsic_AVX2.c:1327-1342 `residual32_avx2(input, pred, residual)` -/
def residual32_avx2 (inp : Mem 8) (ia : Nat) (pred : Mem 8) (pa : Nat) (res : Buf 16) (ra : Nat) : Buf 16 :=
  let zero := mm256_setzero_si256                                           -- :1329
  let in0 := loadBytes inp ia 32 32                                         -- :1330 _mm256_loadu_si256
  let pr0 := loadBytes pred pa 32 32                                        -- :1331
  let in1 := mm256_permute4x64_epi64 in0 0xD8                               -- :1332
  let pr1 := mm256_permute4x64_epi64 pr0 0xD8                               -- :1333
  let in_lo := mm256_unpacklo_epi8 in1 zero                                 -- :1334
  let in_hi := mm256_unpackhi_epi8 in1 zero                                 -- :1335
  let pr_lo := mm256_unpacklo_epi8 pr1 zero                                 -- :1336
  let pr_hi := mm256_unpackhi_epi8 pr1 zero                                 -- :1337
  let re_lo := sub_epi16 in_lo pr_lo                                        -- :1338
  let re_hi := sub_epi16 in_hi pr_hi                                        -- :1339
  let m := storeU16 res.get (ra + 0 * 16) re_lo 16                          -- :1340
  ⟨storeU16 m (ra + 1 * 16) re_hi 16⟩                                       -- :1341

/-- EbPictureOperators_Intrinsic_AVX2.c:1350-1355, loop body of `residual_kernel32_avx2` -/
def residual_kernel32_body (inp : Mem 8) (pred : Mem 8) (ia pa ra : Nat) (res : Buf 16) : Buf 16 :=
  residual32_avx2 inp ia pred pa res ra                                     -- :1351

/-- EbPictureOperators_Intrinsic_AVX2.c:1344-1356 `residual_kernel32_avx2` (`while (--y)` = `y -= 1; while (y)`) -/
def residual_kernel32_avx2 (inp : Mem 8) (is ia : Nat) (pred : Mem 8) (ps pa : Nat) (res : Buf 16) (rs ra h : Nat) : Buf 16 :=
  doWhileRows 1 is ps rs (residual_kernel32_body inp pred) h h ia pa ra res

/-- EbPictureOperators_Intrinsic_AVX2.c:1364-1370, loop body of `residual_kernel64_avx2` -/
def residual_kernel64_body (inp : Mem 8) (pred : Mem 8) (ia pa ra : Nat) (res : Buf 16) : Buf 16 :=
  let res := residual32_avx2 inp (ia + 0 * 32) pred (pa + 0 * 32) res (ra + 0 * 32)   -- :1365
  residual32_avx2 inp (ia + 1 * 32) pred (pa + 1 * 32) res (ra + 1 * 32)               -- :1366

/-- EbPictureOperators_Intrinsic_AVX2.c:1358-1371 `residual_kernel64_avx2` -/
def residual_kernel64_avx2 (inp : Mem 8) (is ia : Nat) (pred : Mem 8) (ps pa : Nat) (res : Buf 16) (rs ra h : Nat) : Buf 16 :=
  doWhileRows 1 is ps rs (residual_kernel64_body inp pred) h h ia pa ra res

/-- EbPictureOperators_Intrinsic_AVX2.c:1379-1387, loop body of `residual_kernel128_avx2` -/
def residual_kernel128_body (inp : Mem 8) (pred : Mem 8) (ia pa ra : Nat) (res : Buf 16) : Buf 16 :=
  let res := residual32_avx2 inp (ia + 0 * 32) pred (pa + 0 * 32) res (ra + 0 * 32)   -- :1380
  let res := residual32_avx2 inp (ia + 1 * 32) pred (pa + 1 * 32) res (ra + 1 * 32)   -- :1381
  let res := residual32_avx2 inp (ia + 2 * 32) pred (pa + 2 * 32) res (ra + 2 * 32)   -- :1382
  residual32_avx2 inp (ia + 3 * 32) pred (pa + 3 * 32) res (ra + 3 * 32)               -- :1383

/-- EbPictureOperators_Intrinsic_AVX2.c:1373-1388 `residual_kernel128_avx2` -/
def residual_kernel128_avx2 (inp : Mem 8) (is ia : Nat) (pred : Mem 8) (ps pa : Nat) (res : Buf 16) (rs ra h : Nat) : Buf 16 :=
  doWhileRows 1 is ps rs (residual_kernel128_body inp pred) h h ia pa ra res

/-- EbPictureOperators_Intrinsic_AVX2.c:1390-1420 `svt_residual_kernel8bit_avx2`: `switch (area_width)`, `default: // 128` -/
def resid8_avx2B (inp : Mem 8) (is ia : Nat) (pred : Mem 8) (ps pa : Nat) (res : Buf 16) (rs ra w h : Nat) : Buf 16 :=
  match w with
  | 4 => residual_kernel4_avx2 inp is ia pred ps pa res rs ra h             -- :1394
  | 8 => residual_kernel8_avx2 inp is ia pred ps pa res rs ra h             -- :1399
  | 16 => residual_kernel16_avx2 inp is ia pred ps pa res rs ra h           -- :1404
  | 32 => residual_kernel32_avx2 inp is ia pred ps pa res rs ra h           -- :1409
  | 64 => residual_kernel64_avx2 inp is ia pred ps pa res rs ra h           -- :1414
  | _ => residual_kernel128_avx2 inp is ia pred ps pa res rs ra h           -- :1419 default: // 128

/-- `svt_residual_kernel8bit_avx2(input+ia, is, pred+pa, ps, residual+ra, rs, w, h)`; result = the residual buffer afterwards -/
def resid8_avx2 (inp : Mem 8) (is ia : Nat) (pred : Mem 8) (ps pa : Nat) (res : Mem 16) (rs ra w h : Nat) : Mem 16 :=
  (resid8_avx2B inp is ia pred ps pa ⟨res⟩ rs ra w h).get

/-! ## K3 — C reference -/

/-- EbPictureOperators_C.c:24 `dst[x] = (src0[x] + src1[x] + 1) >> 1;`: the operands are promoted to `int`
    (sum 1..511: no overflow, non-negative, so `>>` is the plain shift) and the result is converted to `uint8_t`. -/
def avgC (x y : BitVec 8) : BitVec 8 := BitVec.ofNat 8 ((x.toNat + y.toNat + 1) >>> 1)

/-- EbPictureOperators_C.c:24 `for (x = 0; x < area_width; x++) { dst[x] = … }` -/
def avg_c_cols (s0 : Mem 8) (a0 : Nat) (s1 : Mem 8) (a1 : Nat) (da w : Nat) : Nat → Nat → Mem 8 → Mem 8
  | 0, _, dst => dst
  | fuel + 1, x, dst =>
    if x < w then
      avg_c_cols s0 a0 s1 a1 da w fuel (x + 1) (store1 dst (da + x) (avgC (s0 (a0 + x)) (s1 (a1 + x))))
    else dst

/-- EbPictureOperators_C.c:23-28 `for (y = 0; y < area_height; y++) { columns; src0 += src0_stride; src1 += …; dst += …; }` -/
def avg_c_rows (s0 : Mem 8) (st0 : Nat) (s1 : Mem 8) (st1 ds w h : Nat) : Nat → Nat → Nat → Nat → Nat → Mem 8 → Mem 8
  | 0, _, _, _, _, dst => dst
  | fuel + 1, y, a0, a1, da, dst =>
    if y < h then
      let dst := avg_c_cols s0 a0 s1 a1 da w w 0 dst
      avg_c_rows s0 st0 s1 st1 ds w h fuel (y + 1) (a0 + st0) (a1 + st1) (da + ds) dst
    else dst

/-- `svt_picture_average_kernel_c(src0+a0, st0, src1+a1, st1, dst+da, ds, w, h)`; result = the dst buffer afterwards -/
def avg_c (s0 : Mem 8) (st0 a0 : Nat) (s1 : Mem 8) (st1 a1 : Nat) (dst : Mem 8) (ds da w h : Nat) : Mem 8 :=
  avg_c_rows s0 st0 s1 st1 ds w h h 0 a0 a1 da dst

/-! ## K3 — SSE2 -/

/-- EbAvcStyleMcp_Intrinsic_SSE2.c:36-40 `for (y = 0; y + 15 < area_width; y += 16) { … }`; returns the final `y` too.
    (`y` is `uint32_t`; for `area_width < 2^32` neither `y + 15` nor `y += 16` wraps: `y` is a multiple of 16 and
    `y + 16 ≤ area_width` whenever the body runs.)  Called with `fuel = area_width`. -/
def avg_sse2_cols16 (s0 : Mem 8) (a0 : Nat) (s1 : Mem 8) (a1 : Nat) (da w : Nat) : Nat → Nat → Mem 8 → Nat × Mem 8
  | 0, y, dst => (y, dst)
  | fuel + 1, y, dst =>
    if y + 15 < w then
      let xmm_avg1 := avg_epu8 (loadBytes s0 (a0 + y) 16 16) (loadBytes s1 (a1 + y) 16 16)    -- :37-38
      avg_sse2_cols16 s0 a0 s1 a1 da w fuel (y + 16) (storeBytes dst (da + y) xmm_avg1 16)   -- :39
    else (y, dst)

/-- EbAvcStyleMcp_Intrinsic_SSE2.c:36-52, one row of the `area_width >= 16` path -/
def avg_sse2_row16 (s0 : Mem 8) (a0 : Nat) (s1 : Mem 8) (a1 : Nat) (da w : Nat) (dst : Mem 8) : Mem 8 :=
  let (y, dst) := avg_sse2_cols16 s0 a0 s1 a1 da w w 0 dst                                   -- :36-40
  let (y, dst) :=
    if w &&& 8 ≠ 0 then                                                                     -- :41
      let xmm_avg1 := avg_epu8 (loadBytes s0 (a0 + y) 8 16) (loadBytes s1 (a1 + y) 8 16)     -- :42-43 _mm_loadl_epi64
      (y + 8, storeBytes dst (da + y) xmm_avg1 8)                                           -- :44-45 _mm_storel_epi64; y += 8
    else (y, dst)
  if w &&& 4 ≠ 0 then                                                                       -- :47
    let xmm_avg1 := avg_epu8 (loadBytes s0 (a0 + y) 4 16) (loadBytes s1 (a1 + y) 4 16)       -- :48-49 _mm_cvtsi32_si128(*(uint32_t *))
    storeBytes dst (da + y) xmm_avg1 4                                                      -- :50 *(uint32_t *)(dst + y) = _mm_cvtsi128_si32
  else dst

/-- EbAvcStyleMcp_Intrinsic_SSE2.c:35-56 `for (uint32_t x = 0; x < area_height; ++x) { row; src0 += …; src1 += …; dst += …; }` -/
def avg_sse2_rows16 (s0 : Mem 8) (st0 : Nat) (s1 : Mem 8) (st1 ds w h : Nat) : Nat → Nat → Nat → Nat → Nat → Mem 8 → Mem 8
  | 0, _, _, _, _, dst => dst
  | fuel + 1, x, a0, a1, da, dst =>
    if x < h then
      let dst := avg_sse2_row16 s0 a0 s1 a1 da w dst
      avg_sse2_rows16 s0 st0 s1 st1 ds w h fuel (x + 1) (a0 + st0) (a1 + st1) (da + ds) dst
    else dst

/-- EbAvcStyleMcp_Intrinsic_SSE2.c:58-70 (`area_width == 4`, nbytes = 4) and :72-84 (`area_width == 8`, nbytes = 8):
    `for (y = 0; y < area_height; y += 2) { two rows; src0 += src0_stride << 1; … }`.
    (`y += 2` on `uint32_t`: no wrap for even `area_height < 2^32`.)  Called with `fuel = area_height`. -/
def avg_sse2_rows2 (nbytes : Nat) (s0 : Mem 8) (st0 : Nat) (s1 : Mem 8) (st1 ds h : Nat) : Nat → Nat → Nat → Nat → Nat → Mem 8 → Mem 8
  | 0, _, _, _, _, dst => dst
  | fuel + 1, y, a0, a1, da, dst =>
    if y < h then
      let xmm_avg1 := avg_epu8 (loadBytes s0 a0 nbytes 16) (loadBytes s1 a1 nbytes 16)                   -- :60-61 / :74-75
      let xmm_avg2 := avg_epu8 (loadBytes s0 (a0 + st0) nbytes 16) (loadBytes s1 (a1 + st1) nbytes 16)   -- :62-63 / :76-77
      let dst := storeBytes dst da xmm_avg1 nbytes                                                      -- :65 / :79
      let dst := storeBytes dst (da + ds) xmm_avg2 nbytes                                               -- :66 / :80
      avg_sse2_rows2 nbytes s0 st0 s1 st1 ds h fuel (y + 2) (a0 + st0 * 2) (a1 + st1 * 2) (da + ds * 2) dst  -- :68-70 `<< 1`
    else dst

/-- EbAvcStyleMcp_Intrinsic_SSE2.c:26-85 `svt_picture_average_kernel_sse2_intrin` (the two `assert`s are compiled out in
    release builds).  For `8 < area_width < 16` no branch is taken: the function returns without writing anything. -/
def avg_sse2 (s0 : Mem 8) (st0 a0 : Nat) (s1 : Mem 8) (st1 a1 : Nat) (dst : Mem 8) (ds da w h : Nat) : Mem 8 :=
  if w ≥ 16 then avg_sse2_rows16 s0 st0 s1 st1 ds w h h 0 a0 a1 da dst                       -- :34
  else if w = 4 then avg_sse2_rows2 4 s0 st0 s1 st1 ds h h 0 a0 a1 da dst                    -- :58
  else if w = 8 then avg_sse2_rows2 8 s0 st0 s1 st1 ds h h 0 a0 a1 da dst                    -- :72
  else dst

/-! ## K4 — svt_picture_average_kernel1_line (C_DEFAULT/EbPictureOperators_C.c:31-34 vs
      ASM_SSE2/EbAvcStyleMcp_Intrinsic_SSE2.c:87-209) -/

/-- EbPictureOperators_C.c:33 `dst[i] = (src0[i] + src1[i] + 1) / 2;` (`int` arithmetic, non-negative, then `uint8_t`) -/
def avgC2 (x y : BitVec 8) : BitVec 8 := BitVec.ofNat 8 ((x.toNat + y.toNat + 1) / 2)

/-- EbPictureOperators_C.c:33 `for (i = 0; i < areaWidth; i++) dst[i] = …` -/
def avg1_c_loop (s0 : Mem 8) (a0 : Nat) (s1 : Mem 8) (a1 : Nat) (da w : Nat) : Nat → Nat → Mem 8 → Mem 8
  | 0, _, dst => dst
  | fuel + 1, i, dst =>
    if i < w then
      avg1_c_loop s0 a0 s1 a1 da w fuel (i + 1) (store1 dst (da + i) (avgC2 (s0 (a0 + i)) (s1 (a1 + i))))
    else dst

/-- `svt_picture_average_kernel1_line_c(src0+a0, src1+a1, dst+da, w)` -/
def avg1_c (s0 : Mem 8) (a0 : Nat) (s1 : Mem 8) (a1 : Nat) (dst : Mem 8) (da w : Nat) : Mem 8 :=
  avg1_c_loop s0 a0 s1 a1 da w w 0 dst

/-- EbAvcStyleMcp_Intrinsic_SSE2.c:87-209 `svt_picture_average_kernel1_line_sse2_intrin(src0+a0, src1+a1, dst+da, w)`.
    `area_width > 16`: 32 → two 16-byte chunks, ANY other value → four chunks (64 bytes); 16, 4, 8 → one chunk;
    ANY other value ≤ 16 → 8 + 4 bytes (12). -/
def avg1_sse2 (s0 : Mem 8) (a0 : Nat) (s1 : Mem 8) (a1 : Nat) (dst : Mem 8) (da w : Nat) : Mem 8 :=
  if w > 16 then                                                                              -- :91
    if w = 32 then                                                                            -- :92
      let xmm_avg1 := avg_epu8 (loadBytes s0 a0 16 16) (loadBytes s1 a1 16 16)                -- :95-96
      let xmm_avg2 := avg_epu8 (loadBytes s0 (a0 + 16) 16 16) (loadBytes s1 (a1 + 16) 16 16)  -- :97-98
      let dst := storeBytes dst da xmm_avg1 16                                                -- :102
      storeBytes dst (da + 16) xmm_avg2 16                                                    -- :103
    else
      let xmm_avg1 := avg_epu8 (loadBytes s0 a0 16 16) (loadBytes s1 a1 16 16)                -- :114-115
      let xmm_avg2 := avg_epu8 (loadBytes s0 (a0 + 16) 16 16) (loadBytes s1 (a1 + 16) 16 16)  -- :116-117
      let xmm_avg3 := avg_epu8 (loadBytes s0 (a0 + 32) 16 16) (loadBytes s1 (a1 + 32) 16 16)  -- :118-119
      let xmm_avg4 := avg_epu8 (loadBytes s0 (a0 + 48) 16 16) (loadBytes s1 (a1 + 48) 16 16)  -- :120-121
      let dst := storeBytes dst da xmm_avg1 16                                                -- :128
      let dst := storeBytes dst (da + 16) xmm_avg2 16                                         -- :129
      let dst := storeBytes dst (da + 32) xmm_avg3 16                                         -- :130
      storeBytes dst (da + 48) xmm_avg4 16                                                    -- :131
  else if w = 16 then                                                                         -- :145
    storeBytes dst da (avg_epu8 (loadBytes s0 a0 16 16) (loadBytes s1 a1 16 16)) 16           -- :148-152
  else if w = 4 then                                                                          -- :159
    storeBytes dst da (avg_epu8 (loadBytes s0 a0 4 16) (loadBytes s1 a1 4 16)) 4              -- :162-166
  else if w = 8 then                                                                          -- :173
    storeBytes dst da (avg_epu8 (loadBytes s0 a0 8 16) (loadBytes s1 a1 8 16)) 8              -- :176-180
  else                                                                                        -- :187 (written for width 12)
    let xmm_avg1 := avg_epu8 (loadBytes s0 a0 8 16) (loadBytes s1 a1 8 16)                    -- :190-191
    let xmm_avg2 := avg_epu8 (loadBytes s0 (a0 + 8) 4 16) (loadBytes s1 (a1 + 8) 4 16)        -- :192-193
    let dst := storeBytes dst da xmm_avg1 8                                                   -- :198
    storeBytes dst (da + 8) xmm_avg2 4                                                        -- :199

end Simd
