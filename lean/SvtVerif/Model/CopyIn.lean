/-
  Model of the picture copy-in path of the encoder (C21): what `svt_av1_enc_send_picture` copies out of the
  caller's `EbSvtIOFormat`, and the padding regeneration the Picture Analysis kernel applies to the internal
  buffer before anything else reads it.

  Transcribed from (pinned /repo):
    Source/Lib/Encoder/Globals/EbEncHandle.c      copy_frame_buffer            l.3464-3620
                                                  allocate_frame_buffer        l.3874-3934
                                                  set_param_based_on_input     l.2055-2121 (pad / padding sizes)
    Source/Lib/Common/Codec/EbPictureBufferDesc.c svt_picture_buffer_desc_ctor l.38-131   (strides, origins, sizes)
    Source/Lib/Common/C_DEFAULT/EbPackUnPack_C.c  svt_enc_msb_un_pack2_d       l.118-133  (C reference of un_pack2d)
    Source/Lib/Common/Codec/EbMcp.c               generate_padding             l.112-164
                                                  pad_input_picture            l.224-272
    Source/Lib/Encoder/Codec/EbPictureAnalysisProcess.c
                                                  pad_picture_to_multiple_of_min_blk_size_dimensions l.3164-3240
                                                  pad_input_pictures           l.3787-3842
                                                  picture_analysis_kernel      l.3897-3900 (first use of the buffer)
    Source/Lib/Encoder/Codec/EbResourceCoordinationProcess.c l.809-812 (scs->pad_right = max_input_pad_right)

  Memory model: a buffer is an `Array Nat` (one cell per `uint8_t`, or per `uint16_t` for the 10-bit source);
  pointers are cell offsets from the start of the allocation.  Every access is bounds-checked: an access outside
  the allocation is *skipped* and recorded in `Mem.ok := false` (in C it is undefined behaviour / heap
  corruption), so `ok` of the result says exactly whether the C code stayed inside its buffers.
  The `compressed_ten_bit_format == 1` branch of copy_frame_buffer (l.3517-3575) is unreachable through the
  API (verify_settings rejects every non-zero value, EbEncHandle.c l.2786-2790) and is not modelled.
  Core Lean only (the driver links this file).
-/
namespace CopyIn

abbrev Buf := Array Nat

/-- read one cell (0 outside the allocation; such a read is flagged by the callers) -/
def rd (b : Buf) (i : Nat) : Nat := b.getD i 0
/-- write one cell (skipped outside the allocation; flagged by the callers) -/
def wr (b : Buf) (i v : Nat) : Buf := b.setIfInBounds i v

/-- `memset(base + off, v, n)` -/
def memsetA (b : Buf) (off v : Nat) : Nat → Buf
  | 0 => b
  | n + 1 => memsetA (wr b off v) (off + 1) v n

/-- `memcpy(base + d, s + so, n)`; `s` is the source allocation as it was when memcpy was called -/
def memcpyA (b : Buf) (d : Nat) (s : Buf) (so : Nat) : Nat → Buf
  | 0 => b
  | n + 1 => memcpyA (wr b d (rd s so)) (d + 1) s (so + 1) n

/-- `[off, off+n)` lies inside an allocation of `size` cells (an empty access touches nothing) -/
def inb (size off n : Nat) : Bool := n == 0 || decide (off + n ≤ size)

/-- A destination allocation plus the "no access so far left any allocation" flag. -/
structure Mem where
  buf : Buf
  ok : Bool := true

namespace Mem

/-- `EB_MEMSET(base + off, *(base + cell), n)` -/
def memsetCell (m : Mem) (off cell n : Nat) : Mem :=
  let ok := m.ok && decide (cell < m.buf.size) && inb m.buf.size off n
  { buf := memsetA m.buf off (rd m.buf cell) n, ok := ok }

/-- `svt_memcpy(base + d, s + so, n)` from another allocation -/
def memcpyFrom (m : Mem) (d : Nat) (s : Buf) (so n : Nat) : Mem :=
  let ok := m.ok && inb m.buf.size d n && inb s.size so n
  { buf := memcpyA m.buf d s so n, ok := ok }

/-- `svt_memcpy(base + d, base + so, n)` inside one allocation (overlap = UB, flagged) -/
def memcpySelf (m : Mem) (d so n : Nat) : Mem :=
  let ok := m.ok && inb m.buf.size d n && inb m.buf.size so n && (n == 0 || decide (d + n ≤ so ∨ so + n ≤ d))
  { buf := memcpyA m.buf d m.buf so n, ok := ok }

/-- `base[i] = f(s[si])` -/
def storeFrom (m : Mem) (i : Nat) (s : Buf) (si : Nat) (f : Nat → Nat) : Mem :=
  let ok := m.ok && decide (i < m.buf.size) && decide (si < s.size)
  { buf := wr m.buf i (f (rd s si)), ok := ok }

end Mem

/-! ### copy_frame_buffer, 8-bit path: the three row loops (EbEncHandle.c l.3494-3514) -/

/-- `for (i = 0; i < n; i++) { svt_memcpy(dst, src, source_stride); src += source_stride; dst += stride; }`
    (l.3494-3498 luma, l.3502-3506 cb, l.3510-3514 cr).  NB: the whole *source stride* is copied, not the width. -/
def copyRows (m : Mem) (src : Buf) (dst0 src0 dstStride srcStride : Nat) : Nat → Mem
  | 0 => m
  | n + 1 => copyRows (m.memcpyFrom dst0 src src0 srcStride) src (dst0 + dstStride) (src0 + srcStride) dstStride srcStride n

/-! ### un_pack2d, C reference (EbPackUnPack_C.c l.118-133; un_pack2d dispatches to it or to a SIMD twin,
    EbPictureOperators.c l.322-345) -/

/-- inner loop `for (k = 0; k < width; k++)` of row `j`:
    `in_pixel = in16[k + j*in_stride]; out8[k + j*out8_stride] = (uint8_t)(in_pixel >> 2);
     if (outn) outn[k + j*outn_stride] = (uint8_t)(in_pixel << 6);`
    `inOff/o8/on` are the pointer offsets the caller added to the three base pointers. -/
def unpackCols (in16 : Buf) (inOff inStride o8 out8Stride on outnStride j : Nat) : Nat → Nat → Mem × Mem → Mem × Mem
  | _, 0, s => s
  | k, n + 1, (m8, mn) =>
    let m8 := m8.storeFrom (o8 + (k + j * out8Stride)) in16 (inOff + (k + j * inStride)) (fun px => ((px % 65536) / 4) % 256)
    let mn := mn.storeFrom (on + (k + j * outnStride)) in16 (inOff + (k + j * inStride)) (fun px => ((px % 65536) * 64) % 256)
    unpackCols in16 inOff inStride o8 out8Stride on outnStride j (k + 1) n (m8, mn)

/-- outer loop `for (j = 0; j < height; j++)` -/
def unpackRows (in16 : Buf) (inOff inStride o8 out8Stride on outnStride width : Nat) : Nat → Nat → Mem × Mem → Mem × Mem
  | _, 0, s => s
  | j, n + 1, s =>
    unpackRows in16 inOff inStride o8 out8Stride on outnStride width (j + 1) n
      (unpackCols in16 inOff inStride o8 out8Stride on outnStride j 0 width s)

/-- `un_pack2d(in16 + inOff, in_stride, out8 + o8, out8_stride, outn + on, outn_stride, width, height)` -/
def unPack2d (in16 : Buf) (inOff inStride : Nat) (m8 : Mem) (o8 out8Stride : Nat) (mn : Mem) (on outnStride : Nat)
    (width height : Nat) : Mem × Mem :=
  unpackRows in16 inOff inStride o8 out8Stride on outnStride width 0 height (m8, mn)

/-! ### pad_input_picture (EbMcp.c l.224-272) -/

/-- l.247-253: `while (vertical_idx) { EB_MEMSET(t0 + w, *(t0 + w - 1), pad_right); t0 += stride; --vertical_idx; }` -/
def padRightLoop (m : Mem) (t0 stride w padRight : Nat) : Nat → Mem
  | 0 => m
  | v + 1 => padRightLoop (m.memsetCell (t0 + w) (t0 + w - 1) padRight) (t0 + stride) stride w padRight v

/-- l.263-268: `while (vertical_idx) { t1 += stride; svt_memcpy(t1, t0, n); --vertical_idx; }` -/
def padBottomLoop (m : Mem) (t0 t1 stride n : Nat) : Nat → Mem
  | 0 => m
  | v + 1 => padBottomLoop (m.memcpySelf (t1 + stride) t0 n) t0 (t1 + stride) stride n v

/-- `pad_input_picture(src_pic, src_stride, original_src_width, original_src_height, pad_right, pad_bottom)`;
    `(original_src_height - 1) * src_stride` is uint32 arithmetic — heights are >= 64 (verify_settings l.2529),
    the theorems assume `1 ≤ h`. -/
def padInputPicture (m : Mem) (srcPic stride w h padRight padBottom : Nat) : Mem :=
  let m := if padRight != 0 then padRightLoop m srcPic stride w padRight h else m       -- l.242-254
  if padBottom != 0 then                                                                  -- l.256-269
    let t0 := srcPic + (h - 1) * stride
    padBottomLoop m t0 t0 stride (w + padRight) padBottom
  else m

/-! ### generate_padding (EbMcp.c l.112-164) -/

/-- l.134-143: `while (vertical_idx) { EB_MEMSET(t0 - pw, *t0, pw); EB_MEMSET(t0 + w, *(t0 + w - 1), pw); t0 += stride; }` -/
def genPadH (m : Mem) (t0 stride w pw : Nat) : Nat → Mem
  | 0 => m
  | v + 1 =>
    let m := m.memsetCell (t0 - pw) t0 pw
    let m := m.memsetCell (t0 + w) (t0 + w - 1) pw
    genPadH m (t0 + stride) stride w pw v

/-- l.151-161: `while (vertical_idx) { t2 -= stride; svt_memcpy(t2, t0, stride); t3 += stride; svt_memcpy(t3, t1, stride); }` -/
def genPadV (m : Mem) (t0 t1 t2 t3 stride : Nat) : Nat → Mem
  | 0 => m
  | v + 1 =>
    let m := m.memcpySelf (t2 - stride) t0 stride
    let m := m.memcpySelf (t3 + stride) t1 stride
    genPadV m t0 t1 (t2 - stride) (t3 + stride) stride v

/-- `generate_padding(src_pic, src_stride, original_src_width, original_src_height, padding_width, padding_height)`.
    NB the *same* `padding_height` is used above and below (the allocation's `bot_padding` is never consulted). -/
def generatePadding (m : Mem) (srcPic stride w h pw ph : Nat) : Mem :=
  let m := genPadH m (srcPic + pw + ph * stride) stride w pw h     -- l.133-143
  let t0 := srcPic + ph * stride                                    -- l.147
  let t1 := srcPic + (ph + h - 1) * stride                          -- l.148
  genPadV m t0 t1 t0 t1 stride ph                                   -- l.149-161

/-! ### one plane through the pipeline -/

/-- 8-bit plane: row copy (copy_frame_buffer), pad to the multiple of 8 (pad_input_picture), regenerate the
    borders (generate_padding).  `ox, oy` = plane origin, `w, h` = visible size, `pr, pb` = pad to multiple of 8,
    `stride` = internal stride, `ss` = the caller's stride (already truncated to uint16). -/
def planeIn8 (m : Mem) (src : Buf) (stride ox oy w h pr pb ss : Nat) : Mem :=
  let m := copyRows m src (stride * oy + ox) 0 stride ss h
  let m := padInputPicture m (ox + oy * stride) stride w h pr pb
  generatePadding m 0 stride (w + pr) (h + pb) ox oy

/-- 10-bit plane: un_pack2d into the 8-bit and the 2-bit allocation, then the same padding on both. -/
def planeIn10 (m8 mn : Mem) (src16 : Buf) (stride ox oy w h pr pb ss : Nat) : Mem × Mem :=
  let (m8, mn) := unPack2d src16 0 ss m8 (stride * oy + ox) stride mn (stride * oy + ox) stride w h
  let m8 := padInputPicture m8 (ox + oy * stride) stride w h pr pb
  let mn := padInputPicture mn (ox + oy * stride) stride w h pr pb
  (generatePadding m8 0 stride (w + pr) (h + pb) ox oy, generatePadding mn 0 stride (w + pr) (h + pb) ox oy)

/-! ### the frame: descriptors as the library sets them up, and the C functions on whole pictures -/

/-- the fields of `SequenceControlSet` / `EbPictureBufferDesc` this path reads -/
structure Desc where
  encoderBitDepth : Nat
  leftPadding : Nat          -- scs->left_padding
  topPadding : Nat           -- scs->top_padding
  maxInputPadRight : Nat     -- scs->max_input_pad_right
  maxInputPadBottom : Nat    -- scs->max_input_pad_bottom
  padRight : Nat             -- scs->pad_right  (= max_input_pad_right, EbResourceCoordinationProcess.c l.809)
  padBottom : Nat            -- scs->pad_bottom
  subsamplingX : Nat
  subsamplingY : Nat
  is420 : Bool               -- input_picture_ptr->color_format == EB_YUV420
  width : Nat                -- input_picture_ptr->width  (aligned to 8)
  height : Nat               -- input_picture_ptr->height (aligned to 8)
  originX : Nat
  originY : Nat
  strideY : Nat
  strideCb : Nat
  strideCr : Nat
  strideBitIncY : Nat
  strideBitIncCb : Nat
  strideBitIncCr : Nat
  lumaSize : Nat
  chromaSize : Nat
deriving Repr

/-- padding to a multiple of MIN_BLOCK_SIZE = 8 (l.2060-2072) -/
def padTo8 (n : Nat) : Nat := if n % 8 != 0 then 8 - n % 8 else 0

/-- What set_param_based_on_input (l.2060-2072, 2118-2121), allocate_frame_buffer (l.3883-3899) and
    svt_picture_buffer_desc_ctor (l.58-82) produce for a 4:2:0 encode of `w × h`, superblock size `sb`, bit depth `bd`. -/
def apiDesc (w h sb bd : Nat) : Desc :=
  let padR := padTo8 w                                     -- l.2060-2065 (MIN_BLOCK_SIZE = 8)
  let padB := padTo8 h                                     -- l.2067-2072
  let w8 := w + padR
  let h8 := h + padB
  -- allocate_frame_buffer l.3883-3891: max_width = !(W % 8) ? W : W + W % 8, with W already aligned
  let maxW := if w8 % 8 == 0 then w8 else w8 + w8 % 8
  let maxH := if h8 % 8 == 0 then h8 else h8 + h8 % 8
  let left := 64 + 4                                       -- l.2118 BLOCK_SIZE_64 + 4
  let right := 64 + 4                                      -- l.2120
  let top := 64 + 4                                        -- l.2119
  let bot := sb + 4                                        -- l.2121 super_block_size + 4
  let strideY := maxW + left + right                       -- EbPictureBufferDesc.c l.64-66
  let lumaSize := (maxW + left + right) * (maxH + top + bot)   -- l.73-78
  { encoderBitDepth := bd, leftPadding := left, topPadding := top,
    maxInputPadRight := padR, maxInputPadBottom := padB, padRight := padR, padBottom := padB,
    subsamplingX := 1, subsamplingY := 1, is420 := true,
    width := maxW, height := maxH, originX := left, originY := top,
    strideY := strideY, strideCb := strideY / 2, strideCr := strideY / 2,
    strideBitIncY := if bd > 8 then strideY else 0,
    strideBitIncCb := if bd > 8 then strideY / 2 else 0,
    strideBitIncCr := if bd > 8 then strideY / 2 else 0,
    lumaSize := lumaSize, chromaSize := lumaSize / 4 }      -- l.79-80 (>> (3 - color_format), 4:2:0 = 1)

/-- the six allocations of the internal picture (`buffer_bit_inc_*` are NULL = empty for 8-bit encodes) -/
structure Pic where
  y : Mem
  cb : Mem
  cr : Mem
  incY : Mem
  incCb : Mem
  incCr : Mem

/-- the caller's `EbSvtIOFormat`: three allocations (cells = bytes for 8-bit, uint16 samples for 10-bit) and strides -/
structure IoFormat where
  luma : Buf
  cb : Buf
  cr : Buf
  yStride : Nat
  cbStride : Nat
  crStride : Nat

def u16 (x : Nat) : Nat := x % 65536

/-- `copy_frame_buffer` (EbEncHandle.c l.3464-3620), 8-bit branch l.3479-3515 and packed 10-bit branch l.3576-3618. -/
def copyFrameBuffer (d : Desc) (p : Pic) (io : IoFormat) : Pic :=
  if d.encoderBitDepth ≤ 8 then
    let lumaBufferOffset := d.strideY * d.topPadding + d.leftPadding                                 -- l.3480 (<< 0)
    let chromaBufferOffset := d.strideCr * (d.topPadding / 2) + d.leftPadding / 2                      -- l.3481
    let lumaStride := u16 d.strideY                                                                    -- l.3482
    let chromaStride := u16 d.strideCb                                                                 -- l.3483
    let lumaHeight := u16 (d.height - d.maxInputPadBottom)                                             -- l.3484
    let sourceLumaStride := u16 io.yStride                                                             -- l.3486
    let sourceCrStride := u16 io.crStride                                                              -- l.3487
    let sourceCbStride := u16 io.cbStride                                                              -- l.3488
    let sourceChromaHeight := if d.is420 then lumaHeight / 2 else lumaHeight                           -- l.3489-3490
    { p with
      y := copyRows p.y io.luma lumaBufferOffset 0 lumaStride sourceLumaStride lumaHeight,             -- l.3492-3498
      cb := copyRows p.cb io.cb chromaBufferOffset 0 chromaStride sourceCbStride sourceChromaHeight,   -- l.3500-3506
      cr := copyRows p.cr io.cr chromaBufferOffset 0 chromaStride sourceCrStride sourceChromaHeight }  -- l.3508-3514
  else
    let lumaBufferOffset := d.strideY * d.topPadding + d.leftPadding                                 -- l.3579
    let chromaBufferOffset := d.strideCr * (d.topPadding / 2) + d.leftPadding / 2                      -- l.3580
    let lumaWidth := u16 (d.width - d.maxInputPadRight)                                                -- l.3581
    let chromaWidth := lumaWidth / 2                                                                   -- l.3582
    let lumaHeight := u16 (d.height - d.maxInputPadBottom)                                             -- l.3583
    let sourceLumaStride := u16 io.yStride                                                             -- l.3585
    let sourceCrStride := u16 io.crStride
    let sourceCbStride := u16 io.cbStride
    let (y, incY) := unPack2d io.luma 0 sourceLumaStride p.y lumaBufferOffset d.strideY p.incY lumaBufferOffset
                        d.strideBitIncY lumaWidth lumaHeight                                           -- l.3589-3597
    let (cb, incCb) := unPack2d io.cb 0 sourceCbStride p.cb chromaBufferOffset d.strideCb p.incCb chromaBufferOffset
                        d.strideBitIncCb chromaWidth (lumaHeight / 2)                                  -- l.3599-3607
    let (cr, incCr) := unPack2d io.cr 0 sourceCrStride p.cr chromaBufferOffset d.strideCr p.incCr chromaBufferOffset
                        d.strideBitIncCr chromaWidth (lumaHeight / 2)                                  -- l.3609-3617
    { y := y, cb := cb, cr := cr, incY := incY, incCb := incCb, incCr := incCr }

/-- `pad_picture_to_multiple_of_min_blk_size_dimensions` (EbPictureAnalysisProcess.c l.3164-3240), 4:2:0
    (`subsampling_x = subsampling_y = 1`).  NB l.3197 / l.3231 index the Cr rows with `stride_cb`. -/
def padPictureToMultipleOfMinBlk (d : Desc) (p : Pic) : Pic :=
  let sx := d.subsamplingX
  let sy := d.subsamplingY
  let y := padInputPicture p.y (d.originX + d.originY * d.strideY) d.strideY (d.width - d.padRight)
              (d.height - d.padBottom) d.padRight d.padBottom                                          -- l.3173-3180
  let cb := padInputPicture p.cb ((d.originX >>> sx) + (d.originY >>> sy) * d.strideCb) d.strideCb
              ((d.width - d.padRight) >>> sx) ((d.height - d.padBottom) >>> sy) (d.padRight >>> sx) (d.padBottom >>> sy)  -- l.3183-3191
  let cr := padInputPicture p.cr ((d.originX >>> sx) + (d.originY >>> sy) * d.strideCb) d.strideCr
              ((d.width - d.padRight) >>> sx) ((d.height - d.padBottom) >>> sy) (d.padRight >>> sx) (d.padBottom >>> sy)  -- l.3194-3202
  if d.encoderBitDepth > 8 then                                                                        -- l.3204
    let incY := padInputPicture p.incY (d.originX + d.originY * d.strideBitIncY) d.strideBitIncY (d.width - d.padRight)
              (d.height - d.padBottom) d.padRight d.padBottom                                          -- l.3206-3214
    let incCb := padInputPicture p.incCb ((d.originX >>> sx) + (d.originY >>> sy) * d.strideBitIncCb) d.strideBitIncCb
              ((d.width - d.padRight) >>> sx) ((d.height - d.padBottom) >>> sy) (d.padRight >>> sx) (d.padBottom >>> sy)  -- l.3217-3225
    let incCr := padInputPicture p.incCr ((d.originX >>> sx) + (d.originY >>> sy) * d.strideBitIncCb) d.strideBitIncCr
              ((d.width - d.padRight) >>> sx) ((d.height - d.padBottom) >>> sy) (d.padRight >>> sx) (d.padBottom >>> sy)  -- l.3228-3236
    { y := y, cb := cb, cr := cr, incY := incY, incCb := incCb, incCr := incCr }
  else
    { p with y := y, cb := cb, cr := cr }

/-- `pad_input_pictures` (EbPictureAnalysisProcess.c l.3787-3842): first thing picture_analysis_kernel does with
    the copied picture (l.3900). -/
def padInputPictures (d : Desc) (p : Pic) : Pic :=
  let p := padPictureToMultipleOfMinBlk d p                                                            -- l.3791
  let sx := d.subsamplingX
  let sy := d.subsamplingY
  let y := generatePadding p.y 0 d.strideY d.width d.height d.originX d.originY                        -- l.3792-3797
  let incY := if d.encoderBitDepth > 8 then
      generatePadding p.incY 0 d.strideBitIncY d.width d.height d.originX d.originY else p.incY        -- l.3800-3807
  let cb := generatePadding p.cb 0 d.strideCb (d.width >>> sx) (d.height >>> sy) (d.originX >>> sx) (d.originY >>> sy)  -- l.3809-3815
  let cr := generatePadding p.cr 0 d.strideCr (d.width >>> sx) (d.height >>> sy) (d.originX >>> sx) (d.originY >>> sy)  -- l.3817-3823
  if d.encoderBitDepth > 8 then                                                                        -- l.3825
    { y := y, cb := cb, cr := cr, incY := incY,
      incCb := generatePadding p.incCb 0 d.strideBitIncCb (d.width >>> sx) (d.height >>> sy) (d.originX >>> sx) (d.originY >>> sy),
      incCr := generatePadding p.incCr 0 d.strideBitIncCr (d.width >>> sx) (d.height >>> sy) (d.originX >>> sx) (d.originY >>> sy) }
  else
    { p with y := y, cb := cb, cr := cr, incY := incY }

/-- send_picture's deep copy followed by the padding the Picture Analysis kernel regenerates:
    the internal picture as every later stage sees it.  The result is a fresh value: nothing of `io` is retained. -/
def pipelineIn (d : Desc) (p : Pic) (io : IoFormat) : Pic :=
  padInputPictures d (copyFrameBuffer d p io)

/-! ### what the encoder holds once `svt_av1_enc_send_picture` has returned (EbEncHandle.c l.3670-3695):
    the wrapper object posted to the input FIFO carries the library's own `EbPictureBufferDesc` (deep copy made by
    copy_input_buffer l.3640-3665); no pointer of the caller's `EbSvtIOFormat` is stored (p_buffer of the internal
    header keeps pointing at the library's descriptor, only scalar header fields are copied l.3647-3654). -/
structure Held where
  pic : Pic

/-- send_picture: the state held afterwards, and (returned unchanged to its owner) the caller's memory -/
def sendPicture (d : Desc) (p : Pic) (io : IoFormat) : Held × IoFormat := ({ pic := copyFrameBuffer d p io }, io)

/-- everything the pipeline does later is a function of what is held; the caller may meanwhile turn its memory
    into anything (`scribble`, including freeing it) -/
def afterSend {α : Type} (rest : Pic → α) (d : Desc) (p : Pic) (io : IoFormat) (scribble : IoFormat → IoFormat) : α × IoFormat :=
  let (held, callerMem) := sendPicture d p io
  let callerMem := scribble callerMem
  (rest (padInputPictures d held.pic), callerMem)

/-! ### specification vocabulary (used by the theorems, not by the driver) -/

/-- sample `(x, y)` of a caller plane with stride `ss` -/
def vis (src : Buf) (ss x y : Nat) : Nat := rd src (y * ss + x)

/-- column / row of the visible picture that a padded position replicates -/
def clampTo (o n c : Nat) : Nat := if c < o then 0 else min (c - o) (n - 1)

/-- the padded internal plane is the visible picture replicated outwards from its edges -/
def padSpec (f : Nat → Nat → Nat) (ox oy w h r c : Nat) : Nat := f (clampTo ox w c) (clampTo oy h r)

/-- the 8-bit half un_pack2d produces from a 16-bit sample -/
def hi8 (px : Nat) : Nat := ((px % 65536) / 4) % 256
/-- the 2-bit half -/
def lo2 (px : Nat) : Nat := ((px % 65536) * 64) % 256

end CopyIn
