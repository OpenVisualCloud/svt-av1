/-
  C06 — run-time CPU dispatch (Source/Lib/Common/Codec/common_dsp_rtcd.c, Source/Lib/Encoder/Codec/aom_dsp_rtcd.c).

  `SET_FUNCTIONS(ptr, c, mmx, sse, sse2, sse3, ssse3, sse4_1, sse4_2, avx, avx2, avx512)`  (common_dsp_rtcd.c:135-147,
  aom_dsp_rtcd.c:52-64) expands to

      ptr = c;
      if ((NULL != mmx)    && (flags & HAS_MMX))    ptr = mmx;          -- l.121
      ...
      if ((NULL != avx2)   && (flags & HAS_AVX2))   ptr = avx2;         -- l.129
      if ((NULL != avx512) && (flags & HAS_AVX512F)) ptr = avx512;      -- l.115 (EN_AVX512_SUPPORT only)

  i.e. a left fold over the non-NULL slots in which every later slot whose flag is set overrides the earlier ones.
  An `Entry` is one registration: the pointer, its C function (absent for the one pointer that is assigned by bare
  `if (flags & ..)` statements, common_dsp_rtcd.c:512-517) and the non-NULL slots `(CPU_FLAGS bit index, function)`
  in the order of the `if`s.  The table itself is generated (Gen/Dispatch.lean, xlate/rtcd.py).
  Core Lean only.
-/
namespace Dispatch

/-- A C identifier: its length and its ASCII bytes read as one big-endian base-256 number
    (`"ab"` = ⟨2, 0x6162⟩).  On this encoding "ends with" is one `%` on numerals, which the kernel evaluates as
    `Nat` arithmetic; the functions of `String` do not reduce there in usable time.
    `name! "svt_foo"` expands the literal at elaboration time. -/
structure FnName where
  len : Nat
  val : Nat
deriving DecidableEq, Repr, Inhabited

open Lean in
macro "name!" s:str : term => do
  let cs := s.getString.toList.map Char.toNat
  let v := cs.foldl (fun acc c => acc * 256 + c) 0
  `(FnName.mk $(Syntax.mkNumLit (toString cs.length)) $(Syntax.mkNumLit (toString v)))

namespace FnName
def bytesAux : Nat → Nat → List Nat → List Nat
  | 0, _, acc => acc
  | n + 1, v, acc => bytesAux n (v / 256) ((v % 256) :: acc)
def bytes (n : FnName) : List Nat := bytesAux n.len n.val []
def toString (n : FnName) : String := String.ofList (n.bytes.map Char.ofNat)
def ofString (s : String) : FnName := ⟨s.toList.length, s.toList.foldl (fun acc c => acc * 256 + c.toNat) 0⟩
/-- `a` followed by `b` -/
def cat (a b : FnName) : FnName := ⟨a.len + b.len, a.val * 256 ^ b.len + b.val⟩
/-- the last `s.len` characters of `a` are `s` -/
def endsWith (a s : FnName) : Bool := decide (s.len ≤ a.len) && (a.val % 256 ^ s.len == s.val)
end FnName

/-- CPU_FLAGS bit indices (Source/API/EbSvtAv1.h:302-317). -/
abbrev MMX : Nat := 0
abbrev SSE : Nat := 1
abbrev SSE2 : Nat := 2
abbrev SSE3 : Nat := 3
abbrev SSSE3 : Nat := 4
abbrev SSE4_1 : Nat := 5
abbrev SSE4_2 : Nat := 6
abbrev AVX : Nat := 7
abbrev AVX2 : Nat := 8
abbrev AVX512F : Nat := 9
/-- `CPU_FLAGS_ALL = (CPU_FLAGS_AVX512VL << 1) - 1` (EbSvtAv1.h:318) -/
abbrev flagsAll : Nat := 65535

structure Entry where
  ptr : FnName
  c : Option FnName
  slots : List (Nat × FnName)
  line : Nat := 0
deriving Repr, DecidableEq

/-- one `if ((NULL != fn) && (flags & (1 << bit))) ptr = fn;` -/
def step (flags : Nat) (cur : Option FnName) (s : Nat × FnName) : Option FnName :=
  if flags.testBit s.1 then some s.2 else cur

/-- value of the pointer after SET_FUNCTIONS (`none` = NULL) -/
def select (flags : Nat) (e : Entry) : Option FnName := e.slots.foldl (step flags) e.c

/-- `use_cpu_flags &= get_cpu_flags_to_use()` with `get_cpu_flags_to_use() = get_cpu_flags() & toUse`
    (EbEncHandle.c:657-662, common_dsp_rtcd.c:102-109,171, aom_dsp_rtcd.c:87): `hw` = flags detected by cpuinfo,
    `toUse` = the build's mask (`CPU_FLAGS_AVX512F - 1` when EN_AVX512_SUPPORT is off). -/
def maskApplied (toUse hw req : Nat) : Nat := req &&& (hw &&& toUse)

/-! ### The instruction set named by a function's suffix

`svt_aom_sad64x64_avx2`, `svt_unpack_avg_sse2_intrin`, `svt_enc_msb_pack2d_avx2_intrin_al`,
`svt_aom_highbd_blend_a64_mask_8bit_sse4_1`, `svt_memcpy_intrin_sse`: the name ends with `_<isa>`, optionally followed
by one of the decorations `_intrin`, `_intrin_al`.  A name ending in `_c` is a C function.  Anything else
(`Log2f_ASM`, `..._sse4_intrin`) is not classified and has to be reviewed (Spec/DispatchAllow.lean). -/

def isaSuffixes : List (FnName × Nat) := [
  (name! "_mmx", MMX), (name! "_sse", SSE), (name! "_sse2", SSE2), (name! "_sse3", SSE3), (name! "_ssse3", SSSE3),
  (name! "_sse4_1", SSE4_1), (name! "_sse4_2", SSE4_2), (name! "_avx", AVX), (name! "_avx2", AVX2),
  (name! "_avx512", AVX512F)]

def decorations : List FnName := [name! "", name! "_intrin", name! "_intrin_al"]

def isaOfSuffix (n : FnName) : List (FnName × Nat) → Option Nat
  | [] => none
  | (s, i) :: rest => if decorations.any (fun d => n.endsWith (s.cat d)) then some i else isaOfSuffix n rest

/-- `none`: a C function (suffix `_c`) or a name without recognised instruction-set suffix. -/
def nameIsa (n : FnName) : Option Nat :=
  if n.endsWith (name! "_c") then none else isaOfSuffix n isaSuffixes

/-- A slot is sound when the function's name ISA is at most the slot's flag in the x86 chain
    MMX < SSE < SSE2 < SSE3 < SSSE3 < SSE4.1 < SSE4.2 < AVX < AVX2 < AVX512F, or the function is on the
    reviewed allow-list. -/
def slotOk (allow : List FnName) (s : Nat × FnName) : Bool :=
  (match nameIsa s.2 with | some i => decide (i ≤ s.1) | none => false) || allow.contains s.2

def slotsOk (allow : List FnName) (e : Entry) : Bool := e.slots.all (slotOk allow)

/-- the C fallback exists and is not an instruction-set specific function -/
def cOk (noC : List FnName) (e : Entry) : Bool :=
  match e.c with
  | some c => (nameIsa c).isNone
  | none => noC.contains e.ptr

/-- slots are registered in strictly increasing flag order (so "later overrides" = "highest enabled ISA wins")
    and only the bits 0..9 (MMX..AVX512F) are ever tested -/
def slotsSorted : List (Nat × FnName) → Bool
  | [] => true
  | [s] => decide (s.1 ≤ AVX512F)
  | s :: t :: rest => decide (s.1 < t.1) && slotsSorted (t :: rest)

/-- all three table obligations for one entry -/
def entryOk (slotAllow noC : List FnName) (e : Entry) : Bool :=
  cOk noC e && slotsOk slotAllow e && slotsSorted e.slots

/-- table lookup used by the driver and by the encoder-as-function-of-kernels model -/
def find? (tbl : List Entry) (p : FnName) : Option Entry := tbl.find? (fun e => e.ptr == p)

end Dispatch
