/-
  C04 (part B) — the "independent task grid + completion counter" idiom of the SVT-AV1 pipeline.

  A picture is cut into N independent segment tasks.  The tasks are executed by any number of worker
  threads in any order; every task, when it has finished its work, does (under a per-picture mutex, or in a
  single-threaded collector process, which is the same thing for the model: the block is atomic)

        count++;
        if (count == N) { post the picture to the next pipeline stage }

  Real instances in /repo/Source/Lib/Encoder/Codec:
    * EbCdefProcess.c:518-521   svt_block_on_mutex(pcs_ptr->cdef_search_mutex);
                                pcs_ptr->tot_seg_searched_cdef++;
                                if (pcs_ptr->tot_seg_searched_cdef == pcs_ptr->cdef_segments_total_count) {...}
                                (counter reset for the next use at EbDlfProcess.c:320)
    * EbRestProcess.c:536-539   svt_block_on_mutex(pcs_ptr->rest_search_mutex);
                                pcs_ptr->tot_seg_searched_rest++;
                                if (pcs_ptr->tot_seg_searched_rest == pcs_ptr->rest_segments_total_count) {...}
                                (counter reset at EbCdefProcess.c:576)
    * EbInitialRateControlProcess.c:348-351
                                pcs_ptr->me_segments_completion_count++;
                                if (pcs_ptr->me_segments_completion_count == pcs_ptr->me_segments_total_count) {...}
                                (one collector thread consumes the ME-segment results; reset at
                                 EbPictureDecisionProcess.c:5495)
    * EbRateControlProcess.c:7220-7223
                                pcs_ptr->parent_pcs_ptr->inloop_me_segments_completion_count++;
                                if (!(... == ...inloop_me_segments_total_count)) continue;
    * EbEncDecProcess.c:4704-4705 (under intra_coded_area_mutex; weighted variant: the increment is the
                                number of SBs of the segment)
                                pcs_ptr->enc_dec_coded_sb_count += (uint32_t)context_ptr->coded_sb_count;
                                EbBool last_sb_flag = (pcs_ptr->sb_total_count_pix == pcs_ptr->enc_dec_coded_sb_count);

  Model: the state records which tasks have executed their counter block (`finished`, newest first), the
  counter, and the list of tasks that took the `count == N` branch (`fires`, oldest first).  One step =
  one execution of the atomic block by one task.  `Reachable` quantifies over every order of the tasks
  (every interleaving of the worker threads).

  Core Lean only (this file may be linked into the executable driver).
-/
namespace Counter

/-- `finished`: tasks that have run their counter block, newest first.  `count`: the C counter.
`fires`: tasks that saw `count == N` and posted the picture, in order. -/
structure State where
  finished : List Nat
  count : Nat
  fires : List Nat
  deriving DecidableEq, Repr

/-- Counter reset to 0 before the picture is handed to the segment workers. -/
def init : State := { finished := [], count := 0, fires := [] }

/-- Effect of task `t` executing `count++; if (count == N) fire`. -/
def finish (N : Nat) (s : State) (t : Nat) : State :=
  { finished := t :: s.finished
    count := s.count + 1
    fires := if s.count + 1 = N then s.fires ++ [t] else s.fires }

/-- Task `t` runs its counter block; enabled iff `t` is one of the `N` tasks and has not run it yet. -/
def step (N : Nat) (s : State) (t : Nat) : Option State :=
  if t < N ∧ t ∉ s.finished then some (finish N s t) else none

/-- All states reachable by running tasks in any order (all interleavings). -/
inductive Reachable (N : Nat) : State → Prop
  | init : Reachable N init
  | step {s s' : State} {t : Nat} : Reachable N s → step N s t = some s' → Reachable N s'

/-- Run the tasks in the given order; `none` if some task in the order is not enabled. -/
def run (N : Nat) : State → List Nat → Option State
  | s, [] => some s
  | s, t :: ts =>
    match step N s t with
    | some s' => run N s' ts
    | none => none

/-- No task can run its block any more. -/
def Terminal (N : Nat) (s : State) : Prop := ∀ t, step N s t = none

end Counter
