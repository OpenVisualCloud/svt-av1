/-
  C11 (c) — the fixed-size bitstream buffers of a picture versus what is copied into them without a check.

  * sizes:  `EB_OUTPUTSTREAMBUFFERSIZE_MACRO` (Source/Lib/Common/Codec/EbDefinitions.h:1853, thresholds l.1850);
            `picture_control_set_ctor` (Source/Lib/Encoder/Codec/EbPictureControlSet.c:268-269, 343-350):
            one entropy-coder buffer of `output_buffer_size / total_tile_cnt` bytes per tile and one picture bitstream
            buffer of `output_buffer_size` bytes; `output_bitstream_unit_ctor` (EbBitstreamUnit.c:32-45) mallocs exactly that.
  * copies: `svt_aom_daala_stop_encode` (EbBitstreamUnit.c:70-84): `svt_memcpy(br->buffer, daala_data, daala_bytes)` into the
            tile's buffer — no comparison with its size; `write_frame_header_av1` (EbEntropyCoding.c:4317-4335):
            `svt_memcpy(data + curr_data_size + tile_size_bytes, tile buffer, tile_size)` into the picture buffer — no
            comparison either.  (The packet handed to the application is malloc'ed with the exact size afterwards,
            EbPacketizationProcess.c:775-777, so that one is not the problem.)
  Core Lean only.
-/
import SvtVerif.CSem

namespace BitBuf
open CSem

/-- EbDefinitions.h:1850 -/
def INPUT_SIZE_720p_TH : Int := 0x16DA00
/-- EbDefinitions.h:1853  `((ResolutionSize) < (INPUT_SIZE_720p_TH) ? 0x1E8480 : 0x2DC6C0)`; the argument is
    `picture_width * picture_height` of the PADDED picture (EbPictureControlSet.c:268-269; `uint16_t * uint16_t` in `int`). -/
def bufSize (padW padH : Int) : Int :=
  if padW * padH < INPUT_SIZE_720p_TH then 0x1E8480 else 0x2DC6C0

/-- EbPictureControlSet.c:343-347: each tile's entropy-coder output buffer (`uint32_t` division). -/
def tileBufSize (padW padH tileCnt : Int) : Int := wrapU 32 (bufSize padW padH) / tileCnt

/-- A `memcpy(dst + off, src, n)` into an allocation of `size` bytes stays inside it iff … (what neither copy tests). -/
def copyInBounds (size off n : Int) : Bool := decide (0 ≤ off ∧ 0 ≤ n ∧ off + n ≤ size)

/-- `svt_aom_daala_stop_encode` (EbBitstreamUnit.c:70-84) as far as memory is concerned: the range coder's output
    (`daala_bytes`, any length: `svt_od_ec_enc_done` grows its own buffers with realloc) is copied to offset 0 of the tile's
    buffer. Returns `(bytes written, in bounds?)`. The function has no branch on the size. -/
def stopEncode (tileBuf daalaBytes : Int) : Int × Bool := (daalaBytes, copyInBounds tileBuf 0 daalaBytes)

/-- `write_frame_header_av1` tile loop (EbEntropyCoding.c:4317-4335): starting at `hdr` bytes (OBU header + frame header +
    tile group header), every tile's bytes are appended, each but the last preceded by a `tszBytes`-byte size field.
    Returns `(final curr_data_size, all copies in bounds?)`. -/
def appendTiles (picBuf tszBytes : Int) : Int → List Int → Int × Bool
  | cur, [] => (cur, true)
  | cur, [t] => (cur + t, copyInBounds picBuf cur t)
  | cur, t :: ts =>
    let r := appendTiles picBuf tszBytes (cur + tszBytes + t) ts
    (r.1, copyInBounds picBuf (cur + tszBytes) t && r.2)

/-- Size of the submitted picture itself (4:2:0, samples packed at their bit depth): `w*h*3/2*bitDepth/8` bytes.
    NOT a worst-case bound on the coded size — noise at qp 0 codes to about 1.85 B/pixel at 8 bit and 2.43 B/pixel at
    10 bit, against 1.5 / 1.875 — it is the yardstick of the negative theorem. -/
def rawBytes (w h bitDepth : Int) : Int := w * h * 3 / 2 * bitDepth / 8

end BitBuf
