/-
  C17 — several encoder / decoder instances in one process.

  The model.  A process has
    * global objects `γ` (everything with static storage duration that is writable at run time; the concrete
      table is `Gen/Globals.lean`, generated from the object files) holding values `ν`, and
    * instances `ι`, each with private state `σ` (its handle, its contexts, its queues, *and its outputs*).
  One atomic step of an instance is one of
    * `compute reads f` — "coding code": reads the listed globals and its own state, updates its own state;
    * `store g w val`   — writer function `w` stores `val (own state)` into global `g`
                          (svt_av1_enc_init -> build_blk_geom -> max_sb = ..., setup_common_rtcd_internal -> ptr = ..., ...);
    * `rmw g w upd`     — a read-modify-write of `g` done under a mutex (memory / component counters): atomic.
  An instance never touches another instance's private state: that is built into `step` (the C analogue: handles
  are separately allocated and only reachable through the handle the application passes in).
  A joint execution is an arbitrary list of `(instance, action)` pairs — every interleaving of the instances'
  own traces at the granularity of these atomic steps, for any number of instances.
  Memory is sequentially consistent and a store of one `ν` is atomic (as DESIGN.md section 3 states for all models).

  Core Lean only (no Mathlib).
-/

namespace SvtVerif.NonInterf

/-! ## the generated inventory's record types -/

/-- How a global may behave (the reviewed classification lives in `Spec/GlobalsClass.lean`). -/
inductive Class where
  /-- every writer stores a value that does not depend on the instance (tables filled identically by every init;
      objects in `.data` that no function writes at all) -/
  | writeOnceConstant
  /-- only read-modify-write under a named mutex, never read by coding code -/
  | lockedCounter
  /-- written from one instance's configuration / handle and read by coding code -/
  | instanceDependent
  /-- instance-independent final value, but every init first stores a placeholder (memset 0 / reset counters) and then
      rebuilds it: a concurrent reader can observe the placeholder -/
  | transientRebuild
  | unclassified
deriving DecidableEq, Repr

/-- One object with static storage duration in a writable section. -/
structure Global where
  name : String          -- symbol name (function-local statics without gcc's `.N` suffix)
  file : String          -- source file of the object file that defines it
  sect : String          -- ELF section (.data / .bss / ...)
  lib : String           -- "enc" | "dec" | "both" (object file is a member of which static library)
  size : Nat
  analysed : Bool        -- false: the defining object was not analysed for writers (NASM object)
  writers : List String       -- functions that store to it (directly, through memset/memcpy, or through a parameter)
  derefWriters : List String  -- functions that store through the pointer it holds
  escapes : List String       -- places where its address leaves the analysis
deriving Repr, DecidableEq

/-- Globals of one object file that share section and writer sets. -/
structure Group where
  file : String
  sect : String
  lib : String
  analysed : Bool
  writers : List String
  derefWriters : List String
  escapes : List String
  members : List (String × Nat)
deriving Repr

def Group.globals (g : Group) : List Global :=
  g.members.map fun m =>
    { name := m.1, file := g.file, sect := g.sect, lib := g.lib, size := m.2, analysed := g.analysed,
      writers := g.writers, derefWriters := g.derefWriters, escapes := g.escapes }

/-! ## the transition system -/

inductive Act (γ ν σ : Type) where
  | compute (reads : List γ) (f : List ν → σ → σ)
  | store (g : γ) (writer : String) (val : σ → ν)
  | rmw (g : γ) (writer : String) (upd : ν → ν)

structure St (ι γ ν σ : Type) where
  G : γ → ν
  I : ι → σ

def upd {α β : Type} [DecidableEq α] (f : α → β) (a : α) (b : β) : α → β := fun x => if x = a then b else f x

@[simp] theorem upd_same {α β : Type} [DecidableEq α] (f : α → β) (a : α) (b : β) : upd f a b a = b := by simp [upd]
theorem upd_other {α β : Type} [DecidableEq α] (f : α → β) (a : α) (b : β) (x : α) (h : x ≠ a) : upd f a b x = f x := by
  simp [upd, h]

variable {ι γ ν σ : Type}

/-- one atomic step of instance `i` in the joint system -/
def step [DecidableEq ι] [DecidableEq γ] (s : St ι γ ν σ) (i : ι) : Act γ ν σ → St ι γ ν σ
  | .compute reads f => { s with I := upd s.I i (f (reads.map s.G) (s.I i)) }
  | .store g _ val => { s with G := upd s.G g (val (s.I i)) }
  | .rmw g _ u => { s with G := upd s.G g (u (s.G g)) }

/-- a joint execution: any list of (instance, action) -/
def run [DecidableEq ι] [DecidableEq γ] : List (ι × Act γ ν σ) → St ι γ ν σ → St ι γ ν σ
  | [], s => s
  | p :: m, s => run m (step s p.1 p.2)

/-- the same action when the instance is alone in the process -/
def stepSolo [DecidableEq γ] (s : (γ → ν) × σ) : Act γ ν σ → (γ → ν) × σ
  | .compute reads f => (s.1, f (reads.map s.1) s.2)
  | .store g _ val => (upd s.1 g (val s.2), s.2)
  | .rmw g _ u => (upd s.1 g (u (s.1 g)), s.2)

def runSolo [DecidableEq γ] : List (Act γ ν σ) → (γ → ν) × σ → (γ → ν) × σ
  | [], s => s
  | a :: t, s => runSolo t (stepSolo s a)

/-- the trace of instance `i` inside a joint execution -/
def proj [DecidableEq ι] (i : ι) : List (ι × Act γ ν σ) → List (Act γ ν σ)
  | [] => []
  | p :: m => if p.1 = i then p.2 :: proj i m else proj i m

/-- `m` is an interleaving of `t₁` (instance `false`) and `t₂` (instance `true`) -/
inductive Interleaving : List (Act γ ν σ) → List (Act γ ν σ) → List (Bool × Act γ ν σ) → Prop where
  | nil : Interleaving [] [] []
  | left {a t₁ t₂ m} : Interleaving t₁ t₂ m → Interleaving (a :: t₁) t₂ ((false, a) :: m)
  | right {a t₁ t₂ m} : Interleaving t₁ t₂ m → Interleaving t₁ (a :: t₂) ((true, a) :: m)

/-- An instance reads a global only if it is statically initialised (`static`) or the instance itself has stored it
    before (its own `svt_av1_enc_init` ran the table builders before its first kernel thread started).
    `W` = globals stored so far by this instance. -/
def wellInit [DecidableEq γ] (static : γ → Bool) : List γ → List (Act γ ν σ) → Bool
  | _, [] => true
  | W, .compute reads _ :: t => reads.all (fun g => static g || W.contains g) && wellInit static W t
  | W, .store g _ _ :: t => wellInit static (g :: W) t
  | W, .rmw _ _ _ :: t => wellInit static W t

/-- The discipline under which sharing is harmless, stated without classes: `readable` globals are the only ones
    coding code reads; every store to a readable global stores the instance-independent value `c g`; locked
    read-modify-writes only touch non-readable globals. -/
def ActOK (readable : γ → Bool) (c : γ → ν) : Act γ ν σ → Prop
  | .compute reads _ => ∀ g ∈ reads, readable g = true
  | .store g _ val => readable g = true → ∀ x, val x = c g
  | .rmw g _ _ => readable g = false

/-- The same discipline in terms of the classification: coding code reads `writeOnceConstant` and `instanceDependent`
    globals but never a `lockedCounter`; a store to a `writeOnceConstant` global stores `c g`; counters are only
    touched by locked read-modify-writes; nothing is assumed about what is stored into an `instanceDependent` global. -/
def ClassOK (cls : γ → Class) (c : γ → ν) : Act γ ν σ → Prop
  | .compute reads _ => ∀ g ∈ reads, cls g ≠ .lockedCounter
  | .store g _ val => cls g ≠ .lockedCounter ∧ (cls g = .writeOnceConstant → ∀ x, val x = c g)
  | .rmw g _ _ => cls g = .lockedCounter

end SvtVerif.NonInterf
