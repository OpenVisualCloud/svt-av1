/-
  C03 — model of the tail of `packetization_kernel`
  (`/repo/Source/Lib/Encoder/Codec/EbPacketizationProcess.c`, l.621-912), as the code IS:

    * insert (l.654-683, 828-833): the output buffer of the arriving frame gets `pts`, `dts = pts`,
      `flags = EOS iff terminating_sequence_flag_received && decode_order == terminating_picture_number`,
      `p_app_private = input p_app_private`; the entry `queue[decode_order % D]` gets `show_frame`,
      `has_show_existing`, `is_alt_ref`, `out_meta_data` and the buffer (no occupancy test);
    * drain (l.883-909): `while ((frames = count_frames_in_next_tu()))` { `collect_frames_info`; `encode_tu`;
      EOS flag moved to the show-existing packet; post the TU packet; `pop_undisplayed_frame` +
      `encode_show_existing` + post; `release_frames` };
    * undisplayed stack (l.339-366): `push` drops silently when `count >= REF_FRAMES (8)`, `sort` = qsort with
      `pts_descend`, `pop` takes the last array element (smallest pts) or returns NULL when empty.

  Deliberate idealisation (stated as an assumption of C03, exercised on the real code by harness/packetize.c):
  `pts_descend` returns `(int)(b->pts - a->pts)`; the model sorts by the true order of `pts`.  The two agree
  iff all pts differences among simultaneously pending frames are below 2^31 in magnitude (and pts distinct).

  Core Lean only.
-/
import SvtVerif.CSem

namespace Packetize

/-- One frame as it reaches packetization, in decode order.  `disp` (picture_number, l.815) is only used by the
    specification (`validGop`); the model never reads it. -/
structure Frame where
  disp  : Nat    -- pcs->picture_number (display order / poc)
  pts   : Int    -- input_ptr->pts (l.676)
  shown : Bool   -- frm_hdr->show_frame (l.828)
  hse   : Bool   -- ppcs->has_show_existing (l.829)
  alt   : Bool   -- ppcs->is_alt_ref (l.660)
  priv  : Nat    -- input_ptr->p_app_private (l.683); 0 = NULL
  outMeta : Nat  -- out_meta_data (l.838-840); 0 = NULL (in /repo both source lists are never populated)
deriving Repr, DecidableEq, Inhabited

/-- The fields of an output `EbBufferHeaderType` that C03 talks about (+ ghost `frames`: number of coded
    frames copied into the buffer by `encode_tu`; 0 for a buffer that was never the last frame of a TU). -/
structure Buf where
  pts     : Int
  dts     : Int
  eos     : Bool   -- EB_BUFFERFLAG_EOS
  showExt : Bool   -- EB_BUFFERFLAG_SHOW_EXT
  hasTd   : Bool   -- EB_BUFFERFLAG_HAS_TD
  altFlag : Bool   -- EB_BUFFERFLAG_IS_ALT_REF
  priv    : Nat    -- p_app_private
  frames  : Nat
deriving Repr, DecidableEq, Inhabited

/-- A reorder-queue entry with its output buffer. -/
structure Entry where
  buf   : Buf
  shown : Bool
  hse   : Bool
  alt   : Bool
  outMeta : Nat
deriving Repr, DecidableEq, Inhabited

/-- l.668-683, 828-840. `term` = `terminating_picture_number` once `terminating_sequence_flag_received`. -/
def mkEntry (term : Option Nat) (decodeOrder : Nat) (f : Frame) : Entry :=
  { buf := { pts := f.pts, dts := f.pts, eos := (term == some decodeOrder), showExt := false, hasTd := false,
             altFlag := false, priv := f.priv, frames := 0 },
    shown := f.shown, hse := f.hse, alt := f.alt, outMeta := f.outMeta }

/-! ### undisplayed-frame stack — list head = top of stack = last array element -/

def REF_FRAMES : Nat := 8

/-- `push_undisplayed_frame` l.339-347. -/
def push (stack : List Buf) (b : Buf) : List Buf :=
  if stack.length ≥ REF_FRAMES then stack else b :: stack

def insertByPts (b : Buf) : List Buf → List Buf
  | [] => [b]
  | x :: xs => if b.pts ≤ x.pts then b :: x :: xs else x :: insertByPts b xs

/-- `sort_undisplayed_frame` l.361-366: array descending by pts = top-first ascending by pts. -/
def sortStack : List Buf → List Buf
  | [] => []
  | x :: xs => insertByPts x (sortStack xs)

/-- `pts_descend` (l.331-337) as the code IS: `return (int)(bb->pts - ba->pts);` — the int64 difference converted to `int`
    (qsort comparator: negative = `a` first).  `sortStack` above orders by the TRUE order of pts; `C03.pts_descend_agrees` /
    `C03.pts_descend_truncates` state when the two agree and exhibit the disagreement. -/
def ptsDescendC (aPts bPts : Int) : Int := CSem.wrapI32 (CSem.wrapI64 (bPts - aPts))

/-! ### one temporal unit -/

structure Out where
  stack   : List Buf
  pktsRev : List Buf   -- posted output buffers, newest first
deriving Repr, DecidableEq

/-- `collect_frames_info` l.482-505 on one entry. -/
def collect (e : Entry) : Entry :=
  { e with buf := { e.buf with priv := e.outMeta, altFlag := e.buf.altFlag || e.alt } }

/-- l.884-907 once the TU is known: `last` is entry `frames-1` (the shown frame, whose buffer carries the TU),
    `revPre` are entries `frames-2 … 0` in exactly the order `encode_tu` (l.531-542) visits them
    (both already through `collect_frames_info`). -/
def emitCore (st : Out) (last : Entry) (revPre : List Entry) : Out :=
  let eos := last.buf.eos                                              -- l.890
  -- encode_tu l.531-544: i = frames-2 … 0, push unless alt-ref; sort if frames > 1
  let pushed := (revPre.filter (fun e => !e.alt)).map (·.buf)
  let stack1 := pushed.foldl push st.stack
  let stack2 := if revPre.length + 1 > 1 then sortStack stack1 else stack1
  let outBuf : Buf := { last.buf with hasTd := true, frames := revPre.length + 1,   -- l.547-548
                                      eos := if eos && last.hse then false else last.buf.eos }  -- l.894-895
  let pkts := outBuf :: st.pktsRev                                     -- l.897
  if last.hse then                                                     -- l.898
    match stack2 with
    | [] => { stack := [], pktsRev := pkts }                           -- pop returned NULL (l.351-354)
    | b :: rest =>
      { stack := rest,
        pktsRev := { b with showExt := true, hasTd := true,            -- l.580
                            eos := if eos then true else b.eos } :: pkts }  -- l.903-905
  else { stack := stack2, pktsRev := pkts }

/-- l.884-907 for the TU made of the entries `tu` (queue order, `frames = tu.length ≥ 1`). -/
def emitTU (st : Out) (tu : List Entry) : Out :=
  match (tu.map collect).reverse with
  | [] => st
  | last :: revPre => emitCore st last revPre

/-! ### the reorder queue with TU-granular release -/

structure Q where
  slots     : List (Option Entry)
  headIdx   : Nat
  out       : Out
  clobbered : Bool
deriving Repr

def slotAt (slots : List (Option Entry)) (i : Nat) : Option Entry :=
  match slots[i]? with
  | some x => x
  | none   => none

/-- `count_frames_in_next_tu` l.311-329: `fuel` = remaining iterations of the `do … while (i < D)`. -/
def countFrames (D : Nat) (slots : List (Option Entry)) (headIdx : Nat) : Nat → Nat → Nat
  | 0, i => i
  | fuel + 1, i =>
    match slotAt slots ((headIdx + i) % D) with
    | none => 0
    | some e => if e.shown then i + 1 else countFrames D slots headIdx fuel (i + 1)

/-- the `frames` entries `get_reorder_queue_entry(ctx, 0 … frames-1)`. -/
def takeTU (D : Nat) (slots : List (Option Entry)) (headIdx n : Nat) : List Entry :=
  (List.range n).filterMap (fun i => slotAt slots ((headIdx + i) % D))

/-- `release_frames` l.583-590: wrapper := NULL for entries 0 … frames-1. -/
def releaseSlots (D : Nat) (slots : List (Option Entry)) (headIdx n : Nat) : List (Option Entry) :=
  (List.range n).foldl (fun s i => s.set ((headIdx + i) % D) none) slots

def init (D : Nat) : Q :=
  { slots := List.replicate D none, headIdx := 0, out := { stack := [], pktsRev := [] }, clobbered := false }

def insert (D : Nat) (q : Q) (decodeOrder : Nat) (e : Entry) : Q :=
  { q with slots := q.slots.set (decodeOrder % D) (some e),
           clobbered := q.clobbered || (slotAt q.slots (decodeOrder % D)).isSome }

/-- l.883-909. `fuel` bounds the `while`; `D` iterations always suffice (each releases ≥ 1 entry). -/
def drain (D : Nat) : Nat → Q → Q
  | 0, q => q
  | fuel + 1, q =>
    let n := countFrames D q.slots q.headIdx D 0
    if n = 0 then q else
      drain D fuel { q with slots := releaseSlots D q.slots q.headIdx n,
                            headIdx := (q.headIdx + n) % D,                  -- l.591
                            out := emitTU q.out (takeTU D q.slots q.headIdx n) }

def stepE (D : Nat) (q : Q) (x : Nat × Entry) : Q := drain D D (insert D q x.1 x.2)

def runE (D : Nat) (arrivals : List (Nat × Entry)) : Q := arrivals.foldl (stepE D) (init D)

/-- Arrivals `(decode_order, frame)` in the order they reach the kernel. -/
def runQ (D : Nat) (term : Option Nat) (arrivals : List (Nat × Frame)) : Q :=
  runE D (arrivals.map (fun x => (x.1, mkEntry term x.1 x.2)))

/-- Posted output buffers (packets) in the order they are posted to the application. -/
def packets (q : Q) : List Buf := q.out.pktsRev.reverse

/-! ### sequential reference: frames consumed in decode order, TU after TU (no queue) -/

def seqAux : Out → List Entry → List Entry → Out × List Entry
  | st, cur, [] => (st, cur)
  | st, cur, e :: es =>
    if e.shown then seqAux (emitTU st (cur ++ [e])) [] es else seqAux st (cur ++ [e]) es

/-- frames in decode order paired with their decode_order -/
def indexed (fs : List Frame) : List (Nat × Frame) := (List.range fs.length).zip fs

def entriesOf (term : Option Nat) (fs : List Frame) : List Entry :=
  (indexed fs).map (fun x => mkEntry term x.1 x.2)

/-- Undisplayed stack and posted buffers after the entries `es` have been consumed in decode order. -/
def seqOut (es : List Entry) : Out := (seqAux { stack := [], pktsRev := [] } [] es).1

/-! ### specification side: what a well-formed GOP looks like (decidable; checked on real runs) -/

/-- Display-process simulation over decode order.  State: `c` = next display number, `pend` = display numbers
    of decoded-but-not-yet-displayed frames, `room` is checked against `REF_FRAMES`.
    * non-shown alt-ref: nothing (its display number is carried by the overlay, a later shown frame);
    * other non-shown frame: becomes pending (at most 8 pending);
    * shown frame: must be display number `c`; if it has a show-existing, the pending frame displayed next must
      be number `c+1` and be the smallest pending one. -/
def gopStep (st : Option (Nat × List Nat)) (f : Frame) : Option (Nat × List Nat) :=
  match st with
  | none => none
  | some (c, pend) =>
    if !f.shown then
      if f.alt then some (c, pend)
      else if pend.length < REF_FRAMES then some (c, f.disp :: pend) else none
    else if f.disp ≠ c then none
    else if !f.hse then some (c + 1, pend)
    else if (c + 1) ∈ pend ∧ pend.all (fun d => c + 1 ≤ d) then some (c + 2, pend.erase (c + 1))
    else none

def lastShown : List Frame → Bool
  | [] => true
  | [f] => f.shown
  | _ :: fs => lastShown fs

/-- `validGop fs N`: the decode-order list `fs` displays pictures `0, 1, …, N−1` in order, each exactly once,
    nothing is left pending, and the last decoded frame is a shown one. -/
def validGop (fs : List Frame) (N : Nat) : Bool :=
  lastShown fs && (fs.foldl gopStep (some (0, [])) == some (N, []))

/-- No more than `T` consecutive non-shown frames. -/
def hiddenRunsLe (T : Nat) : Nat → List Frame → Bool
  | _, [] => true
  | cur, f :: fs => if f.shown then hiddenRunsLe T 0 fs else decide (cur + 1 ≤ T) && hiddenRunsLe T (cur + 1) fs

end Packetize
