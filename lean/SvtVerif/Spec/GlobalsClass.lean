/-
  C17 — REVIEWED classification of every run-time writable object with static storage duration (hand-written).

  `Gen/Globals.lean` is generated from the object files and the LLVM IR of every translation unit; this file says,
  for every global that some function writes, which class it belongs to and WHICH functions were reviewed as its writers.
  `C17.globals_classified` (Props/C17.lean, from `inventory_classes` in Lemmas/GlobalsTable.lean) says that `classOf` classifies
  every global of the generated table: a new writable global, or a new writer of a reviewed one, makes it fail until a human has
  looked at it.

  Rules, in order:
   1. analysed, no writer, no writer through the pointer it holds, address never leaves the analysis  =>  writeOnceConstant
      (a table that merely lacks `const`).
   2. RTCD dispatch pointers: `.bss` objects of common_dsp_rtcd.c / aom_dsp_rtcd.c whose only writer is the RTCD set-up function
      => instanceDependent: set-up stores the C version and then overrides it per flag bit of THIS instance's `use_cpu_flags`
      (encoder) / the CPU's flags (decoder).  Harmless exactly if all admissible selections are extensionally equal (property C07).
   3. the table below, matched on (file, name); the global's writers (and writers through it) must be among the reviewed ones.
-/
import SvtVerif.Model.NonInterf

namespace SvtVerif.Spec.GlobalsClass
open SvtVerif.NonInterf

structure Entry where
  file : String
  name : String
  cls : Class
  writers : List String
  note : String

def fCommon (s : String) : String := "Source/Lib/Common/Codec/" ++ s
def fEnc (s : String) : String := "Source/Lib/Encoder/Codec/" ++ s
def fDec (s : String) : String := "Source/Lib/Decoder/Codec/" ++ s

def rtcdCommon : String := fCommon "common_dsp_rtcd.c"
def rtcdEnc : String := fEnc "aom_dsp_rtcd.c"

/-- every function that allocates through EB_MALLOC_DEC / EB_CREATE_* (EbDecMemInit.h: links the new entry into the global list and
    bumps the counters through the global pointers), the handle constructor, and svt_av1_dec_deinit, which walks and frees the list -/
def decAllocFns : List String :=
  ["check_add_tplmv_buf", "check_mt_support", "copy_recon", "dec_eb_recon_picture_buffer_desc_ctor", "dec_pic_mgr_init",
   "dec_system_resource_init", "init_dec_mod_ctxt", "init_lf_ctxt", "init_lr_ctxt", "init_main_frame_ctxt", "init_parse_context",
   "mvs_8x8_memory_alloc", "reallocate_parse_context_memory", "reallocate_parse_tile_data", "svt_av1_dec_deinit", "svt_dec_handle_ctor",
   "svt_destroy_mutex", "svt_destroy_semaphore", "svt_destroy_thread"]

open Class in
def table : List Entry := [
  -- ---------------------------------------------------------------- RTCD set-up
  ⟨rtcdCommon, "first_call_setup", writeOnceConstant, ["setup_common_rtcd_internal"],
    "set to EB_FALSE by every call; the racy read only enables a debug print (assert is compiled out)"⟩,
  ⟨rtcdEnc, "first_call_setup", writeOnceConstant, ["setup_rtcd_internal"], "as above"⟩,
  ⟨rtcdCommon, "svt_av1_highbd_dr_prediction_z2", instanceDependent,
    ["setup_common_rtcd_internal", "dec_init_intra_predictors_12b_internal"],
    "RTCD pointer; additionally forced to the C kernel, process-wide and for good, by any decoder instance that meets a 12-bit sequence header"⟩,
  -- ---------------------------------------------------------------- tables copied from RTCD pointers at init (same dependence on cpu flags)
  ⟨fCommon "EbInterPrediction.c", "convolve", instanceDependent, ["asm_set_convolve_asm_table"], "copies of RTCD pointers"⟩,
  ⟨fCommon "EbInterPrediction.c", "convolveHbd", instanceDependent, ["asm_set_convolve_hbd_asm_table"], "copies of RTCD pointers"⟩,
  ⟨fCommon "EbIntraPrediction.c", "dc_pred", instanceDependent, ["init_intra_predictors_internal"], "copies of RTCD pointers"⟩,
  ⟨fCommon "EbIntraPrediction.c", "dc_pred_high", instanceDependent, ["init_intra_predictors_internal"], "copies of RTCD pointers"⟩,
  ⟨fCommon "EbIntraPrediction.c", "eb_pred", instanceDependent, ["init_intra_predictors_internal"], "copies of RTCD pointers"⟩,
  ⟨fCommon "EbIntraPrediction.c", "pred_high", instanceDependent, ["init_intra_predictors_internal"], "copies of RTCD pointers"⟩,
  ⟨fCommon "EbIntraPrediction.c", "dc_pred_c", writeOnceConstant, ["init_intra_dc_predictors_c_internal"], "C kernels only"⟩,
  ⟨fCommon "EbIntraPrediction.c", "highbd_dc_pred_c", writeOnceConstant, ["init_intra_dc_predictors_c_internal"], "C kernels only"⟩,
  ⟨fEnc "av1me.c", "mefn_ptr", instanceDependent, ["init_fn_ptr"], "copies of RTCD pointers"⟩,
  ⟨fDec "EbDecLF.c", "lbd_horz_filter_tap", instanceDependent, ["set_lbd_lf_filter_tap_functions"], "copies of RTCD pointers"⟩,
  ⟨fDec "EbDecLF.c", "lbd_vert_filter_tap", instanceDependent, ["set_lbd_lf_filter_tap_functions"], "copies of RTCD pointers"⟩,
  ⟨fDec "EbDecLF.c", "hbd_horz_filter_tap", instanceDependent, ["set_hbd_lf_filter_tap_functions"], "copies of RTCD pointers"⟩,
  ⟨fDec "EbDecLF.c", "hbd_vert_filter_tap", instanceDependent, ["set_hbd_lf_filter_tap_functions"], "copies of RTCD pointers"⟩,
  -- ---------------------------------------------------------------- wedge masks (svt_av1_init_wedge_masks, every enc/dec init)
  ⟨fCommon "EbInterPrediction.c", "wedge_mask_obl", writeOnceConstant, ["init_wedge_primary_masks", "shift_copy"],
    "every byte is stored with its final value (copies of const rows); idempotent"⟩,
  ⟨fCommon "EbInterPrediction.c", "wedge_mask_buf", writeOnceConstant, [],
    "written through aom_convolve_copy_c from wedge_mask_obl, final values only; idempotent"⟩,
  ⟨fCommon "EbInterPrediction.c", "wedge_masks", transientRebuild, ["init_wedge_masks"],
    "memset(wedge_masks, 0) and then refilled: for the duration of the refill every mask pointer another instance may fetch is NULL"⟩,
  -- ---------------------------------------------------------------- block geometry (build_blk_geom(sb_size == 128), every encoder init)
  ⟨fCommon "EbUtility.c", "max_sb", instanceDependent, ["build_blk_geom"], "64 / 128 from THIS instance's super_block_size"⟩,
  ⟨fCommon "EbUtility.c", "max_depth", instanceDependent, ["build_blk_geom"], "5 / 6"⟩,
  ⟨fCommon "EbUtility.c", "max_num_active_blocks", instanceDependent, ["build_blk_geom"], "4421 / 21000-odd"⟩,
  ⟨fCommon "EbUtility.c", "blk_geom_dps", instanceDependent, ["depth_scan_all_blks", "finish_depth_scan_all_blks"], "rebuilt for this SB size"⟩,
  ⟨fCommon "EbUtility.c", "blk_geom_mds", instanceDependent, ["md_scan_all_blks", "log_redundancy_similarity"],
    "rebuilt for this SB size; log_redundancy_similarity also resets similar/redund/list sizes to 0 before recounting (transient even for equal SB sizes)"⟩,
  -- ---------------------------------------------------------------- encoder handle
  ⟨"Source/Lib/Encoder/Globals/EbEncHandle.c", "lp_group", instanceDependent,
    ["svt_av1_enc_init_handle", "init_thread_management_params", "svt_av1_enc_deinit_handle"],
    "allocated by the first init_handle, memset + refilled by every init_handle, FREED and set to NULL by every deinit_handle; read by svt_av1_enc_init when unpin == 0"⟩,
  ⟨"Source/Lib/Encoder/Globals/EbEncHandle.c", "num_groups", writeOnceConstant, ["init_thread_management_params"],
    "max physical id + 1 of /proc/cpuinfo; monotone, same for every instance"⟩,
  ⟨"Source/Lib/Encoder/Globals/EbEncHandle.c", "group_affinity", instanceDependent, ["svt_set_thread_management_parameters"],
    "CPU set from THIS instance's logical_processors / target_socket; applied by EB_CREATE_THREAD to the threads of whichever instance creates threads next (also unpin == 1 ones)"⟩,
  ⟨"Source/Lib/Encoder/Globals/EbEncHandle.c", "enc_dec_ports", instanceDependent, ["svt_av1_enc_init"],
    "process counts of THIS instance, read back by enc_dec_port_lookup later in the same svt_av1_enc_init"⟩,
  ⟨"Source/Lib/Encoder/Globals/EbEncHandle.c", "rate_control_ports", instanceDependent, ["svt_av1_enc_init"], "as enc_dec_ports"⟩,
  -- ---------------------------------------------------------------- encoder tables
  ⟨fEnc "EbModeDecision.c", "sad_per_bit16lut_8", writeOnceConstant, ["init_me_luts_bd"], "function of the index only; final values"⟩,
  ⟨fEnc "EbModeDecision.c", "sad_per_bit_lut_10", writeOnceConstant, ["init_me_luts_bd"], "function of the index only; final values"⟩,
  ⟨fEnc "EbResize.c", "seed", instanceDependent, ["lcg_rand16"], "one PRNG state for the random super-res mode of all instances"⟩,
  -- ---------------------------------------------------------------- film grain synthesis (encoder recon output and decoder output)
  ⟨fCommon "grainSynthesis.c", "random_register", instanceDependent, ["svt_av1_add_film_grain_run", "init_random_generator", "get_random_number"], "per picture, no lock"⟩,
  ⟨fCommon "grainSynthesis.c", "grain_min", instanceDependent, ["svt_av1_add_film_grain_run"], "from the bit depth of the picture being processed"⟩,
  ⟨fCommon "grainSynthesis.c", "grain_max", instanceDependent, ["svt_av1_add_film_grain_run"], "from the bit depth of the picture being processed"⟩,
  ⟨fCommon "grainSynthesis.c", "luma_subblock_size_x", instanceDependent, ["svt_av1_add_film_grain_run"], "per picture"⟩,
  ⟨fCommon "grainSynthesis.c", "luma_subblock_size_y", instanceDependent, ["svt_av1_add_film_grain_run"], "per picture"⟩,
  ⟨fCommon "grainSynthesis.c", "chroma_subblock_size_x", instanceDependent, ["svt_av1_add_film_grain_run"], "per picture (subsampling)"⟩,
  ⟨fCommon "grainSynthesis.c", "chroma_subblock_size_y", instanceDependent, ["svt_av1_add_film_grain_run"], "per picture (subsampling)"⟩,
  ⟨fCommon "grainSynthesis.c", "scaling_lut_y", instanceDependent, ["init_arrays", "init_scaling_function"], "per picture film-grain parameters"⟩,
  ⟨fCommon "grainSynthesis.c", "scaling_lut_cb", instanceDependent, ["init_arrays", "init_scaling_function"], "per picture film-grain parameters"⟩,
  ⟨fCommon "grainSynthesis.c", "scaling_lut_cr", instanceDependent, ["init_arrays", "init_scaling_function"], "per picture film-grain parameters"⟩,
  -- ---------------------------------------------------------------- decoder handle: ONE allocation list for all decoder handles
  ⟨fDec "EbDecHandle.c", "svt_dec_memory_map", instanceDependent,
    decAllocFns,
    "list head of the handle whose constructor ran last; every EB_MALLOC_DEC of every handle links into it; svt_av1_dec_deinit walks it"⟩,
  ⟨fDec "EbDecHandle.c", "svt_dec_memory_map_index", instanceDependent,
    decAllocFns,
    "points INTO the handle constructed last"⟩,
  ⟨fDec "EbDecHandle.c", "svt_dec_total_lib_memory", instanceDependent,
    decAllocFns,
    "points INTO the handle constructed last"⟩,
  ⟨fDec "EbDecHandle.c", "svt_dec_lib_malloc_count", instanceDependent,
    decAllocFns,
    "reset by every handle constructor, incremented without a lock; a statistic that nothing reads"⟩,
  ⟨fDec "EbDecHandle.c", "memory_map_start_address", instanceDependent, ["svt_dec_handle_ctor", "dec_system_resource_init"],
    "resolution-change bookkeeping of whichever handle ran last"⟩,
  ⟨fDec "EbDecHandle.c", "memory_map_end_address", instanceDependent, ["svt_dec_handle_ctor", "dec_system_resource_init"],
    "resolution-change bookkeeping of whichever handle ran last"⟩,
  -- ---------------------------------------------------------------- logging, cpu detection, verification hooks
  ⟨fCommon "EbLog.c", "g_log_level", writeOnceConstant, ["svt_log_set_level"], "from environment SVT_LOG: the same for every instance of the process"⟩,
  ⟨fCommon "EbLog.c", "g_log_file", writeOnceConstant, ["svt_log_set_log_file", "svt_log"], "from environment SVT_LOG_FILE / stderr"⟩,
  ⟨"third_party/cpuinfo/src/init.c", "init_guard", lockedCounter, ["cpuinfo_initialize"], "pthread_once control word"⟩,
  ⟨"third_party/cpuinfo/src/x86/x86_init.c", "cpuinfo_isa", writeOnceConstant, ["cpuinfo_x86_init_processor"], "CPUID, written inside pthread_once"⟩,
  ⟨fCommon "EbThreads.c", "svt_verif_perturb_state", writeOnceConstant, ["svt_verif_perturb"], "SVT_AV1_VERIF hook: from environment SVT_VERIF_PERTURB"⟩,
  ⟨fCommon "EbThreads.c", "svt_verif_perturb_seed", writeOnceConstant, ["svt_verif_perturb"], "hook: from the environment"⟩,
  ⟨fCommon "EbThreads.c", "svt_verif_perturb_pct", writeOnceConstant, ["svt_verif_perturb"], "hook: from the environment"⟩,
  ⟨fCommon "EbThreads.c", "svt_verif_perturb_max_us", writeOnceConstant, ["svt_verif_perturb"], "hook: from the environment"⟩,
  ⟨fCommon "EbThreads.c", "svt_verif_perturb_next_tid", lockedCounter, ["svt_verif_perturb"], "hook: __atomic_add_fetch only; feeds sleep lengths, never coding decisions"⟩,
  ⟨fCommon "EbThreads.c", "s", lockedCounter, ["svt_verif_perturb"], "hook: thread-local PRNG state (one copy per thread)"⟩,
  ⟨fCommon "EbMalloc.c", "env_read", writeOnceConstant, ["svt_verif_fail_here"], "SVT_AV1_VERIF hook (C16): set to 1 once"⟩,
  ⟨fCommon "EbMalloc.c", "svt_verif_fail_at", writeOnceConstant, ["svt_verif_fail_here"], "hook: from environment SVT_VERIF_FAIL_AT (0 = inert)"⟩,
  ⟨fCommon "EbMalloc.c", "svt_verif_alloc_count", lockedCounter, ["svt_verif_fail_here"],
    "hook: __sync_add_and_fetch only; compared with svt_verif_fail_at, which is 0 unless a test asks for an allocation failure"⟩,
  ⟨fCommon "EbMalloc.c", "svt_verif_fired", lockedCounter, ["svt_verif_fail_here"], "hook: __sync_add_and_fetch only; read by test harnesses"⟩,
  ⟨fCommon "EbMalloc.c", "svt_verif_fail_file", lockedCounter, ["svt_verif_fail_here"], "hook: diagnostic record written when the injected failure fires; never read by the library"⟩,
  ⟨fCommon "EbMalloc.c", "svt_verif_fail_line", lockedCounter, ["svt_verif_fail_here"], "hook: as svt_verif_fail_file"⟩,
  ⟨fDec "EbDecParseObu.c", "svt_av1_verif_obu_trace", writeOnceConstant, ["decode_multiple_obu", "svt_av1_verif_obu_read"],
    "SVT_AV1_VERIF hook: NULL unless a test harness points it at its own buffer; the library only writes through it"⟩,
  ⟨fDec "EbDecParseBlock.c", "svt_verif_toolcount", lockedCounter, ["read_cdef", "read_lr_unit", "svt_av1_verif_dec_toolcount", "svt_verif_count_block"],
    "SVT_AV1_VERIF hook (ee172ae): per-block tool-usage counters, atomic adds only; read and reset only through the accessor called by test harnesses, never by decoding code"⟩
]

def subset (xs ys : List String) : Bool := xs.all (fun x => ys.contains x)

/-- rule 1 -/
def neverWritten (g : Global) : Bool :=
  g.analysed && g.writers.isEmpty && g.derefWriters.isEmpty && g.escapes.isEmpty

/-- rule 2 -/
def isRtcdPointer (g : Global) : Bool :=
  g.sect == ".bss" && g.derefWriters.isEmpty &&
    ((g.file == rtcdCommon && g.writers == ["setup_common_rtcd_internal"]) ||
     (g.file == rtcdEnc && g.writers == ["setup_rtcd_internal"]))

def lookup (g : Global) : Option Entry := table.find? (fun e => e.name == g.name && e.file == g.file)

def classOf (g : Global) : Class :=
  if neverWritten g then .writeOnceConstant
  else if isRtcdPointer g then .instanceDependent
  else match lookup g with
    | some e => if g.analysed && subset g.writers e.writers && subset g.derefWriters e.writers then e.cls else .unclassified
    | none => .unclassified

def harmless (c : Class) : Bool := c == .writeOnceConstant || c == .lockedCounter
def harmful (c : Class) : Bool := c == .instanceDependent || c == .transientRebuild

end SvtVerif.Spec.GlobalsClass
