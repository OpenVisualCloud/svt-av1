/-
  HAND-WRITTEN specification of the domain accepted by svt_av1_enc_set_parameter, one conjunct per validation rule
  (numbered as the rules appear in verify_settings).  Sources: Docs/svt-av1_encoder_user_guide.md (parameter tables),
  Source/API/EbSvtAv1Enc.h member comments and, where neither documents a formula (default intra period, default and
  capped look-ahead, HME area sums, the manual prediction structure), the C code of EbEncHandle.c read by hand (the
  source lines are cited at each definition).  Where code and documentation disagree the conjunct states what the CODE
  enforces and the disagreement is a named deviation (theorems `dev_*` in Props/C12.lean, DOC_DEVIATIONS in checks/c12.py).
  Nothing in this file refers to a generated rule or helper: only the generated *structures* `Cfg`, `Scs`, `PredEntry`
  (the members of the C structures) are used.  checks/c12.py enforces that textually.
-/
import SvtVerif.Gen.Config
namespace Spec.ConfigDomain
open Gen.Config

/-! ## C integer conversions (plain `Int` arithmetic; the 2^32 wrap is explicit) -/

/-- value of a `uint32_t` that holds the low 32 bits of `x` -/
def u32 (x : Int) : Int := x % 4294967296

/-- value of an `int32_t` that holds the low 32 bits of `x` (two's complement) -/
def i32 (x : Int) : Int :=
  if x % 4294967296 < 2147483648 then x % 4294967296 else x % 4294967296 - 4294967296

/-- `a << k` before it is narrowed to 32 bits: from k = 32 on no bit of `a` survives the narrowing
    (so the power is only ever built for k < 32) -/
def shl (a k : Int) : Int := if k < 32 then a * 2 ^ k.toNat else 0

/-! ## Frame rate -/

/-- The frame rate `verify_settings` sees.  EbEncHandle.c:2409-2410: when FrameRateNumerator and FrameRateDenominator
    are both non-zero the Q16 rate is `((num << 8) / den) << 8`, every step in `uint32_t` arithmetic (both shifts can
    drop high bits); otherwise it is the member FrameRate as given. -/
def frameRate (c : Cfg) : Int :=
  if c.frame_rate_numerator ≠ 0 ∧ c.frame_rate_denominator ≠ 0 then
    u32 (u32 (c.frame_rate_numerator * 256) / c.frame_rate_denominator * 256)
  else c.frame_rate

/-- Frames per second as an integer.  User guide l.150: "If the number is less than 1000, the input frame rate is an
    integer number [...], else the input number is in Q16 format" (EbEncHandle.c:1994-1996, 2038-2040). -/
def fpsOf (fr : Int) : Int := if fr < 1000 then fr else fr / 65536

/-! ## Intra period -/

/-- EbEncHandle.c:1989-2010 `compute_default_intra_period`: "Sets the default intra period the closest possible to
    1 second without breaking the minigop": with mini-GOP size m = 2^HierarchicalLevels, `lo`/`hi` are the multiples of
    m just below (or at) and just above fps; the nearer one is taken (`hi` on a tie), minus one when IntraRefreshType = 1.
    For HierarchicalLevels ≥ 31 `1 << levels` no longer fits an `int` (the shift is undefined in C); the second branch
    transcribes the function with two's-complement wrap-around at every `int` operation, division truncating (and a
    division by the resulting 0 yielding 0). -/
def defaultIntraPeriod (fr hl refresh : Int) : Int :=
  let fps := fpsOf fr
  if hl ≤ 30 then
    let m : Int := 2 ^ hl.toNat
    let lo := fps / m * m
    let hi := lo + m
    (if hi - fps > fps - lo then lo else hi) - (if refresh = 1 then 1 else 0)
  else
    let m := i32 (shl 1 hl)
    let lo := i32 (i32 (Int.tdiv fps m) * m)
    let hi := i32 (i32 (Int.tdiv (i32 (fps + m)) m) * m)
    let abs := fun (x : Int) => if i32 x < 0 then i32 (- i32 x) else i32 x
    i32 ((if abs (fps - hi) > abs (fps - lo) then lo else hi) - (if refresh = 1 then 1 else 0))

/-- The intra period `verify_settings` sees (EbEncHandle.c:2412-2413): -2 is replaced by the default. -/
def intraPeriod (c : Cfg) : Int :=
  if c.intra_period_length = -2 then defaultIntraPeriod (frameRate c) c.hierarchical_levels c.intra_refresh_type
  else c.intra_period_length

/-! ## Look-ahead distance -/

/-- `(2 << HierarchicalLevels) + 1` as a `uint32_t` (EbEncHandle.c:2025, 2041): two mini-GOPs plus one; from 31 levels on
    the shifted 2 has left the 32 bits. -/
def maxCqpLookAhead (hl : Int) : Int := (if hl < 31 then 2 ^ (hl.toNat + 1) else 0) + 1

/-- EbEncHandle.c:2021-2031 `compute_default_look_ahead` (LookAheadDistance = (uint32_t)~0 means "default"): without rate
    control, or without a non-negative intra period, two mini-GOPs + 1 (0 when enable_tpl_la = 1: TPL_LAD is 0); else the
    intra period. -/
def defaultLookAhead (rc ip tpl hl : Int) : Int :=
  if rc = 0 ∨ ip < 0 then (if tpl = 1 then 0 else maxCqpLookAhead hl) else ip

/-- EbEncHandle.c:2033-2055 `cap_look_ahead_distance`: capped by two mini-GOPs + 1 in CQP mode, by 2 seconds otherwise,
    and by MAX_LAD = 120 always. -/
def cappedLookAhead (rc lad fr hl : Int) : Int :=
  min (if rc = 0 then min lad (maxCqpLookAhead hl) else min lad (fpsOf fr * 2)) 120

/-- The look-ahead distance `verify_settings` sees (EbEncHandle.c:2417-2429): default or capped value, then forced to 0
    when enable_tpl_la is set and the encoder is in CQP mode or reads first-pass statistics. -/
def lookAhead (c : Cfg) : Int :=
  let l := if c.look_ahead_distance = 4294967295 then
      defaultLookAhead c.rate_control_mode (intraPeriod c) c.enable_tpl_la c.hierarchical_levels
    else cappedLookAhead c.rate_control_mode c.look_ahead_distance (frameRate c) c.hierarchical_levels
  if c.enable_tpl_la ≠ 0 ∧ 0 < l ∧ (c.rate_control_mode = 0 ∨ c.rc_twopass_stats_in_sz ≠ 0) then 0 else l

/-! ## HME search areas -/

/-- the sum of the first `n` cells in `uint32_t` arithmetic (EbEncHandle.c:2484-2485, 2500-2501) -/
def hmeSum (n : Int) (a : List Int) : Int := u32 (a.take n.toNat).sum

/-- an array of the sequence control set after the first `n` cells were copied from the caller's array (EbEncHandle.c:2276-2288) -/
def copied (n : Int) (src dst : List Int) : List Int := src.take n.toNat ++ dst.drop n.toNat

/-! ## Colour format -/

/-- EbEncHandle.c:2364-2368: 4:0:0 (0) is replaced by 4:2:0 (1) before validation -/
def colorFormat (c : Cfg) : Int := if c.encoder_color_format = 0 then 1 else c.encoder_color_format

/-! ## Manual prediction structure (EbEncHandle.c:2973-3016; the only description is the error texts) -/

/-- Entry number `i` (0-based; it is picture `i + 1` of the mini-GOP) of a structure of `n` entries:
    * "Invalid decode order for manual prediction structure [0 - 31]", "Invalid temporal layer index [...] [0 - 31]";
    * "all ref frames in list1 should not exceed minigop end": picture `i + 1 - ref` is at most `n`; the difference is an
      `int32_t` one, and only the first three cells are looked at (the code clears the fourth before the test, l.2980);
    * "only forward frames can be in list0": no negative cell;
    * "there should be at least one frame within minigop": some non-zero list0 cell is at most `i + 1`. -/
def validEntry (n : Int) (i : Nat) (e : PredEntry) : Prop :=
  e.decode_order < 32 ∧ e.temporal_layer_index < 32 ∧
  (∀ j, j < 3 → i32 ((i : Int) + 1 - e.ref_list1.getD j 0) ≤ n) ∧
  (∀ j, j < 4 → 0 ≤ e.ref_list0.getD j 0) ∧
  (∃ j, j < 4 ∧ 1 ≤ e.ref_list0.getD j 0 ∧ e.ref_list0.getD j 0 ≤ (i : Int) + 1)

instance (n : Int) (i : Nat) (e : PredEntry) : Decidable (validEntry n i e) := by
  unfold validEntry; infer_instance

/-- "Invalid manual prediction structure entry number [1 - 32]" (only the upper bound is tested), and every one of the
    first `n` entries is valid. -/
def validManualPredStruct (n : Int) (es : List PredEntry) : Prop :=
  n ≤ 32 ∧ ∀ i, i < n.toNat → validEntry n i (es.getD i default)

instance (n : Int) (es : List PredEntry) : Decidable (validManualPredStruct n es) := by
  unfold validManualPredStruct; infer_instance

structure CodeDomain (s : Scs) (c : Cfg) : Prop where
  /-- EncoderMode must be in the range of [0-%d] -/
  d0 : c.enc_mode ≤ 8
  /-- ExtBlockFlag must be [0-1] -/
  d1 : c.ext_block_flag ≤ 1
  /-- Source Width must be at least 64 -/
  d2 : 64 ≤ c.source_width % 65536
  /-- Source Width must be at least 64 (the text the C code logs for the height test, EbEncHandle.c:2537) -/
  d3 : 64 ≤ c.source_height % 65536
  /-- Pred Structure must be [2] -/
  d4 : True
  /-- Only multiple of 8 width is supported for compressed 10-bit inputs -/
  d5 : ¬ (c.source_width % 65536 % 8 ≠ 0 ∧ c.compressed_ten_bit_format = 1)
  /-- Source Width must be even for YUV_420 colorspace -/
  d6 : c.source_width % 65536 % 2 = 0
  /-- Source Height must be even for YUV_420 colorspace -/
  d7 : c.source_height % 65536 % 2 = 0
  /-- Source Width must be less than 4096 -/
  d8 : c.source_width % 65536 ≤ 4096
  /-- Source Height must be less than 2160 -/
  d9 : c.source_height % 65536 ≤ 2160
  /-- QP must be [0 - %d] -/
  d10 : c.qp ≤ 63
  /-- Hierarchical Levels supported [0-5] -/
  d11 : (if c.enable_manual_pred_struct ≠ 0 then True else c.hierarchical_levels ≤ 5)
  /-- The intra period must be [-2, 2^31-2] (user guide l.223 IntraPeriod `[-2 - 2^31-2]`; EbEncHandle.c:2571, only tested in CQP mode; -2 stands for the default intra period) -/
  d12 : c.rate_control_mode = 0 → -2 ≤ intraPeriod c ∧ intraPeriod c ≤ 2147483646
  /-- user guide l.223: `if RateControlMode >= 1 intra-period limited to [-2, 255]` (EbEncHandle.c:2576) -/
  d13 : 1 ≤ c.rate_control_mode → -2 ≤ intraPeriod c ∧ intraPeriod c ≤ 255
  /-- Invalid intra Refresh Type [1-2] -/
  d14 : 1 ≤ c.intra_refresh_type ∧ c.intra_refresh_type ≤ 2
  /-- Invalid LoopFilterDisable. LoopFilterDisable must be [0 - 1] -/
  d15 : c.disable_dlf_flag ≤ 1
  /-- invalid use_default_me_hme. use_default_me_hme must be [0 - 1] -/
  d16 : c.use_default_me_hme ≤ 1
  /-- invalid HME. HME must be [0 - 1] -/
  d17 : c.enable_hme_flag ≤ 1
  /-- invalid enable HMELevel0. HMELevel0 must be [0 - 1] -/
  d18 : c.enable_hme_level0_flag ≤ 1
  /-- invalid enable HMELevel1. HMELevel1 must be [0 - 1] -/
  d19 : c.enable_hme_level1_flag ≤ 1
  /-- invalid enable HMELevel2. HMELevel2 must be [0 - 1] -/
  d20 : c.enable_hme_level2_flag ≤ 1
  /-- Invalid search_area_width. search_area_width must be [1 - 480] -/
  d21 : c.search_area_width ≤ 480 ∧ c.search_area_width ≠ 0
  /-- Invalid search_area_height. search_area_height must be [1 - 480] -/
  d22 : c.search_area_height ≤ 480 ∧ c.search_area_height ≠ 0
  /-- Only rate control mode 0 and 1 are supported for 2-pass -/
  d23 : c.rate_control_mode ≤ 1 ∨ (c.rc_firstpass_stats_out = 0 ∧ c.rc_twopass_stats_in_buf = 0)
  /-- Invalid number_hme_search_region_in_width. number_hme_search_region_in_width must be [1 - %d] -/
  d24 : c.enable_hme_flag ≠ 0 → (c.number_hme_search_region_in_width ≤ 2 ∧ c.number_hme_search_region_in_width ≠ 0)
  /-- Invalid number_hme_search_region_in_height. number_hme_search_region_in_height must be [1 - %d] -/
  d25 : c.enable_hme_flag ≠ 0 → (c.number_hme_search_region_in_height ≤ 2 ∧ c.number_hme_search_region_in_height ≠ 0)
  /-- Invalid hme_level0_total_search_area_height. hme_level0_total_search_area_height must be [1 - 480] -/
  d26 : c.enable_hme_flag ≠ 0 → (c.hme_level0_total_search_area_height ≤ 480 ∧ c.hme_level0_total_search_area_height ≠ 0)
  /-- Invalid hme_level0_total_search_area_width. hme_level0_total_search_area_width must be [1 - 480] -/
  d27 : c.enable_hme_flag ≠ 0 → (c.hme_level0_total_search_area_width ≤ 480 ∧ c.hme_level0_total_search_area_width ≠ 0)
  /-- `Summed values of HME area does not equal the total area` (EbEncHandle.c:2649, 2478-2491): level-0 heights of the NumberHmeSearchRegionInHeight regions add up to HmeLevel0TotalSearchAreaHeight -/
  d28 : c.enable_hme_flag ≠ 0 → hmeSum c.number_hme_search_region_in_height c.hme_level0_search_area_in_height_array = c.hme_level0_total_search_area_height
  /-- EbEncHandle.c:2651: level-0 widths of the NumberHmeSearchRegionInWidth regions add up to HmeLevel0TotalSearchAreaWidth -/
  d29 : c.enable_hme_flag ≠ 0 → hmeSum c.number_hme_search_region_in_width c.hme_level0_search_area_in_width_array = c.hme_level0_total_search_area_width
  /-- `Invalid HME Total Search Area. Must be [1 - 480]` (EbEncHandle.c:2653, 2494-2509): level-1 widths -/
  d30 : c.enable_hme_flag ≠ 0 → 1 ≤ hmeSum c.number_hme_search_region_in_width c.hme_level1_search_area_in_width_array ∧ hmeSum c.number_hme_search_region_in_width c.hme_level1_search_area_in_width_array ≤ 480
  /-- EbEncHandle.c:2655: level-1 HEIGHTS, but the code sums NumberHmeSearchRegionInWIDTH cells of the array in the sequence control set, of which only NumberHmeSearchRegionInHeight were copied from the caller (EbEncHandle.c:2283-2288) -/
  d31 : c.enable_hme_flag ≠ 0 → 1 ≤ hmeSum c.number_hme_search_region_in_width (copied c.number_hme_search_region_in_height c.hme_level1_search_area_in_height_array s.static_config_hme_level1_search_area_in_height_array) ∧ hmeSum c.number_hme_search_region_in_width (copied c.number_hme_search_region_in_height c.hme_level1_search_area_in_height_array s.static_config_hme_level1_search_area_in_height_array) ≤ 480
  /-- EbEncHandle.c:2657: level-2 widths, total in [1 - 480] -/
  d32 : c.enable_hme_flag ≠ 0 → 1 ≤ hmeSum c.number_hme_search_region_in_width c.hme_level2_search_area_in_width_array ∧ hmeSum c.number_hme_search_region_in_width c.hme_level2_search_area_in_width_array ≤ 480
  /-- EbEncHandle.c:2659: level-2 HEIGHTS summed over the WIDTH region count (same quirk as for level 1) -/
  d33 : c.enable_hme_flag ≠ 0 → 1 ≤ hmeSum c.number_hme_search_region_in_width (copied c.number_hme_search_region_in_height c.hme_level2_search_area_in_height_array s.static_config_hme_level2_search_area_in_height_array) ∧ hmeSum c.number_hme_search_region_in_width (copied c.number_hme_search_region_in_height c.hme_level2_search_area_in_height_array s.static_config_hme_level2_search_area_in_height_array) ≤ 480
  /-- The maximum allowed profile value is 2 -/
  d34 : c.profile ≤ 2
  /-- user guide l.150 `[Max allowed is 240 fps]`; EbEncHandle.c:2669 compares the Q16 rate with 240 << 16 -/
  d35 : frameRate c ≤ 15728640
  /-- `The frame rate should be greater than 0 fps` (EbEncHandle.c:2674) -/
  d36 : frameRate c ≠ 0
  /-- The rate control mode must be [0 - 2] -/
  d37 : c.rate_control_mode ≤ 2
  /-- `The rate control mode 2/3 LAD must be equal to intra_period` (EbEncHandle.c:2683; user guide l.233) -/
  d38 : (c.rate_control_mode = 2 ∨ c.rate_control_mode = 3) → 0 ≤ intraPeriod c → lookAhead c = intraPeriod c
  /-- user guide l.233 LookAheadDistance `[0 - 120]`; EbEncHandle.c:2687 (tested after the defaulting/capping of copy_api_from_app) -/
  d39 : lookAhead c ≤ 120 ∨ lookAhead c = 4294967295
  /-- Log2Tile rows/cols must be [0 - 6] -/
  d40 : c.tile_rows % 4294967296 ≤ 6 ∧ c.tile_columns % 4294967296 ≤ 6
  /-- `MaxTiles is 128 and MaxTileCols is 16 (Annex A.3)` (EbEncHandle.c:2696): 2^rows * 2^cols ≤ 128 and 2^cols ≤ 16, for log2 values already in [0, 6] (d40) -/
  d41 : c.tile_columns ≤ 4 ∧ c.tile_rows + c.tile_columns ≤ 7
  /-- Invalid Unrestricted Motion Vector flag [0 - 1] -/
  d42 : c.unrestricted_motion_vector ≤ 1
  /-- Scene change detection is currently not supported -/
  d43 : c.scene_change_detection = 0
  /-- MaxQpAllowed must be [0 - %d] -/
  d44 : (if c.rate_control_mode ≠ 0 then c.max_qp_allowed ≤ 63 ∧ c.min_qp_allowed < 63 ∧ c.min_qp_allowed ≤ c.max_qp_allowed else True)
  /-- Invalid StatReport. StatReport must be [0 - 1] -/
  d45 : c.stat_report ≤ 1
  /-- Invalid HighDynamicRangeInput. HighDynamicRangeInput must be [0 - 1] -/
  d46 : c.high_dynamic_range_input ≤ 1
  /-- Invalid screen_content_mode. screen_content_mode must be [0 - 2] -/
  d47 : c.screen_content_mode ≤ 2
  /-- Invalid intraBC mode [0-3, -1 for default], your input: %i -/
  d48 : -1 ≤ c.intrabc_mode ∧ c.intrabc_mode ≤ 3
  /-- The intra BC feature is only available when screen_content_mode is set to 1 -/
  d49 : c.intrabc_mode = -1 ∨ c.screen_content_mode = 1
  /-- Invalid enable_adaptive_quantization. enable_adaptive_quantization must be [0-2] -/
  d50 : c.enable_adaptive_quantization ≤ 2
  /-- Encoder Bit Depth shall be only 8 or 10 -/
  d51 : c.encoder_bit_depth = 8 ∨ c.encoder_bit_depth = 10
  /-- The encoder bit depth shall be equal to 8 or 10 for Main/High Profile -/
  d52 : ¬ ((c.profile = 0 ∨ c.profile = 1) ∧ 10 < c.encoder_bit_depth)
  /-- Only support 420 now -/
  d53 : c.encoder_color_format = 0 ∨ c.encoder_color_format = 1
  /-- `Non 420 color format requires profile 1 or 2` (EbEncHandle.c:2771; 4:0:0 has been turned into 4:2:0 by then) -/
  d54 : c.profile = 0 → colorFormat c ≤ 1
  /-- `Profile 1 requires 4:4:4 color format` (EbEncHandle.c:2776) -/
  d55 : c.profile = 1 → colorFormat c = 3
  /-- `Profile 2 bit-depth < 10 requires 4:2:2 color format` (EbEncHandle.c:2781; the test is bit depth ≤ 10) -/
  d56 : c.profile = 2 ∧ c.encoder_bit_depth ≤ 10 → colorFormat c = 2
  /-- Compressed ten bit format is not supported in this version -/
  d57 : c.compressed_ten_bit_format = 0
  /-- Invalid Speed Control flag [0 - 1] -/
  d58 : c.speed_control_flag ≤ 1
  /-- `param '--asm' have invalid value` (EbEncHandle.c:2797; EbSvtAv1.h:319 CPU_FLAGS_INVALID = the top bit of the 64-bit flag word) -/
  d59 : c.use_cpu_flags % 18446744073709551616 < 9223372036854775808
  /-- Invalid target_socket. target_socket must be [-1 - 1] -/
  d60 : c.target_socket = -1 ∨ c.target_socket = 0 ∨ c.target_socket = 1
  /-- invalid altref-strength, should be in the range [0 - %d] -/
  d61 : c.altref_strength ≤ 6
  /-- invalid altref-nframes, should be in the range [0 - %d] -/
  d62 : c.altref_nframes ≤ 13
  /-- Invalid warped motion flag [0/1, -1], your input: %d -/
  d63 : c.enable_warped_motion = 0 ∨ c.enable_warped_motion = 1 ∨ c.enable_warped_motion = -1
  /-- Invalid global motion flag [0 - 1], your input: %d -/
  d64 : c.enable_global_motion = 0 ∨ c.enable_global_motion = 1
  /-- Invalid OBMC flag [-1, 0, 1, 2, 3], your input: %d -/
  d65 : -1 ≤ c.obmc_level ∧ c.obmc_level ≤ 3
  /-- Invalid Filter Intra flag [0 - 1], your input: %d -/
  d66 : -1 ≤ c.filter_intra_level ∧ c.filter_intra_level ≤ 1
  /-- Invalid Filter Intra flag [0/1, -1], your input: %d -/
  d67 : c.enable_intra_edge_filter = 0 ∨ c.enable_intra_edge_filter = 1 ∨ c.enable_intra_edge_filter = -1
  /-- Invalid pic_based_rate_est [0/1, -1], your input: %d -/
  d68 : 1 < c.logical_processors ∨ c.pic_based_rate_est = 0 ∨ c.pic_based_rate_est = 1 ∨ c.pic_based_rate_est = -1
  /-- `Invalid HBD mode decision flag [-1 - 2]` (EbEncHandle.c:2854; with an 8-bit encoder the member is replaced by 0 first, EbEncHandle.c:2322, i.e. not validated) -/
  d69 : 8 < c.encoder_bit_depth → -1 ≤ c.enable_hbd_mode_decision ∧ c.enable_hbd_mode_decision ≤ 2
  /-- Invalid Palette Mode [0 .. 6], your input: %i -/
  d70 : -1 ≤ c.palette_level ∧ c.palette_level ≤ 6
  /-- Invalid RDOQ parameter [-1, 0, 1], your input: %i -/
  d71 : c.rdoq_level = 0 ∨ c.rdoq_level = 1 ∨ c.rdoq_level = -1
  /-- Invalid Chroma Mode [0 - 3, -1 for auto], your input: %d -/
  d72 : -1 ≤ c.set_chroma_mode ∧ c.set_chroma_mode ≤ 3
  /-- Invalid CFL flag [0/1, -1], your input: %i -/
  d73 : c.disable_cfl_flag = 0 ∨ c.disable_cfl_flag = 1 ∨ c.disable_cfl_flag = -1
  /-- Invalid CDEF level [0 - 4, -1 for auto], your input: %d -/
  d74 : -1 ≤ c.cdef_level ∧ c.cdef_level ≤ 4
  /-- Invalid restoration flag [0 - 1, -1 for auto], your input: %d -/
  d75 : c.enable_restoration_filtering = 0 ∨ c.enable_restoration_filtering = 1 ∨ c.enable_restoration_filtering = -1
  /-- Invalid self-guided filter mode [0 - 4, -1 for auto], your input: %d -/
  d76 : -1 ≤ c.sg_filter_mode ∧ c.sg_filter_mode ≤ 4
  /-- Invalid Wiener filter mode [0 - 3, -1 for auto], your input: %d -/
  d77 : -1 ≤ c.wn_filter_mode ∧ c.wn_filter_mode ≤ 3
  /-- Invalid predictive me level [0-5, -1 for auto], your input: %d -/
  d78 : -1 ≤ c.pred_me ∧ c.pred_me ≤ 5
  /-- Invalid bipred_3x3_inject mode [0-2, -1 for auto], your input: %d -/
  d79 : -1 ≤ c.bipred_3x3_inject ∧ c.bipred_3x3_inject ≤ 2
  /-- Invalid compound level [0-2, -1 for auto], your input: %d -/
  d80 : -1 ≤ c.compound_level ∧ c.compound_level ≤ 2
  /-- Invalid Enable intra angle delta flag [0/1 or -1 for auto], your input: %d -/
  d81 : c.intra_angle_delta = 0 ∨ c.intra_angle_delta = 1 ∨ c.intra_angle_delta = -1
  /-- Invalid Inter Intra Compound flag [0/1 or -1 for auto], your input: %d -/
  d82 : c.inter_intra_compound = 0 ∨ c.inter_intra_compound = 1 ∨ c.inter_intra_compound = -1
  /-- Invalid Paeth flag [0/1 or -1 for auto], your input: %d -/
  d83 : c.enable_paeth = 0 ∨ c.enable_paeth = 1 ∨ c.enable_paeth = -1
  /-- Invalid Smooth flag [0/1 or -1 for auto], your input: %d -/
  d84 : c.enable_smooth = 0 ∨ c.enable_smooth = 1 ∨ c.enable_smooth = -1
  /-- Invalid motion field motion vector flag [0/1 or -1 for auto], your input: %d -/
  d85 : c.enable_mfmv = 0 ∨ c.enable_mfmv = 1 ∨ c.enable_mfmv = -1
  /-- Invalid enable_redundant_blk flag [0/1 or -1 for auto], your input: %d -/
  d86 : c.enable_redundant_blk = 0 ∨ c.enable_redundant_blk = 1 ∨ c.enable_redundant_blk = -1
  /-- Invalid spatial_sse_fl flag [0/1 or -1 for auto], your input: %d -/
  d87 : c.spatial_sse_full_loop_level = 0 ∨ c.spatial_sse_full_loop_level = 1 ∨ c.spatial_sse_full_loop_level = -1
  /-- Invalid over_bndry_blk flag [0/1 or -1 for auto], your input: %d -/
  d88 : c.over_bndry_blk = 0 ∨ c.over_bndry_blk = 1 ∨ c.over_bndry_blk = -1
  /-- Invalid new_nearest_comb_inject flag [0/1 or -1 for auto], your input: %d -/
  d89 : c.new_nearest_comb_inject = 0 ∨ c.new_nearest_comb_inject = 1 ∨ c.new_nearest_comb_inject = -1
  /-- Invalid nsq_table flag [0/1 or -1 for auto], your input: %d -/
  d90 : c.nsq_table = 0 ∨ c.nsq_table = 1 ∨ c.nsq_table = -1
  /-- Invalid frame_end_cdf_update flag [0/1 or -1 for auto], your input: %d -/
  d91 : c.frame_end_cdf_update = 0 ∨ c.frame_end_cdf_update = 1 ∨ c.frame_end_cdf_update = -1
  /-- manual prediction structure (EbEncHandle.c:2973-3016) -/
  d92 : c.enable_manual_pred_struct = 0 ∨ validManualPredStruct c.manual_pred_struct_entry_num c.pred_struct
  /-- invalid superres-mode %d, should be in the range [%d - %d], only SUPERRES_NONE (0), SUPERRES_FIXED (1) and SUPERRES_RANDOM (2) are currently implemented -/
  d93 : c.superres_mode ≤ 2
  /-- superres is not supported for 2-pass -/
  d94 : c.superres_mode ≤ 0 ∨ (c.rc_twopass_stats_in_sz = 0 ∧ c.rc_firstpass_stats_out = 0)
  /-- invalid superres-qthres %d, should be in the range [%d - %d] -/
  d95 : c.superres_qthres ≤ 63
  /-- invalid superres-kf-denom %d, should be in the range [%d - %d] -/
  d96 : 8 ≤ c.superres_kf_denom ∧ c.superres_kf_denom ≤ 16
  /-- invalid superres-denom %d, should be in the range [%d - %d] -/
  d97 : 8 ≤ c.superres_denom ∧ c.superres_denom ≤ 16

/-- executable form of the same conjuncts (used by the driver to evaluate the specification on concrete inputs) -/
def codeDomainChecks : List (Scs → Cfg → Bool) := [
  fun s c => decide (c.enc_mode ≤ 8),
  fun s c => decide (c.ext_block_flag ≤ 1),
  fun s c => decide (64 ≤ c.source_width % 65536),
  fun s c => decide (64 ≤ c.source_height % 65536),
  fun s c => decide (True),
  fun s c => decide (¬ (c.source_width % 65536 % 8 ≠ 0 ∧ c.compressed_ten_bit_format = 1)),
  fun s c => decide (c.source_width % 65536 % 2 = 0),
  fun s c => decide (c.source_height % 65536 % 2 = 0),
  fun s c => decide (c.source_width % 65536 ≤ 4096),
  fun s c => decide (c.source_height % 65536 ≤ 2160),
  fun s c => decide (c.qp ≤ 63),
  fun s c => decide ((if c.enable_manual_pred_struct ≠ 0 then True else c.hierarchical_levels ≤ 5)),
  fun s c => decide (c.rate_control_mode = 0 → -2 ≤ intraPeriod c ∧ intraPeriod c ≤ 2147483646),
  fun s c => decide (1 ≤ c.rate_control_mode → -2 ≤ intraPeriod c ∧ intraPeriod c ≤ 255),
  fun s c => decide (1 ≤ c.intra_refresh_type ∧ c.intra_refresh_type ≤ 2),
  fun s c => decide (c.disable_dlf_flag ≤ 1),
  fun s c => decide (c.use_default_me_hme ≤ 1),
  fun s c => decide (c.enable_hme_flag ≤ 1),
  fun s c => decide (c.enable_hme_level0_flag ≤ 1),
  fun s c => decide (c.enable_hme_level1_flag ≤ 1),
  fun s c => decide (c.enable_hme_level2_flag ≤ 1),
  fun s c => decide (c.search_area_width ≤ 480 ∧ c.search_area_width ≠ 0),
  fun s c => decide (c.search_area_height ≤ 480 ∧ c.search_area_height ≠ 0),
  fun s c => decide (c.rate_control_mode ≤ 1 ∨ (c.rc_firstpass_stats_out = 0 ∧ c.rc_twopass_stats_in_buf = 0)),
  fun s c => decide (c.enable_hme_flag ≠ 0 → (c.number_hme_search_region_in_width ≤ 2 ∧ c.number_hme_search_region_in_width ≠ 0)),
  fun s c => decide (c.enable_hme_flag ≠ 0 → (c.number_hme_search_region_in_height ≤ 2 ∧ c.number_hme_search_region_in_height ≠ 0)),
  fun s c => decide (c.enable_hme_flag ≠ 0 → (c.hme_level0_total_search_area_height ≤ 480 ∧ c.hme_level0_total_search_area_height ≠ 0)),
  fun s c => decide (c.enable_hme_flag ≠ 0 → (c.hme_level0_total_search_area_width ≤ 480 ∧ c.hme_level0_total_search_area_width ≠ 0)),
  fun s c => decide (c.enable_hme_flag ≠ 0 → hmeSum c.number_hme_search_region_in_height c.hme_level0_search_area_in_height_array = c.hme_level0_total_search_area_height),
  fun s c => decide (c.enable_hme_flag ≠ 0 → hmeSum c.number_hme_search_region_in_width c.hme_level0_search_area_in_width_array = c.hme_level0_total_search_area_width),
  fun s c => decide (c.enable_hme_flag ≠ 0 → 1 ≤ hmeSum c.number_hme_search_region_in_width c.hme_level1_search_area_in_width_array ∧ hmeSum c.number_hme_search_region_in_width c.hme_level1_search_area_in_width_array ≤ 480),
  fun s c => decide (c.enable_hme_flag ≠ 0 → 1 ≤ hmeSum c.number_hme_search_region_in_width (copied c.number_hme_search_region_in_height c.hme_level1_search_area_in_height_array s.static_config_hme_level1_search_area_in_height_array) ∧ hmeSum c.number_hme_search_region_in_width (copied c.number_hme_search_region_in_height c.hme_level1_search_area_in_height_array s.static_config_hme_level1_search_area_in_height_array) ≤ 480),
  fun s c => decide (c.enable_hme_flag ≠ 0 → 1 ≤ hmeSum c.number_hme_search_region_in_width c.hme_level2_search_area_in_width_array ∧ hmeSum c.number_hme_search_region_in_width c.hme_level2_search_area_in_width_array ≤ 480),
  fun s c => decide (c.enable_hme_flag ≠ 0 → 1 ≤ hmeSum c.number_hme_search_region_in_width (copied c.number_hme_search_region_in_height c.hme_level2_search_area_in_height_array s.static_config_hme_level2_search_area_in_height_array) ∧ hmeSum c.number_hme_search_region_in_width (copied c.number_hme_search_region_in_height c.hme_level2_search_area_in_height_array s.static_config_hme_level2_search_area_in_height_array) ≤ 480),
  fun s c => decide (c.profile ≤ 2),
  fun s c => decide (frameRate c ≤ 15728640),
  fun s c => decide (frameRate c ≠ 0),
  fun s c => decide (c.rate_control_mode ≤ 2),
  fun s c => decide ((c.rate_control_mode = 2 ∨ c.rate_control_mode = 3) → 0 ≤ intraPeriod c → lookAhead c = intraPeriod c),
  fun s c => decide (lookAhead c ≤ 120 ∨ lookAhead c = 4294967295),
  fun s c => decide (c.tile_rows % 4294967296 ≤ 6 ∧ c.tile_columns % 4294967296 ≤ 6),
  fun s c => decide (c.tile_columns ≤ 4 ∧ c.tile_rows + c.tile_columns ≤ 7),
  fun s c => decide (c.unrestricted_motion_vector ≤ 1),
  fun s c => decide (c.scene_change_detection = 0),
  fun s c => decide ((if c.rate_control_mode ≠ 0 then c.max_qp_allowed ≤ 63 ∧ c.min_qp_allowed < 63 ∧ c.min_qp_allowed ≤ c.max_qp_allowed else True)),
  fun s c => decide (c.stat_report ≤ 1),
  fun s c => decide (c.high_dynamic_range_input ≤ 1),
  fun s c => decide (c.screen_content_mode ≤ 2),
  fun s c => decide (-1 ≤ c.intrabc_mode ∧ c.intrabc_mode ≤ 3),
  fun s c => decide (c.intrabc_mode = -1 ∨ c.screen_content_mode = 1),
  fun s c => decide (c.enable_adaptive_quantization ≤ 2),
  fun s c => decide (c.encoder_bit_depth = 8 ∨ c.encoder_bit_depth = 10),
  fun s c => decide (¬ ((c.profile = 0 ∨ c.profile = 1) ∧ 10 < c.encoder_bit_depth)),
  fun s c => decide (c.encoder_color_format = 0 ∨ c.encoder_color_format = 1),
  fun s c => decide (c.profile = 0 → colorFormat c ≤ 1),
  fun s c => decide (c.profile = 1 → colorFormat c = 3),
  fun s c => decide (c.profile = 2 ∧ c.encoder_bit_depth ≤ 10 → colorFormat c = 2),
  fun s c => decide (c.compressed_ten_bit_format = 0),
  fun s c => decide (c.speed_control_flag ≤ 1),
  fun s c => decide (c.use_cpu_flags % 18446744073709551616 < 9223372036854775808),
  fun s c => decide (c.target_socket = -1 ∨ c.target_socket = 0 ∨ c.target_socket = 1),
  fun s c => decide (c.altref_strength ≤ 6),
  fun s c => decide (c.altref_nframes ≤ 13),
  fun s c => decide (c.enable_warped_motion = 0 ∨ c.enable_warped_motion = 1 ∨ c.enable_warped_motion = -1),
  fun s c => decide (c.enable_global_motion = 0 ∨ c.enable_global_motion = 1),
  fun s c => decide (-1 ≤ c.obmc_level ∧ c.obmc_level ≤ 3),
  fun s c => decide (-1 ≤ c.filter_intra_level ∧ c.filter_intra_level ≤ 1),
  fun s c => decide (c.enable_intra_edge_filter = 0 ∨ c.enable_intra_edge_filter = 1 ∨ c.enable_intra_edge_filter = -1),
  fun s c => decide (1 < c.logical_processors ∨ c.pic_based_rate_est = 0 ∨ c.pic_based_rate_est = 1 ∨ c.pic_based_rate_est = -1),
  fun s c => decide (8 < c.encoder_bit_depth → -1 ≤ c.enable_hbd_mode_decision ∧ c.enable_hbd_mode_decision ≤ 2),
  fun s c => decide (-1 ≤ c.palette_level ∧ c.palette_level ≤ 6),
  fun s c => decide (c.rdoq_level = 0 ∨ c.rdoq_level = 1 ∨ c.rdoq_level = -1),
  fun s c => decide (-1 ≤ c.set_chroma_mode ∧ c.set_chroma_mode ≤ 3),
  fun s c => decide (c.disable_cfl_flag = 0 ∨ c.disable_cfl_flag = 1 ∨ c.disable_cfl_flag = -1),
  fun s c => decide (-1 ≤ c.cdef_level ∧ c.cdef_level ≤ 4),
  fun s c => decide (c.enable_restoration_filtering = 0 ∨ c.enable_restoration_filtering = 1 ∨ c.enable_restoration_filtering = -1),
  fun s c => decide (-1 ≤ c.sg_filter_mode ∧ c.sg_filter_mode ≤ 4),
  fun s c => decide (-1 ≤ c.wn_filter_mode ∧ c.wn_filter_mode ≤ 3),
  fun s c => decide (-1 ≤ c.pred_me ∧ c.pred_me ≤ 5),
  fun s c => decide (-1 ≤ c.bipred_3x3_inject ∧ c.bipred_3x3_inject ≤ 2),
  fun s c => decide (-1 ≤ c.compound_level ∧ c.compound_level ≤ 2),
  fun s c => decide (c.intra_angle_delta = 0 ∨ c.intra_angle_delta = 1 ∨ c.intra_angle_delta = -1),
  fun s c => decide (c.inter_intra_compound = 0 ∨ c.inter_intra_compound = 1 ∨ c.inter_intra_compound = -1),
  fun s c => decide (c.enable_paeth = 0 ∨ c.enable_paeth = 1 ∨ c.enable_paeth = -1),
  fun s c => decide (c.enable_smooth = 0 ∨ c.enable_smooth = 1 ∨ c.enable_smooth = -1),
  fun s c => decide (c.enable_mfmv = 0 ∨ c.enable_mfmv = 1 ∨ c.enable_mfmv = -1),
  fun s c => decide (c.enable_redundant_blk = 0 ∨ c.enable_redundant_blk = 1 ∨ c.enable_redundant_blk = -1),
  fun s c => decide (c.spatial_sse_full_loop_level = 0 ∨ c.spatial_sse_full_loop_level = 1 ∨ c.spatial_sse_full_loop_level = -1),
  fun s c => decide (c.over_bndry_blk = 0 ∨ c.over_bndry_blk = 1 ∨ c.over_bndry_blk = -1),
  fun s c => decide (c.new_nearest_comb_inject = 0 ∨ c.new_nearest_comb_inject = 1 ∨ c.new_nearest_comb_inject = -1),
  fun s c => decide (c.nsq_table = 0 ∨ c.nsq_table = 1 ∨ c.nsq_table = -1),
  fun s c => decide (c.frame_end_cdf_update = 0 ∨ c.frame_end_cdf_update = 1 ∨ c.frame_end_cdf_update = -1),
  fun s c => decide (c.enable_manual_pred_struct = 0 ∨ validManualPredStruct c.manual_pred_struct_entry_num c.pred_struct),
  fun s c => decide (c.superres_mode ≤ 2),
  fun s c => decide (c.superres_mode ≤ 0 ∨ (c.rc_twopass_stats_in_sz = 0 ∧ c.rc_firstpass_stats_out = 0)),
  fun s c => decide (c.superres_qthres ≤ 63),
  fun s c => decide (8 ≤ c.superres_kf_denom ∧ c.superres_kf_denom ≤ 16),
  fun s c => decide (8 ≤ c.superres_denom ∧ c.superres_denom ≤ 16)]

def codeDomainB (s : Scs) (c : Cfg) : Bool := codeDomainChecks.all (fun p => p s c)

end Spec.ConfigDomain
