/-
  C27 — hypothesis H-kahn, syntactic part: the REVIEWED allow-list.

  A `Site` is (source file relative to Source/Lib, enclosing function, callee).  checks/c27.py scans the encoder
  and common libraries on every run for (a) every call of `svt_get_full_object_non_blocking` — the only primitive that
  lets code observe that a queue is empty — and (b) every read of a clock and every sleep, and writes the sites it
  found to `Gen/HKahn.lean`; `C27.hkahn_syntactic` proves by evaluation that each found site is on this list.
  A new site (e.g. a kernel that polls a queue, or a coding decision that reads the time) makes the obligation fail.

  Review notes (why each entry cannot make the OUTPUT depend on timing):
   * the two API getters are the application-facing ends of the two output queues: their emptiness test decides what
     the APPLICATION sees now, not what the library computes;
   * `collect_frames_info` / `resource_coordination_kernel`: the time stamps only feed `n_tick_count` (latency report
     in the packet header; not part of `e2e_signature`, not used by any coding decision);
   * `speed_buffer_control`: changes `enc_mode` from wall-clock measurements — only called when
     `static_config.speed_control_flag` is set (EbResourceCoordinationProcess.c:1022); the property's configurations
     have `speed_control_flag = 0` (default, EbEncHandle.c:3184) — EXCLUDED BY CONFIGURATION, not harmless;
   * EbTime.c: the definitions; EbThreads.c: `printfTime` is compiled only with PRINTF_TIME on Windows, and
     `svt_verif_perturb` is the guarded verification hook (SVT_AV1_VERIF) — inactive unless SVT_VERIF_PERTURB is set.
  Core Lean only.
-/
namespace HKahnAllow

structure Site where
  file : String
  func : String
  callee : String
deriving DecidableEq, Repr

def allowed : List Site := [
  -- (a) the non-blocking getter: API functions only
  ⟨"Encoder/Globals/EbEncHandle.c", "svt_av1_enc_get_packet", "svt_get_full_object_non_blocking"⟩,
  ⟨"Encoder/Globals/EbEncHandle.c", "svt_av1_get_recon", "svt_get_full_object_non_blocking"⟩,
  -- (b) latency stamps (reach n_tick_count only)
  ⟨"Encoder/Codec/EbPacketizationProcess.c", "collect_frames_info", "svt_av1_get_time"⟩,
  ⟨"Encoder/Codec/EbResourceCoordinationProcess.c", "resource_coordination_kernel", "svt_av1_get_time"⟩,
  -- (b) speed control: excluded by configuration (speed_control_flag = 0)
  ⟨"Encoder/Codec/EbResourceCoordinationProcess.c", "speed_buffer_control", "svt_av1_get_time"⟩,
  -- (b) definitions and guarded / compiled-out code
  ⟨"Common/Codec/EbTime.c", "svt_av1_get_time", "clock_gettime"⟩,
  ⟨"Common/Codec/EbTime.c", "svt_av1_get_time", "gettimeofday"⟩,
  ⟨"Common/Codec/EbTime.c", "svt_av1_get_time", "_ftime_s"⟩,
  ⟨"Common/Codec/EbThreads.c", "svt_verif_perturb", "usleep"⟩,
  ⟨"Common/Codec/EbThreads.c", "printfTime", "clock"⟩
]

end HKahnAllow
