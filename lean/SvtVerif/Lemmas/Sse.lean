/-
  Helper lemmas for C26: the loops of `psnr_calculations` (Model/Sse.lean) are instances of one counting loop (`loop_sum`);
  the rest is about double sums over the window of two sample functions `S R : Nat → Nat → Nat` (row, column).
-/
import SvtVerif.Model.Sse
import SvtVerif.Lemmas.CSem
import Mathlib.Algebra.BigOperators.Group.Finset.Basic
import Mathlib.Algebra.Order.BigOperators.Group.Finset

namespace Sse
open CSem Finset

def sq (a b : Nat) : Nat := (a - b) ^ 2 + (b - a) ^ 2

theorem sq_comm (a b : Nat) : sq a b = sq b a := Nat.add_comm _ _

theorem sq_of_le {a b : Nat} (h : a ≤ b) : sq a b = (b - a) ^ 2 := by
  rw [sq, Nat.sub_eq_zero_of_le h, Nat.zero_pow (by decide), Nat.zero_add]

theorem sq_cast (a b : Nat) : ((sq a b : Nat) : Int) = ((a : Int) - (b : Int)) ^ 2 := by
  rcases Nat.le_total a b with h | h
  · rw [sq_of_le h, Int.natCast_pow, Int.natCast_sub h, ← Int.neg_sub (a : Int) b, pow_two, Int.neg_mul_neg, pow_two]
  · rw [sq_comm, sq_of_le h, Int.natCast_pow, Int.natCast_sub h]

theorem sq_le (a b m : Nat) (ha : a ≤ m) (hb : b ≤ m) : sq a b ≤ m ^ 2 := by
  rcases Nat.le_total a b with h | h
  · rw [sq_of_le h]
    exact Nat.pow_le_pow_left (by omega) 2
  · rw [sq_comm, sq_of_le h]
    exact Nat.pow_le_pow_left (by omega) 2

/-- Below 2^31 (uint8/uint16 samples are) neither the `int64_t` arithmetic of `SQR` nor the conversion to `uint64_t` wraps. -/
theorem sqrTerm_eq (a b : Nat) (ha : a < 2 ^ 31) (hb : b < 2 ^ 31) : sqrTerm a b = sq a b := by
  have hsq : sq a b ≤ 2 ^ 62 := sq_le a b (2 ^ 31) ha.le hb.le
  have hd : ((a : Int) - b) * ((a : Int) - b) = (sq a b : Nat) := by rw [sq_cast, pow_two]
  simp only [sqrTerm]
  rw [wrapS_of_range (n := 64) (x := (a : Int) - b) (by omega) (by omega) (by decide), hd,
    wrapS_of_range (n := 64) (by omega) (by omega) (by decide), wrapU_of_range (by omega) (by omega)]
  exact Int.toNat_natCast _

/-- `for (i = 0; i < n; ++i) acc += g i` on a `uint64_t` accumulator, given by its unfolding equation. -/
theorem loop_sum (L : Nat → Nat → Nat) (g : Nat → Nat) (n : Nat)
    (hL : ∀ i acc, acc < 2 ^ 64 → L i acc = if i < n then L (i + 1) ((acc + g i) % 2 ^ 64) else acc)
    (acc : Nat) (ha : acc < 2 ^ 64) : L 0 acc = (acc + ∑ i ∈ range n, g i) % 2 ^ 64 := by
  -- after `i ≤ n` rounds the accumulator holds the partial sum
  have inv : ∀ i, i ≤ n → L 0 acc = L i ((acc + ∑ j ∈ range i, g j) % 2 ^ 64) := by
    intro i
    induction i with
    | zero =>
      intro _
      rw [Finset.sum_range_zero, Nat.add_zero, Nat.mod_eq_of_lt ha]
    | succ i ih =>
      intro hi
      rw [ih (by omega), hL i _ (Nat.mod_lt _ (by decide)), if_pos (by omega), Nat.mod_add_mod,
        Finset.sum_range_succ, Nat.add_assoc]
  rw [inv n (Nat.le_refl n), hL n _ (Nat.mod_lt _ (by decide)), if_neg (Nat.lt_irrefl n)]

theorem colLoop_full (t : Nat → Nat) (w acc : Nat) (ha : acc < 2 ^ 64) :
    colLoop t w 0 acc = (acc + ∑ i ∈ range w, t i) % 2 ^ 64 :=
  loop_sum (colLoop t w) t w (fun c acc _ => by rw [colLoop]; rfl) acc ha

/-- The row loop is the counting loop over `r` with the pointers at `org + r * stride`. -/
theorem ssePlane64_raw (inB recB : Buf) (inOrg inStride recOrg recStride w h : Nat) :
    ssePlane64 inB recB inOrg inStride recOrg recStride w h =
      (∑ y ∈ range h, ∑ x ∈ range w,
        sqrTerm (inB (inOrg + y * inStride + x)) (recB (recOrg + y * recStride + x))) % 2 ^ 64 := by
  have := loop_sum
    (fun r acc => rowLoop8 inB recB inStride recStride w h r (inOrg + r * inStride) (recOrg + r * recStride) acc)
    (fun y => ∑ x ∈ range w, sqrTerm (inB (inOrg + y * inStride + x)) (recB (recOrg + y * recStride + x))) h
    (fun r acc ha => by
      show rowLoop8 _ _ _ _ _ _ _ _ _ _ = _
      rw [rowLoop8, colLoop_full _ _ _ ha, Nat.succ_mul, Nat.succ_mul, Nat.add_assoc inOrg, Nat.add_assoc recOrg])
    0 (by decide)
  simp only [Nat.zero_mul, Nat.add_zero, Nat.zero_add] at this
  exact this

theorem ssePlane64_16_raw (inB incB recB : Buf) (inOrg inStride incOrg incStride recOrg recStride w h : Nat) :
    ssePlane64_16 inB incB recB inOrg inStride incOrg incStride recOrg recStride w h =
      (∑ y ∈ range h, ∑ x ∈ range w,
        sqrTerm (src10 (inB (inOrg + y * inStride + x)) (incB (incOrg + y * incStride + x)))
                (recB (recOrg + y * recStride + x))) % 2 ^ 64 := by
  have := loop_sum
    (fun r acc => rowLoop16 inB incB recB inStride incStride recStride w h r
      (inOrg + r * inStride) (incOrg + r * incStride) (recOrg + r * recStride) acc)
    (fun y => ∑ x ∈ range w, sqrTerm (src10 (inB (inOrg + y * inStride + x)) (incB (incOrg + y * incStride + x)))
      (recB (recOrg + y * recStride + x))) h
    (fun r acc ha => by
      show rowLoop16 _ _ _ _ _ _ _ _ _ _ _ _ _ = _
      rw [rowLoop16, colLoop_full _ _ _ ha, Nat.succ_mul, Nat.succ_mul, Nat.succ_mul,
        Nat.add_assoc inOrg, Nat.add_assoc incOrg, Nat.add_assoc recOrg])
    0 (by decide)
  simp only [Nat.zero_mul, Nat.add_zero, Nat.zero_add] at this
  exact this

theorem ssePlane_mod (inB recB : Buf) (inOrg inStride recOrg recStride w h : Nat) :
    ssePlane inB recB inOrg inStride recOrg recStride w h = ssePlane64 inB recB inOrg inStride recOrg recStride w h % 2 ^ 32 := rfl

theorem ssePlane16_mod (inB incB recB : Buf) (inOrg inStride incOrg incStride recOrg recStride w h : Nat) :
    ssePlane16 inB incB recB inOrg inStride incOrg incStride recOrg recStride w h =
      ssePlane64_16 inB incB recB inOrg inStride incOrg incStride recOrg recStride w h % 2 ^ 32 := rfl

theorem src10_eq (msb inc : Nat) : src10 msb inc = 4 * msb + inc / 64 % 4 := by
  unfold src10
  have h3 : (inc >>> 6) &&& 3 = inc / 64 % 4 := by
    rw [Nat.shiftRight_eq_div_pow]
    exact Nat.and_two_pow_sub_one_eq_mod _ 2
  rw [h3, ← Nat.shiftLeft_add_eq_or_of_lt (Nat.mod_lt _ (by decide) : inc / 64 % 4 < 2 ^ 2), Nat.shiftLeft_eq, Nat.mul_comm]

def WinLt (B : Buf) (org stride w h m : Nat) : Prop :=
  ∀ y, y < h → ∀ x, x < w → B (org + y * stride + x) < m

theorem WinLt.mono {B : Buf} {org stride w h m m' : Nat} (hB : WinLt B org stride w h m) (hm : m ≤ m') :
    WinLt B org stride w h m' :=
  fun y hy x hx => Nat.lt_of_lt_of_le (hB y hy x hx) hm

theorem sum_window_congr {α : Type} [AddCommMonoid α] {f g : Nat → Nat → α} {w h : Nat}
    (hfg : ∀ y, y < h → ∀ x, x < w → f y x = g y x) :
    ∑ y ∈ range h, ∑ x ∈ range w, f y x = ∑ y ∈ range h, ∑ x ∈ range w, g y x :=
  Finset.sum_congr rfl fun y hy => Finset.sum_congr rfl fun x hx => hfg y (mem_range.mp hy) x (mem_range.mp hx)

theorem sum_sqrTerm_eq (S R : Nat → Nat → Nat) (w h : Nat)
    (hS : ∀ y, y < h → ∀ x, x < w → S y x < 2 ^ 31) (hR : ∀ y, y < h → ∀ x, x < w → R y x < 2 ^ 31) :
    ∑ y ∈ range h, ∑ x ∈ range w, sqrTerm (S y x) (R y x) = ∑ y ∈ range h, ∑ x ∈ range w, sq (S y x) (R y x) :=
  sum_window_congr fun y hy x hx => sqrTerm_eq _ _ (hS y hy x hx) (hR y hy x hx)

theorem sum_window_const (c w h : Nat) : ∑ _y ∈ range h, ∑ _x ∈ range w, c = h * w * c := by
  simp [Finset.sum_const, mul_assoc]

theorem sum_sq_le (f g : Nat → Nat → Nat) (w h m : Nat)
    (hf : ∀ y, y < h → ∀ x, x < w → f y x ≤ m) (hg : ∀ y, y < h → ∀ x, x < w → g y x ≤ m) :
    ∑ y ∈ range h, ∑ x ∈ range w, sq (f y x) (g y x) ≤ h * w * m ^ 2 := by
  rw [← sum_window_const (m ^ 2) w h]
  exact Finset.sum_le_sum fun y hy => Finset.sum_le_sum fun x hx =>
    sq_le _ _ _ (hf y (mem_range.mp hy) x (mem_range.mp hx)) (hg y (mem_range.mp hy) x (mem_range.mp hx))

theorem sum_sq_lt_u64 (f g : Nat → Nat → Nat) (w h : Nat) (hw : w < 2 ^ 16) (hh : h < 2 ^ 16)
    (hf : ∀ y, y < h → ∀ x, x < w → f y x < 2 ^ 16) (hg : ∀ y, y < h → ∀ x, x < w → g y x < 2 ^ 16) :
    ∑ y ∈ range h, ∑ x ∈ range w, sq (f y x) (g y x) < 2 ^ 64 := by
  have hb := sum_sq_le f g w h 65535 (fun y hy x hx => Nat.le_of_lt_succ (hf y hy x hx))
    (fun y hy x hx => Nat.le_of_lt_succ (hg y hy x hx))
  have h1 : h * w * 65535 ^ 2 ≤ 2 ^ 16 * 2 ^ 16 * 65535 ^ 2 :=
    Nat.mul_le_mul_right _ (Nat.mul_le_mul hh.le hw.le)
  exact Nat.lt_of_le_of_lt (Nat.le_trans hb h1) (by decide)

theorem cast_sum (f : Nat → Nat) (n : Nat) : ((∑ i ∈ range n, f i : Nat) : Int) = ∑ i ∈ range n, (f i : Int) := by
  induction n with
  | zero => rfl
  | succ n ih => rw [Finset.sum_range_succ, Finset.sum_range_succ, Int.natCast_add, ih]

theorem cast_sum_sq (f g : Nat → Nat → Nat) (w h : Nat) :
    ((∑ y ∈ range h, ∑ x ∈ range w, sq (f y x) (g y x) : Nat) : Int) =
      ∑ y ∈ range h, ∑ x ∈ range w, ((f y x : Int) - (g y x : Int)) ^ 2 := by
  refine (cast_sum _ h).trans (Finset.sum_congr rfl fun y _ => ?_)
  exact (cast_sum _ w).trans (Finset.sum_congr rfl fun x _ => sq_cast _ _)

theorem cast_sum_sq_mod (f g : Nat → Nat → Nat) (w h : Nat) :
    (((∑ y ∈ range h, ∑ x ∈ range w, sq (f y x) (g y x)) % 2 ^ 64 % 2 ^ 32 : Nat) : Int) =
      (∑ y ∈ range h, ∑ x ∈ range w, ((f y x : Int) - (g y x : Int)) ^ 2) % 2 ^ 32 := by
  rw [Nat.mod_mod_of_dvd _ (by decide : 2 ^ 32 ∣ 2 ^ 64), ← cast_sum_sq]
  norm_cast

theorem ssePlane64_eq (inB recB : Buf) (inOrg inStride recOrg recStride w h : Nat)
    (hs : WinLt inB inOrg inStride w h (2 ^ 31)) (hr : WinLt recB recOrg recStride w h (2 ^ 31)) :
    ssePlane64 inB recB inOrg inStride recOrg recStride w h =
      (∑ y ∈ range h, ∑ x ∈ range w,
        sq (inB (inOrg + y * inStride + x)) (recB (recOrg + y * recStride + x))) % 2 ^ 64 := by
  rw [ssePlane64_raw, sum_sqrTerm_eq _ _ w h hs hr]

theorem ssePlane64_16_eq (inB incB recB : Buf) (inOrg inStride incOrg incStride recOrg recStride w h : Nat)
    (hs : WinLt inB inOrg inStride w h 256) (hr : WinLt recB recOrg recStride w h (2 ^ 16)) :
    ssePlane64_16 inB incB recB inOrg inStride incOrg incStride recOrg recStride w h =
      (∑ y ∈ range h, ∑ x ∈ range w,
        sq (4 * inB (inOrg + y * inStride + x) + incB (incOrg + y * incStride + x) / 64 % 4)
           (recB (recOrg + y * recStride + x))) % 2 ^ 64 := by
  rw [ssePlane64_16_raw]
  simp only [src10_eq]
  rw [sum_sqrTerm_eq _ _ w h (fun y hy x hx => by have := hs y hy x hx; omega) (hr.mono (by decide))]

theorem ssePlane64_congr (inB recB inB' recB' : Buf)
    (inOrg inStride recOrg recStride inOrg' inStride' recOrg' recStride' w h : Nat)
    (hsrc : ∀ y, y < h → ∀ x, x < w → inB (inOrg + y * inStride + x) = inB' (inOrg' + y * inStride' + x))
    (hrec : ∀ y, y < h → ∀ x, x < w → recB (recOrg + y * recStride + x) = recB' (recOrg' + y * recStride' + x)) :
    ssePlane64 inB recB inOrg inStride recOrg recStride w h = ssePlane64 inB' recB' inOrg' inStride' recOrg' recStride' w h := by
  rw [ssePlane64_raw, ssePlane64_raw]
  exact congrArg (· % 2 ^ 64) (sum_window_congr fun y hy x hx => by rw [hsrc y hy x hx, hrec y hy x hx])

theorem ssePlane_picCopy (src recB : Buf) (n inOrg inStride recOrg recStride w h : Nat)
    (hin : ∀ y, y < h → ∀ x, x < w → inOrg + y * inStride + x < n) :
    ssePlane (picCopy src n) recB inOrg inStride recOrg recStride w h = ssePlane src recB inOrg inStride recOrg recStride w h :=
  congrArg toU32 (ssePlane64_congr _ _ _ _ _ _ _ _ _ _ _ _ w h (fun y hy x hx => if_pos (hin y hy x hx)) (fun _ _ _ _ => rfl))

end Sse
