/-
  C14 helper lemmas: exactness of the guard criterion, lifting of "every path balanced" to "no mutex is ever
  left held / no call ever blocks on a leftover mutex" for arbitrary call sequences.
-/
import SvtVerif.Gen.ApiTables

namespace ApiProto

theorem pathGuarded_eq_false_iff (evs : List PEv) :
    pathGuarded evs = false ↔ ∃ l, runNullEvs evs = .nullAccess l := by
  induction evs with
  | nil => simp [pathGuarded, runNullEvs]
  | cons e r ih => cases e <;> simp [pathGuarded, runNullEvs, ih]

theorem entryGuarded_iff (e : GuardEntry) :
    entryGuarded e = true ↔ ∀ p ∈ e.paths, ∀ l, runNullEvs p.evs ≠ .nullAccess l := by
  have hp : ∀ evs, pathGuarded evs = true ↔ ∀ l, runNullEvs evs ≠ .nullAccess l := fun evs => by
    rw [← Bool.not_eq_false, pathGuarded_eq_false_iff, not_exists]
  simp only [entryGuarded, List.all_eq_true, hp]

theorem entryGuarded_complete (e : GuardEntry) (h : entryGuarded e = false) :
    ∃ p ∈ e.paths, ∃ l, runNullEvs p.evs = .nullAccess l := by
  obtain ⟨p, hp, hpg⟩ := List.all_eq_false.mp h
  exact ⟨p, hp, (pathGuarded_eq_false_iff p.evs).mp (Bool.eq_false_iff.mpr hpg)⟩

theorem runCalls_balanced (ps : List LockPath) (h : ∀ p ∈ ps, pathBalanced p = true) :
    runCalls [] ps = .done [] := by
  induction ps with
  | nil => rfl
  | cons p ps ih =>
    simp only [runCalls, eq_of_beq (h p List.mem_cons_self)]
    exact ih fun q hq => h q (List.mem_cons_of_mem _ hq)

theorem findLocks_balanced (T : Tables) (hT : allBalanced T = true) (fn : String) :
    ∀ p ∈ findLocks T fn, pathBalanced p = true := by
  intro p hp
  unfold findLocks at hp
  split at hp
  · next e he => exact List.all_eq_true.mp (List.all_eq_true.mp hT e (List.mem_of_find?_eq_some he)) p hp
  · simp at hp

theorem lockEffect_balanced (T : Tables) (hT : allBalanced T = true) (fn hp : String) (codes : List (Option Nat)) :
    lockEffect T fn hp codes [] = .inr [] := by
  unfold lockEffect
  simp only
  split
  · rfl
  · generalize hc : (findLocks T fn).filter (fun p => codes.contains p.ret && !p.nulls.contains hp) = cands
    have hb : ∀ p ∈ cands, runLocks [] p.evs = .done [] := fun p hpm =>
      eq_of_beq (findLocks_balanced T hT fn p (List.mem_filter.mp (hc ▸ hpm)).1)
    clear hc
    induction cands with
    | nil => rfl
    | cons p ps ih =>
      simp only [List.foldl_cons, hb p (List.mem_cons_self ..)]
      simpa using ih (fun q hq => hb q (List.mem_cons_of_mem _ hq))

theorem toRes_ne_blocked (r : PRes) (m : String) : r.toRes ≠ .blocked m := by
  cases r <;> simp [PRes.toRes]

theorem step_held_nil (T : Tables) (hT : allBalanced T = true) (s : St) (o : Op) (hs : s.held = []) :
    (step T s o).2.held = [] ∧ ∀ m, (step T s o).1 ≠ .blocked m := by
  have hlk : lockResult T s o = .inr [] := by
    unfold lockResult
    rw [hs]
    split
    · exact lockEffect_balanced T hT _ _ _
    · rfl
  unfold step
  split
  · exact ⟨hs, by intro m h; cases h⟩
  · split
    · exact ⟨hs, fun m => toRes_ne_blocked _ m⟩
    · rw [hlk]
      refine ⟨?_, fun m => toRes_ne_blocked _ m⟩
      simp

theorem runFrom_held_nil (T : Tables) (hT : allBalanced T = true) (ops : List Op) (s : St) (hs : s.held = []) :
    (runFrom T s ops).2.held = [] ∧ ∀ m, Res.blocked m ∉ (runFrom T s ops).1 := by
  induction ops generalizing s with
  | nil => exact ⟨hs, by simp [runFrom]⟩
  | cons o os ih =>
    have ⟨h1, h2⟩ := step_held_nil T hT s o hs
    unfold runFrom
    simp only
    split
    · have ⟨i1, i2⟩ := ih (step T s o).2 h1
      exact ⟨i1, fun m hm => (List.mem_cons.mp hm).elim (fun h => h2 m h.symm) (i2 m)⟩
    · exact ⟨h1, fun m hm => (List.mem_cons.mp hm).elim (fun h => h2 m h.symm) (by simp)⟩

theorem runFrom_length (T : Tables) (ops : List Op) (s : St) : (runFrom T s ops).1.length = ops.length := by
  induction ops generalizing s with
  | nil => rfl
  | cons o os ih =>
    unfold runFrom
    simp only
    split
    · simp [ih]
    · simp

/-- the table has an entry for the pointer, and the guard criterion says `b` of it -/
def guardIs (T : Tables) (b : Bool) (pr : String × String) : Bool :=
  match findGuard T pr.1 pr.2 with
  | some e => entryGuarded e == b
  | none => false

theorem guardIs_sound {T : Tables} {b : Bool} {pr : String × String} (h : guardIs T b pr = true) :
    ∃ e, findGuard T pr.1 pr.2 = some e ∧ entryGuarded e = b := by
  unfold guardIs at h
  split at h
  · next e he => exact ⟨e, he, eq_of_beq h⟩
  · cases h

open Gen.ApiTables in
theorem lists_classified :
    ((guardedParams ++ guardedDerived).all (guardIs tables true) = true ∧
      (unguardedParams ++ unguardedDerived).all (guardIs tables false) = true) ∧
    (∀ t ∈ nullErrorParams, nullClass tables t.1 t.2.1 = .ret t.2.2 ∧ t.2.2 ≠ 0) ∧
    tables.guards.all (fun e =>
      (match entryGuarded e, e.derived with
       | true, false => guardedParams | true, true => guardedDerived
       | false, false => unguardedParams | false, true => unguardedDerived).contains (e.fn, e.ptr)) = true := by
  decide +kernel

def NullClass.isUnguarded : NullClass → Bool
  | .unguarded _ => true
  | _ => false

/-- What the automaton predicts for a call made without a handle agrees with the table: an error code only where every
    NULL path returns that (non-zero) code, `undef (null fn ptr)` only where `ptr` of `fn` has a dereferencing path. -/
def nullHandlePredictionOk (T : Tables) (o : Op) : Bool :=
  match (step T {} o).1 with
  | .err c => nullClass T (encFn o) (if o.isDec then DEC_H else ENC_H) == .ret c && c != 0
  | .undef (.null fn ptr) => fn == encFn o && (nullClass T fn ptr).isUnguarded
  | _ => false

/-- `T` with a lock table in which the path of svt_av1_enc_set_parameter on which verify_settings rejects returns
    EB_ErrorBadParameter with `config_mutex` still held (finding F3; repaired in /repo by e6b9284). -/
def leakyTables (T : Tables) : Tables :=
  { guards := T.guards,
    locks := [{ fn := "svt_av1_enc_set_parameter", paths := [
      ⟨[], some EB_ErrorBadParameter, ["svt_enc_component"]⟩,
      ⟨[.lock "config_mutex"], some EB_ErrorBadParameter, []⟩,
      ⟨[.lock "config_mutex", .unlock "config_mutex"], none, []⟩] }] }

/-! the handle states of `C14.reject_then_accept` -/

def stHandle : St := { enc := { phase := .handle } }
def stRejected : St := { enc := { phase := .handle, cfg := .rejected, touched := true } }
def stConfigured : St := { enc := { phase := .handle, cfg := .accepted, touched := true } }

theorem runFrom_rejects (T : Tables)
    (hr : step T stRejected (.setParam .invalid) = (.err EB_ErrorBadParameter, stRejected))
    (hv : step T stRejected (.setParam .valid) = (.ok, stConfigured)) (n : Nat) :
    runFrom T stRejected (List.replicate n (.setParam .invalid) ++ [.setParam .valid]) =
      (List.replicate n (.err EB_ErrorBadParameter) ++ [.ok], stConfigured) := by
  induction n with
  | zero => simp [runFrom, hv, Res.continues]
  | succ k ih => simp [List.replicate_succ, runFrom, hr, Res.continues, ih]

end ApiProto
