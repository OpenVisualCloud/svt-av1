/-
  The task-graph model (C04): the bound on the length of executions, and the EncDec-segment instance (the guard is
  enforced by the real hand-out protocol: C24).  The lemmas about arbitrary task graphs are in `Lemmas/Dag.lean`.
-/
import SvtVerif.Lemmas.Dag
import SvtVerif.Lemmas.Srm
import SvtVerif.Lemmas.Segments

namespace Wavefront

variable {V : Type}

theorem exec_bounded {G : Dag V} {σ0 : Nat → V} {evs : List Ev} {s : St V} (h : run G (init σ0) evs = some s) :
    evs.length ≤ 2 * G.n := by
  have hr := run_reachable evs _ _ (Reachable.init (G := G) (σ0 := σ0)) h
  have hi := reachable_inv hr
  have hl := run_length evs _ _ h
  have a := Srm.nodup_bounded_length G.n s.started hi.started_nodup hi.started_lt
  have b := Srm.nodup_bounded_length G.n s.done hi.done_nodup
    (fun t ht => hi.started_lt t (hi.done_sub t ht))
  simp only [init, List.length_nil] at hl
  omega

theorem mem_segGuard {g : Seg.SegCtl} {p t : Nat} (h : p ∈ segGuard g t) :
    ∃ r, r < g.segRowCount ∧
      ((Seg.rowStart g.rows r ≤ p ∧ p < Seg.rowEnd g.rows r ∧ t = p + 1) ∨
       (r + 1 < g.segRowCount ∧ Seg.rowStart g.rows r ≤ p ∧ p ≤ Seg.rowEnd g.rows r ∧
        Seg.rowStart g.rows (r + 1) ≤ p + g.segBandCount ∧ t = p + g.segBandCount)) := by
  unfold segGuard at h
  have h2 := (List.mem_filter.1 h).2
  unfold segEdgeB at h2
  obtain ⟨r, hr, hb⟩ := List.any_eq_true.1 h2
  refine ⟨r, List.mem_range.1 hr, ?_⟩
  simp only [Bool.or_eq_true, Bool.and_eq_true, decide_eq_true_eq] at hb
  rcases hb with ⟨⟨a, b⟩, c⟩ | ⟨⟨⟨⟨a, b⟩, c⟩, d⟩, e⟩
  · exact Or.inl ⟨a, b, c⟩
  · exact Or.inr ⟨a, b, c, d, e⟩

/-- In every state the real `assign_enc_dec_segments` can reach (any number of workers, any interleaving), a
    segment that has been handed out (`ph ≥ 1`) has both of its guard segments past their SB loop (`ph ≥ 3`). -/
theorem seg_guard_holds {g : Seg.SegCtl} (hw : Seg.WF g) {st : Seg.ASt} (hr : Seg.Reachable g st) {t d : Nat}
    (hs : 1 ≤ Seg.aget st.ph t) (hd : d ∈ segGuard g t) : 3 ≤ Seg.aget st.ph d := by
  have hi := (Seg.reachable_inv hw hr).1
  obtain ⟨r, hr', h⟩ := mem_segGuard hd
  rcases h with ⟨a, b, rfl⟩ | ⟨a, b, c, e, rfl⟩
  · exact Seg.safe_right hi hr' a b hs
  · have := Seg.safe_bottom hw hi a b c e hs
    omega

end Wavefront
