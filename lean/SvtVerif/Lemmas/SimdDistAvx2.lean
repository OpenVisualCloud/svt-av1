/-
  C07 part B — the AVX2 side of the 32-bit full-distortion kernels.  Every 256-bit register is kept in the form
  `unlanes64 [q0, q1, q2, q3]`; every loop of the models is a fold over (row, column-group) indices on the four qword
  lanes, and every fold is read off as a `Nat` sum.  Core Lean only.
-/
import SvtVerif.Lemmas.SimdLanes
import SvtVerif.Model.SimdKernelsB

namespace Simd

def lo32 (q : BitVec 64) : BitVec 32 := q.extractLsb' 0 32
def hi32 (q : BitVec 64) : BitVec 32 := q.extractLsb' 32 32

theorem le32_lo (v : BitVec 64) :
    le32 (v.extractLsb' 0 8) (v.extractLsb' 8 8) (v.extractLsb' 16 8) (v.extractLsb' 24 8) = lo32 v :=
  le32_extract v 0

theorem le32_hi (v : BitVec 64) :
    le32 (v.extractLsb' 32 8) (v.extractLsb' 40 8) (v.extractLsb' 48 8) (v.extractLsb' 56 8) = hi32 v :=
  le32_extract v 32

theorem bytes32_append (a b : BitVec 32) : bytes32 a ++ bytes32 b = bytes64 (b ++ a) := by
  have lo (s : Nat) (h : s + 8 ≤ 32) : (b ++ a : BitVec 64).extractLsb' s 8 = a.extractLsb' s 8 :=
    BitVec.extractLsb'_append_eq_of_add_le h
  have hi (s : Nat) (h : 32 ≤ s) : (b ++ a : BitVec 64).extractLsb' s 8 = b.extractLsb' (s - 32) 8 :=
    BitVec.extractLsb'_append_eq_of_le h
  simp only [bytes32, bytes64, List.cons_append, List.nil_append, lo, hi, Nat.reduceSub, Nat.reduceLeDiff, Nat.reduceAdd]

theorem map2_64_unlanes (f : BitVec 64 → BitVec 64 → BitVec 64) (l1 l2 : List (BitVec 64)) :
    map2_64 f (unlanes64 l1) (unlanes64 l2) = unlanes64 (List.zipWith f l1 l2) := by
  simp only [map2_64, lanes64_unlanes64]

/-- `_mm256_add_epi32` on a qword: the two dwords are added separately, no carry from low to high -/
def add32x2 (p q : BitVec 64) : BitVec 64 := (hi32 p + hi32 q) ++ (lo32 p + lo32 q)

theorem add_epi32_unlanes : ∀ (l1 l2 : List (BitVec 64)),
    add_epi32 (unlanes64 l1) (unlanes64 l2) = unlanes64 (List.zipWith add32x2 l1 l2)
  | [], _ => by simp [add_epi32, map2_32, unlanes64, lanes32, unlanes32]
  | _ :: _, [] => by simp [add_epi32, map2_32, unlanes64, lanes32, unlanes32]
  | v :: t, w :: u => by
    have ih := add_epi32_unlanes t u
    simp only [add_epi32, map2_32, unlanes64, List.flatMap_cons] at ih ⊢
    simp only [bytes64, List.cons_append, List.nil_append, lanes32, le32_lo, le32_hi, List.zipWith_cons_cons, unlanes32,
      List.flatMap_cons] at ih ⊢
    rw [ih, ← List.append_assoc, bytes32_append]
    rfl

theorem lo32_toNat (q : BitVec 64) : (lo32 q).toNat = q.toNat % 2 ^ 32 := by
  simp [lo32, BitVec.extractLsb'_toNat]

theorem hi32_toNat (q : BitVec 64) : (hi32 q).toNat = q.toNat / 2 ^ 32 := by
  have := q.isLt
  simp only [hi32, BitVec.extractLsb'_toNat, Nat.shiftRight_eq_div_pow]
  omega

theorem append32_toNat (x y : BitVec 32) : (x ++ y).toNat % 2 ^ 32 = y.toNat ∧ (x ++ y).toNat / 2 ^ 32 = x.toNat := by
  have := y.isLt
  rw [BitVec.toNat_append, ← Nat.shiftLeft_add_eq_or_of_lt y.isLt, Nat.shiftLeft_eq]
  omega

/-- the carry out of the low dword is dropped … -/
theorem add32x2_lo (p q : BitVec 64) :
    (add32x2 p q).toNat % 2 ^ 32 = (p.toNat % 2 ^ 32 + q.toNat % 2 ^ 32) % 2 ^ 32 := by
  rw [add32x2, (append32_toNat _ _).1, BitVec.toNat_add, lo32_toNat, lo32_toNat]

/-- … and does not reach the high dword -/
theorem add32x2_hi (p q : BitVec 64) :
    (add32x2 p q).toNat / 2 ^ 32 = (p.toNat / 2 ^ 32 + q.toNat / 2 ^ 32) % 2 ^ 32 := by
  rw [add32x2, (append32_toNat _ _).2, BitVec.toNat_add, hi32_toNat, hi32_toNat]

/-- lines 1260+1262, 1261+1263, 1308+1310 -/
theorem cvt_load (m : Mem 32) (p : Nat) :
    mm256_cvtepi32_epi64 (loadU32 m p 4 16) =
      unlanes64 [sext64 (m p), sext64 (m (p + 1)), sext64 (m (p + 2)), sext64 (m (p + 3))] := by
  simp [mm256_cvtepi32_epi64, loadU32, loadL, zeroReg, List.range, List.range.loop, unlanes32, bytes32, lanes32,
    le32_bytes32, sext64]

/-- the horizontal reduction, lines 1278-1282 / 1283-1287 / 1319-1323 -/
def hsum (sum : Reg) : Reg :=
  let temp1 := mm256_castsi256_si128 sum
  let temp2 := mm256_extracti128_si256 sum 1
  let temp1 := add_epi64 temp1 temp2
  let temp2 := mm_shuffle_epi32 temp1 0x4e
  add_epi64 temp1 temp2

theorem hsum_unlanes (q0 q1 q2 q3 : BitVec 64) :
    hsum (unlanes64 [q0, q1, q2, q3]) = unlanes64 [(q0 + q2) + (q1 + q3), (q1 + q3) + (q0 + q2)] := by
  have c1 : mm256_castsi256_si128 (unlanes64 [q0, q1, q2, q3]) = unlanes64 [q0, q1] := by
    simp [mm256_castsi256_si128, unlanes64, bytes64]
  have c2 : mm256_extracti128_si256 (unlanes64 [q0, q1, q2, q3]) 1 = unlanes64 [q2, q3] := by
    simp [mm256_extracti128_si256, unlanes64, bytes64]
  have c3 : ∀ a b : BitVec 64, mm_shuffle_epi32 (unlanes64 [a, b]) 0x4e = unlanes64 [b, a] := by
    intro a b
    simp [mm_shuffle_epi32, dword, unlanes64, bytes64]
  simp only [hsum, c1, c2, add_epi64, map2_64_unlanes, List.zipWith_cons_cons, List.zipWith_nil_right, c3]

theorem unpacklo_unlanes (a b c d : BitVec 64) :
    mm_unpacklo_epi64 (unlanes64 [a, b]) (unlanes64 [c, d]) = unlanes64 [a, c] := by
  simp [mm_unpacklo_epi64, qword, unlanes64, bytes64]

theorem storeU64_pair (a b : BitVec 64) :
    (storeU64 (fun _ => 0) 0 (unlanes64 [a, b]) 2) 0 = a ∧ (storeU64 (fun _ => 0) 0 (unlanes64 [a, b]) 2) 1 = b := by
  simp [storeU64, lanes64_unlanes64, storeL]

def sumN : Nat → (Nat → Nat) → Nat
  | 0, _ => 0
  | n + 1, f => sumN n f + f n

theorem sumN_congr {n : Nat} {f g : Nat → Nat} (h : ∀ i, i < n → f i = g i) : sumN n f = sumN n g := by
  induction n with
  | zero => rfl
  | succ n ih => rw [sumN, sumN, ih (fun i hi => h i (by omega)), h n (by omega)]

theorem sumN_add (n : Nat) (f g : Nat → Nat) : sumN n (fun i => f i + g i) = sumN n f + sumN n g := by
  induction n with
  | zero => rfl
  | succ n ih => simp only [sumN, ih]; omega

theorem sumN_mul (n k : Nat) (f : Nat → Nat) : sumN n (fun i => k * f i) = k * sumN n f := by
  induction n with
  | zero => rfl
  | succ n ih => simp only [sumN, ih, Nat.mul_add]

theorem sumN_le {n : Nat} {f g : Nat → Nat} (h : ∀ i, i < n → f i ≤ g i) : sumN n f ≤ sumN n g := by
  induction n with
  | zero => exact Nat.le_refl _
  | succ n ih =>
    have := ih (fun i hi => h i (by omega)); have := h n (by omega)
    simp only [sumN]; omega

theorem sumN_const (n k : Nat) : sumN n (fun _ => k) = n * k := by
  induction n with
  | zero => simp [sumN]
  | succ n ih => simp only [sumN, ih, Nat.add_mul]; omega

theorem le_sumN {n : Nat} (f : Nat → Nat) {i : Nat} (hi : i < n) : f i ≤ sumN n f := by
  induction n with
  | zero => omega
  | succ n ih =>
    simp only [sumN]
    by_cases h : i < n
    · have := ih h; omega
    · have : i = n := by omega
      subst this; omega

theorem sumN_four (n : Nat) (f : Nat → Nat) :
    sumN (4 * n) f = sumN n (fun g => f (4 * g + 0)) + sumN n (fun g => f (4 * g + 1))
      + sumN n (fun g => f (4 * g + 2)) + sumN n (fun g => f (4 * g + 3)) := by
  induction n with
  | zero => rfl
  | succ n ih =>
    have : 4 * (n + 1) = 4 * n + 1 + 1 + 1 + 1 := by omega
    rw [this]
    simp only [sumN, ih, Nat.add_zero, Nat.add_assoc]
    omega

def foldN {α β : Type} (op : α → β → α) : Nat → (Nat → β) → α → α
  | 0, _, a => a
  | n + 1, f, a => op (foldN op n f a) (f n)

def fold2 {α β : Type} (op : α → β → α) (h n : Nat) (F : Nat → Nat → β) (a : α) : α :=
  foldN (fun a' row => foldN op n row a') h F a

theorem foldN_succ' {α β : Type} (op : α → β → α) (n : Nat) (f : Nat → β) (a : α) :
    foldN op (n + 1) f a = foldN op n (fun g => f (g + 1)) (op a (f 0)) := by
  induction n with
  | zero => rfl
  | succ n ih => rw [foldN, ih]; rfl

theorem foldN_shift {α β : Type} (op : α → β → α) (n : Nat) (f f' : Nat → β) (a a' : α)
    (hf : ∀ g, f' g = f (g + 1)) (ha : a' = op a (f 0)) : foldN op n f' a' = foldN op (n + 1) f a := by
  subst ha; rw [foldN_succ', funext hf]

theorem fold2_shift {α β : Type} (op : α → β → α) (h n : Nat) (F F' : Nat → Nat → β) (a a' : α)
    (hF : ∀ j g, F' j g = F (j + 1) g) (ha : a' = foldN op n (F 0) a) :
    fold2 op h n F' a' = fold2 op (h + 1) n F a :=
  foldN_shift _ h F F' a a' (fun j => funext (hF j)) ha

/-- Every accumulator of the kernels is read off through this lemma: `φ = toNat`, `M = 2^64` for the 64-bit sums,
    `φ = toNat % 2^32` and `φ = toNat / 2^32`, `M = 2^32` for the two dwords of an `_mm256_add_epi32` lane. -/
theorem foldN_sum {α β : Type} (op : α → β → α) (φ : α → Nat) (M : Nat) (f : Nat → β) (ψ : Nat → Nat)
    (h : ∀ a i, φ (op a (f i)) % M = (φ a + ψ i) % M) (n : Nat) (a : α) :
    φ (foldN op n f a) % M = (φ a + sumN n ψ) % M := by
  induction n with
  | zero => rfl
  | succ n ih => rw [foldN, sumN, h, Nat.add_mod, ih, ← Nat.add_mod, Nat.add_assoc]

theorem fold2_sum {α β : Type} (op : α → β → α) (φ : α → Nat) (M : Nat) (F : Nat → Nat → β) (Ψ : Nat → Nat → Nat)
    (h : ∀ a j g, φ (op a (F j g)) % M = (φ a + Ψ j g) % M) (hh n : Nat) (a : α) :
    φ (fold2 op hh n F a) % M = (φ a + sumN hh fun j => sumN n (Ψ j)) % M :=
  foldN_sum _ φ M F _ (fun a j => foldN_sum op φ M (F j) (Ψ j) (fun a g => h a j g) n a) hh a

theorem fold2_add_toNat (h n : Nat) (F : Nat → Nat → BitVec 64) (Ψ : Nat → Nat → Nat)
    (hΨ : ∀ j g, (F j g).toNat % 2 ^ 64 = Ψ j g % 2 ^ 64) :
    (fold2 (· + ·) h n F 0).toNat = (sumN h fun j => sumN n (Ψ j)) % 2 ^ 64 := by
  have := fold2_sum (· + ·) BitVec.toNat (2 ^ 64) F Ψ
    (fun a j g => by rw [BitVec.toNat_add, Nat.mod_mod, Nat.add_mod, hΨ, ← Nat.add_mod]) h n 0
  rwa [Nat.mod_eq_of_lt (BitVec.isLt _), show (0 : BitVec 64).toNat = 0 from rfl, Nat.zero_add] at this

/-- an `_mm256_add_epi32` accumulator lane is two independent 32-bit counters -/
theorem fold2_add32x2_toNat (h n : Nat) (F : Nat → Nat → BitVec 64) :
    (fold2 add32x2 h n F 0).toNat =
      (sumN h fun j => sumN n fun g => (F j g).toNat % 2 ^ 32) % 2 ^ 32
        + 2 ^ 32 * ((sumN h fun j => sumN n fun g => (F j g).toNat / 2 ^ 32) % 2 ^ 32) := by
  have lo := fold2_sum add32x2 (fun a => a.toNat % 2 ^ 32) (2 ^ 32) F (fun j g => (F j g).toNat % 2 ^ 32)
    (fun a j g => by rw [Nat.mod_mod, add32x2_lo]) h n 0
  have hi := fold2_sum add32x2 (fun a => a.toNat / 2 ^ 32) (2 ^ 32) F (fun j g => (F j g).toNat / 2 ^ 32)
    (fun a j g => by rw [add32x2_hi, Nat.mod_mod]) h n 0
  simp only [show (0 : BitVec 64).toNat = 0 from rfl, Nat.zero_mod, Nat.zero_div, Nat.zero_add, Nat.mod_mod] at lo hi
  have hlt : (fold2 add32x2 h n F 0).toNat / 2 ^ 32 < 2 ^ 32 := Nat.div_lt_of_lt_mul (fold2 add32x2 h n F 0).isLt
  rw [Nat.mod_eq_of_lt hlt] at hi
  rw [← lo, ← hi, Nat.mod_add_div]

def L4 (a : Nat → BitVec 64) : Reg := unlanes64 [a 0, a 1, a 2, a 3]

theorem L4_congr {a b : Nat → BitVec 64} (h : ∀ l, a l = b l) : L4 a = L4 b := by rw [funext h]

/-- per-lane product of line 1266-1267: `mul_epi32(x - y, x - y)` -/
def prodV (c r : BitVec 32) : BitVec 64 := mulLo32 (sext64 c - sext64 r) (sext64 c - sext64 r)
/-- per-lane product of line 1264 / 1311: `mul_epi32(x, x)` -/
def sqV (c : BitVec 32) : BitVec 64 := mulLo32 (sext64 c) (sext64 c)

theorem fd32vBody_lanes (coeff recon : Mem 32) (ct rt : Nat) (a b : Nat → BitVec 64) :
    fd32vBody coeff recon ct rt ⟨L4 a, L4 b⟩ =
      ⟨L4 (fun l => add32x2 (a l) (prodV (coeff (ct + l)) (recon (rt + l)))),
       L4 (fun l => b l + sqV (coeff (ct + l)))⟩ := by
  simp only [fd32vBody, L4, cvt_load, mul_epi32, add_epi64, sub_epi64, map2_64_unlanes, add_epi32_unlanes,
    List.zipWith_cons_cons, List.zipWith_nil_right, prodV, sqV, Nat.add_zero]

theorem ofNat32_succ_sub_one (n : Nat) : BitVec.ofNat 32 (n + 1) - 1 = BitVec.ofNat 32 n := by
  apply BitVec.eq_of_toNat_eq
  have h1 : (1 : BitVec 32).toNat = 1 := rfl
  simp only [BitVec.toNat_sub, BitVec.toNat_ofNat, h1]
  omega

theorem ofNat32_ne_zero {n : Nat} (h0 : 0 < n) (hn : n < 2 ^ 32) : (BitVec.ofNat 32 n != 0) = true := by
  simp only [bne_iff_ne, ne_eq]
  intro h
  have := congrArg BitVec.toNat h
  have h0 : (0 : BitVec 32).toNat = 0 := rfl
  simp only [BitVec.toNat_ofNat, h0] at this
  omega

theorem ofNat32_toNat_pos {n : Nat} (h0 : 0 < n) (hn : n < 2 ^ 32) : (BitVec.ofNat 32 n).toNat > 0 := by
  simp only [BitVec.toNat_ofNat]; omega

/-- lines 1257-1271 with `col_count = n + 1` -/
theorem fd32vCols_lanes (coeff recon : Mem 32) (n : Nat) :
    ∀ (ct rt : Nat) (a b : Nat → BitVec 64), n + 1 < 2 ^ 32 →
    fd32vCols coeff recon (n + 1) (BitVec.ofNat 32 (n + 1)) ct rt ⟨L4 a, L4 b⟩ =
      some ⟨L4 (fun l => foldN add32x2 (n + 1) (fun g => prodV (coeff (ct + 4 * g + l)) (recon (rt + 4 * g + l))) (a l)),
            L4 (fun l => foldN (· + ·) (n + 1) (fun g => sqV (coeff (ct + 4 * g + l))) (b l))⟩ := by
  induction n with
  | zero =>
    intro ct rt a b _
    simp only [fd32vCols, fd32vBody_lanes, ofNat32_succ_sub_one, foldN]
    simp
  | succ n ih =>
    intro ct rt a b hn
    rw [fd32vCols]
    simp only [fd32vBody_lanes, ofNat32_succ_sub_one]
    rw [if_pos (ofNat32_ne_zero (by omega) (by omega)), ih (ct + 4) (rt + 4) _ _ (by omega)]
    refine congrArg some ?_
    refine congr (congrArg Fd32V.mk (L4_congr fun l => ?_)) (L4_congr fun l => ?_)
    · exact foldN_shift _ _ _ _ _ _ (fun g => by congr 2 <;> omega) (by simp)
    · exact foldN_shift _ _ _ _ _ _ (fun g => by congr 2; omega) (by simp)

/-- lines 1252-1276 with `row_count = h + 1`, `col_count = area_width / 4 = n + 1` -/
theorem fd32vRows_lanes (coeff recon : Mem 32) (cs rs w n : Nat) (hw : w / 4 = n + 1) (hn : n + 1 < 2 ^ 32) (h : Nat) :
    ∀ (cp rp : Nat) (a b : Nat → BitVec 64), h + 1 < 2 ^ 32 →
    fd32vRows coeff recon cs rs w (h + 1) (BitVec.ofNat 32 (h + 1)) cp rp ⟨L4 a, L4 b⟩ =
      some ⟨L4 (fun l => fold2 add32x2 (h + 1) (n + 1)
                  (fun j g => prodV (coeff (cp + j * cs + 4 * g + l)) (recon (rp + j * rs + 4 * g + l))) (a l)),
            L4 (fun l => fold2 (· + ·) (h + 1) (n + 1) (fun j g => sqV (coeff (cp + j * cs + 4 * g + l))) (b l))⟩ := by
  induction h with
  | zero =>
    intro cp rp a b _
    rw [fd32vRows]
    simp only [hw, fd32vCols_lanes coeff recon n cp rp a b hn, ofNat32_succ_sub_one]
    simp [fold2, foldN]
  | succ h ih =>
    intro cp rp a b hh
    rw [fd32vRows]
    simp only [hw, fd32vCols_lanes coeff recon n cp rp a b hn, ofNat32_succ_sub_one]
    rw [if_pos (ofNat32_toNat_pos (by omega) (by omega)), ih (cp + cs) (rp + rs) _ _ (by omega)]
    refine congrArg some ?_
    refine congr (congrArg Fd32V.mk (L4_congr fun l => ?_)) (L4_congr fun l => ?_)
    · exact fold2_shift _ _ _ _ _ _ _ (fun j g => by
        have := Nat.add_one_mul j cs; have := Nat.add_one_mul j rs; congr 2 <;> omega) (by simp)
    · exact fold2_shift _ _ _ _ _ _ _ (fun j g => by
        have := Nat.add_one_mul j cs; congr 2; omega) (by simp)

/-- the cbf_zero loops are the `sum2` half of the full-distortion loops, whatever `recon` is -/
theorem fdzvCols_eq (coeff recon : Mem 32) : ∀ (fuel : Nat) (cc : BitVec 32) (ct rt : Nat) (s : Fd32V),
    fdzvCols coeff fuel cc ct s.sum2 = (fd32vCols coeff recon fuel cc ct rt s).map (·.sum2)
  | 0, _, _, _, _ => rfl
  | fuel + 1, cc, ct, rt, s => by
    simp only [fdzvCols, fd32vCols]
    split
    · exact fdzvCols_eq coeff recon fuel _ _ _ (fd32vBody coeff recon ct rt s)
    · rfl

theorem fdzvRows_eq (coeff recon : Mem 32) (cs rs w : Nat) : ∀ (fuel : Nat) (rc : BitVec 32) (cp rp : Nat) (s : Fd32V),
    fdzvRows coeff cs w fuel rc cp s.sum2 = (fd32vRows coeff recon cs rs w fuel rc cp rp s).map (·.sum2)
  | 0, _, _, _, _ => rfl
  | fuel + 1, rc, cp, rp, s => by
    simp only [fdzvRows, fd32vRows, fdzvCols_eq coeff recon _ _ cp rp s]
    cases fd32vCols coeff recon (w / 4) (BitVec.ofNat 32 (w / 4)) cp rp s with
    | none => rfl
    | some s' =>
      simp only [Option.map_some]
      split
      · exact fdzvRows_eq coeff recon cs rs w fuel _ _ _ s'
      · rfl

end Simd
