/- Helper lemmas for C19 (intra-period automaton): one step on an un-forced stream in the three regimes of `P`, the position
   invariant, the closed form of the outputs (`out_spec`). -/
import SvtVerif.Model.IntraPeriod
import SvtVerif.Lemmas.CSem
import Mathlib.Tactic.SplitIfs
import Mathlib.Algebra.Group.Int.Defs

namespace IntraPeriod
open CSem

/-- `intra_period_position` before picture `k` of an un-forced stream. -/
def posBefore (c : Cfg) : Nat → Nat
  | 0 => 0
  | k + 1 => (step c (posBefore c k) (stdPic k)).1

def out (c : Cfg) (k : Nat) : PicOut := (step c (posBefore c k) (stdPic k)).2

theorem runPics_std (c : Cfg) (n k : Nat) :
    runPics c (posBefore c k) ((List.range' k n).map stdPic) = (List.range' k n).map (out c) := by
  induction n generalizing k with
  | zero => rfl
  | succ n ih =>
    rw [List.range'_succ, List.map_cons, List.map_cons, runPics]
    congr 1
    exact ih (k + 1)

theorem run_eq (c : Cfg) (n : Nat) : run c n = (List.range' 0 n).map (out c) := runPics_std c n 0

theorem run_get (c : Cfg) (n k : Nat) (hk : k < n) : (run c n)[k]? = some (out c k) := by
  rw [run_eq, List.getElem?_map, List.getElem?_range' hk]
  simp

theorem run_length (c : Cfg) (n : Nat) : (run c n).length = n := by
  rw [run_eq]; simp

theorem step_std_ge1 (c : Cfg) (h1 : 1 ≤ c.P) (h31 : c.P < 2 ^ 31) (hr : c.refresh = 1 ∨ c.refresh = 2)
    (pos k : Nat) (hpos : (pos : Int) ≤ c.P) :
    (step c pos (stdPic k)).1 = (if k = 0 then 0 else if (pos : Int) = c.P then 0 else pos + 1) ∧
    ((step c pos (stdPic k)).2.intra = true ↔ (k = 0 ∨ (pos : Int) = c.P)) ∧
    ((step c pos (stdPic k)).2.frameType =
      if k = 0 then 0 else if (pos : Int) = c.P then (if c.refresh = 2 then 0 else 2) else 1) := by
  have n0 : c.P ≠ 0 := Int.ne_of_gt (Int.lt_of_lt_of_le (by decide) h1)
  have n1 : c.P ≠ -1 := Int.ne_of_gt (Int.lt_of_lt_of_le (by decide) h1)
  have e : wrapU32 c.P = c.P := wrapU_of_range (Int.le_trans (by decide) h1) (Int.lt_trans h31 (by decide))
  have hm : (pos + 1) % 2 ^ 32 = pos + 1 := Nat.mod_eq_of_lt (by omega)
  unfold step stdPic
  -- what is left of the step depends on `refresh`, `k = 0` and `pos = P` only
  simp only [e, hm, n0, n1, ne_eq, not_false_eq_true, if_true, if_false, Bool.or_false, ite_self, Bool.false_eq_true]
  rcases hr with hr | hr <;> simp only [hr] <;> by_cases hk : k = 0 <;> by_cases hp : (pos : Int) = c.P <;> simp [hk, hp]

theorem step_std_0 (c : Cfg) (h0 : c.P = 0) (k : Nat) :
    (step c 0 (stdPic k)).1 = 0 ∧ (step c 0 (stdPic k)).2.intra = true ∧
    (step c 0 (stdPic k)).2.frameType = (if k = 0 then 0 else 2) := by
  unfold step stdPic
  by_cases hk : k = 0 <;> simp [h0, hk, wrapU32, wrapU]

theorem posBefore_0 (c : Cfg) (h0 : c.P = 0) (k : Nat) : posBefore c k = 0 := by
  induction k with
  | zero => rfl
  | succ k ih => rw [posBefore, ih]; exact (step_std_0 c h0 k).1

theorem step_std_m1 (c : Cfg) (h0 : c.P = -1) (pos k : Nat) :
    ((step c pos (stdPic k)).2.intra = true ↔ k = 0) ∧
    (step c pos (stdPic k)).2.frameType = (if k = 0 then 0 else 1) := by
  unfold step stdPic
  by_cases hk : k = 0 <;> simp [h0, hk]

theorem succ_mod (j m : Nat) (hm : 0 < m) :
    (j + 1) % m = if j % m + 1 = m then 0 else j % m + 1 := by
  have hlt := Nat.mod_lt j hm
  have hdm := Nat.div_add_mod j m
  split_ifs with h
  · have : j + 1 = m * (j / m + 1) := by rw [Nat.mul_add, Nat.mul_one]; omega
    rw [this, Nat.mul_mod_right]
  · have : j + 1 = (j % m + 1) + m * (j / m) := by omega
    rw [this, Nat.add_mul_mod_self_left, Nat.mod_eq_of_lt (by omega)]

theorem posBefore_ge1 (c : Cfg) (h1 : 1 ≤ c.P) (h31 : c.P < 2 ^ 31) (hr : c.refresh = 1 ∨ c.refresh = 2) (k : Nat) :
    posBefore c (k + 1) = k % (c.P.toNat + 1) := by
  have hP : ((c.P.toNat : Nat) : Int) = c.P := Int.toNat_of_nonneg (by omega)
  induction k with
  | zero =>
    have := (step_std_ge1 c h1 h31 hr 0 0 (by simp; omega)).1
    simp [posBefore, this]
  | succ k ih =>
    have hlt := Nat.mod_lt k (show 0 < c.P.toNat + 1 by omega)
    have hle : ((posBefore c (k + 1) : Nat) : Int) ≤ c.P := by rw [ih]; omega
    have := (step_std_ge1 c h1 h31 hr (posBefore c (k + 1)) (k + 1) hle).1
    rw [posBefore, this, if_neg (by omega), ih, succ_mod k _ (by omega)]
    have heq : (((k % (c.P.toNat + 1) : Nat) : Int) = c.P) ↔ (k % (c.P.toNat + 1) + 1 = c.P.toNat + 1) := by omega
    by_cases h : k % (c.P.toNat + 1) + 1 = c.P.toNat + 1
    · rw [if_pos (heq.mpr h), if_pos h]
    · rw [if_neg (fun x => h (heq.mp x)), if_neg h]

theorem posBefore_le (c : Cfg) (h1 : 1 ≤ c.P) (h31 : c.P < 2 ^ 31) (hr : c.refresh = 1 ∨ c.refresh = 2) (k : Nat) :
    ((posBefore c k : Nat) : Int) ≤ c.P := by
  cases k with
  | zero => simp [posBefore]; omega
  | succ k =>
    rw [posBefore_ge1 c h1 h31 hr k]
    have hlt := Nat.mod_lt k (show 0 < c.P.toNat + 1 by omega)
    omega

theorem pred_mod_iff (k m : Nat) (hm : 0 < m) : (k % m + 1 = m) ↔ ((k + 1) % m = 0) := by
  rw [succ_mod k m hm]
  have hlt := Nat.mod_lt k hm
  split_ifs with h
  · exact ⟨fun _ => rfl, fun _ => h⟩
  · exact ⟨fun x => absurd x h, fun x => x.elim⟩

/-- Picture `k ≥ 1` meets `intra_period_position = P` exactly when `k` is a multiple of `P+1` (`posBefore_ge1`, `pred_mod_iff`). -/
theorem out_spec (c : Cfg) (h0 : 0 ≤ c.P) (h31 : c.P < 2 ^ 31) (hr : c.refresh = 1 ∨ c.refresh = 2) (k : Nat) :
    ((out c k).intra = true ↔ (k : Int) % (c.P + 1) = 0) ∧
    (out c k).frameType = (if k = 0 then 0
                           else if (k : Int) % (c.P + 1) = 0 then (if c.refresh = 2 ∧ c.P ≠ 0 then 0 else 2)
                           else 1) := by
  have hP : ((c.P.toNat : Nat) : Int) = c.P := Int.toNat_of_nonneg h0
  have hcast : ((k : Int) % (c.P + 1) = 0) ↔ (k % (c.P.toNat + 1) = 0) := by
    rw [← hP]; norm_cast
  simp only [hcast]
  unfold out
  by_cases hz : c.P = 0
  · have h := step_std_0 c hz k
    rw [posBefore_0 c hz k, h.2.1, h.2.2]
    simp [hz, Nat.mod_one]
  · have h1 : 1 ≤ c.P := by omega
    have hs := (step_std_ge1 c h1 h31 hr (posBefore c k) k (posBefore_le c h1 h31 hr k)).2
    rw [hs.1, hs.2]
    cases k with
    | zero => simp
    | succ j =>
      have hlt := Nat.mod_lt j (show 0 < c.P.toNat + 1 by omega)
      have e : (((posBefore c (j + 1) : Nat) : Int) = c.P) ↔ ((j + 1) % (c.P.toNat + 1) = 0) := by
        rw [posBefore_ge1 c h1 h31 hr j, ← pred_mod_iff j (c.P.toNat + 1) (by omega)]; omega
      simp only [e, hz, Nat.succ_ne_zero, false_or, if_false, ne_eq, not_false_eq_true, and_true]

end IntraPeriod
