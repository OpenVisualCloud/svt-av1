/-
  Range coder (C25): the concrete writer refines the abstract encoder.
-/
import SvtVerif.Lemmas.RangeCoder

namespace RangeCoder

/-- value of the (reversed) precarry buffer: cells are base-256 digits that may exceed 255 (deferred carries) -/
def preVal : List Nat → Nat
  | [] => 0
  | c :: rest => preVal rest * 256 + c

/-- invariant of `OdEcEnc` between calls -/
def EncInv (e : Enc) : Prop :=
  -9 ≤ e.cnt ∧ e.cnt ≤ -1 ∧ 32768 ≤ e.rng ∧ e.rng < 65536 ∧ e.low + e.rng ≤ 2 ^ (e.cnt + 25).toNat ∧
  e.offs = e.pre.length

/-- abstraction function: the exact low end of the interval is `precarry · 2^(cnt+24) + low` -/
def absEnc (e : Enc) : AEnc :=
  { L := preVal e.pre * 2 ^ (e.cnt + 24).toNat + e.low, r := e.rng, k := (e.cnt + 9).toNat + 8 * e.offs }

theorem EncInv.ainv {e : Enc} (hi : EncInv e) : AInv (absEnc e) := ⟨hi.2.2.1, hi.2.2.2.1⟩

theorem flush_one (P low c : Nat) : (P * 256 + low / 2 ^ c) * 2 ^ c + low % 2 ^ c = P * 2 ^ (c + 8) + low := by
  rw [Nat.add_mul, Nat.add_assoc, Nat.div_add_mod', Nat.mul_assoc, Nat.pow_add, Nat.mul_comm 256]

theorem mask_shift8 {c : Nat} (h : 8 ≤ c) : (2 ^ c - 1) / 2 ^ 8 = 2 ^ (c - 8) - 1 := by
  have p : 2 ^ c = 256 * 2 ^ (c - 8) := by rw [← Nat.pow_add 2 8, Nat.add_sub_cancel' h]
  have := Nat.two_pow_pos (c - 8)
  omega

/-- `t` is the bit of the window that is the unit of the precarry value, before the shift by `d` -/
theorem normalized_spec (pre : List Nat) (l t d r offs : Nat) (h15 : 15 ≤ t + d) (h23 : t + d ≤ 23)
    (hr0 : 32768 ≤ r) (hr1 : r < 65536) (hl : l * 2 ^ d + r ≤ 2 ^ (t + d + 1)) (ho : offs = pre.length) :
    EncInv { low := l * 2 ^ d, rng := r, cnt := ((t + d : Nat) : Int) - 24, pre := pre, offs := offs } ∧
    absEnc { low := l * 2 ^ d, rng := r, cnt := ((t + d : Nat) : Int) - 24, pre := pre, offs := offs } =
      { L := (preVal pre * 2 ^ t + l) * 2 ^ d, r := r, k := t + d - 15 + 8 * offs } := by
  have t1 : (((t + d : Nat) : Int) - 24 + 25).toNat = t + d + 1 := by omega
  have t2 : (((t + d : Nat) : Int) - 24 + 24).toNat = t + d := by omega
  have t3 : (((t + d : Nat) : Int) - 24 + 9).toNat = t + d - 15 := by omega
  refine ⟨⟨?_, ?_, hr0, hr1, ?_, ho⟩, ?_⟩
  · show -9 ≤ ((t + d : Nat) : Int) - 24; omega
  · show ((t + d : Nat) : Int) - 24 ≤ -1; omega
  · rw [t1]; exact hl
  · simp only [absEnc, t2, t3, Nat.add_mul, Nat.pow_add, Nat.mul_assoc]

theorem stored_eq {l t d : Nat} {x : Int} (hl : l * 2 ^ d < 4294967296) (h15 : 15 ≤ t + d) (h23 : t + d ≤ 23)
    (hx : x = (t : Int) + d - 24) (r : Nat) (pre : List Nat) (offs : Nat) :
    ({ low := u32 (l * 2 ^ d), rng := r, cnt := i16 x, pre := pre, offs := offs } : Enc) =
      { low := l * 2 ^ d, rng := r, cnt := ((t + d : Nat) : Int) - 24, pre := pre, offs := offs } := by
  rw [u32_id _ hl, i16_id _ (by omega) (by omega), hx, Int.natCast_add]

/-- `od_ec_enc_normalize` with `c = cnt + 16`: `j ≤ 2` cells move to the precarry buffer, `t = c + 8 − 8j` is the new unit
    bit; none of the `uint32/uint16/int16` conversions wraps -/
theorem encNormalize_closed (e : Enc) (low rng c d : Nat) (hc : e.cnt = (c : Int) - 16) (hd : ilogNz rng + d = 16)
    (hc7 : 7 ≤ c) (hc15 : c ≤ 15) (hrng : 0 < rng) (h2 : low + rng ≤ 2 ^ (c + 9)) (n2 : rng * 2 ^ d < 65536) :
    ∃ (j t l' : Nat) (pre' : List Nat),
      encNormalize e low rng =
        { low := l' * 2 ^ d, rng := rng * 2 ^ d, cnt := ((t + d : Nat) : Int) - 24, pre := pre', offs := e.offs + j } ∧
      pre'.length = e.pre.length + j ∧ t + 8 * j = c + 8 ∧ 15 ≤ t + d ∧ t + d ≤ 23 ∧
      preVal pre' * 2 ^ t + l' = preVal e.pre * 2 ^ (c + 8) + low ∧
      l' * 2 ^ d + rng * 2 ^ d ≤ 2 ^ (t + d + 1) := by
  have hdi : (16 : Int) - (ilogNz rng : Int) = (d : Int) := by omega
  have hm : u32 (2 ^ c - 1) = 2 ^ c - 1 := u32_id _ (by have := pow_le_of_le (a := c) (b := 15) hc15; omega)
  have hlow : low < 2 ^ (c + 9) := by omega
  -- after a flush the window holds less than `2^t` with `16 ≤ t + d`
  have hfl : ∀ l t, l < 2 ^ t → 16 ≤ t + d → l * 2 ^ d + rng * 2 ^ d ≤ 2 ^ (t + d + 1) := by
    intro l t hl ht
    have a1 := mul_two_pow_lt (t + d) hl (Nat.le_refl _)
    have a2 : 2 ^ 16 ≤ 2 ^ (t + d) := pow_le_of_le ht
    rw [Nat.pow_succ]; omega
  unfold encNormalize
  simp only [hc, hdi, Int.sub_add_cancel, Int.toNat_natCast, Nat.shiftLeft_eq, Nat.one_mul, hm,
    Nat.and_two_pow_sub_one_eq_mod, Nat.shiftRight_eq_div_pow, u16_id _ n2]
  by_cases s0 : c + d < 16
  · refine ⟨0, c + 8, low, e.pre, ?_, rfl, rfl, by omega, by omega, rfl, ?_⟩
    · rw [if_neg (show ¬ (c : Int) - 16 + d ≥ 0 by omega)]
      exact stored_eq (mul_two_pow_lt 32 hlow (by omega)) (by omega) (by omega) (by omega) _ _ _
    · rw [← Nat.add_mul, show c + 8 + d + 1 = c + 9 + d by omega, Nat.pow_add]; exact Nat.mul_le_mul_right _ h2
  · have hcell : low / 2 ^ c < 65536 := div_two_pow_lt 16 (Nat.lt_of_lt_of_le hlow (pow_le_of_le (by omega)))
    have hmod : low % 2 ^ c < 2 ^ c := Nat.mod_lt _ (Nat.two_pow_pos c)
    rw [if_pos (show (c : Int) - 16 + d ≥ 0 by omega), u16_id _ hcell]
    by_cases s8 : c + d < 24
    · refine ⟨1, c, low % 2 ^ c, low / 2 ^ c :: e.pre, ?_, rfl, rfl, by omega, by omega, flush_one _ _ _,
        hfl _ _ hmod (by omega)⟩
      rw [if_neg (show ¬ (c : Int) - 16 + d ≥ 8 by omega)]
      exact stored_eq (mul_two_pow_lt 32 hmod (by omega)) (by omega) (by omega) rfl _ _ _
    · have h8 : 8 ≤ c := by omega
      have hmod2 : low % 2 ^ c % 2 ^ (c - 8) < 2 ^ (c - 8) := Nat.mod_lt _ (Nat.two_pow_pos _)
      have hcell2 : low % 2 ^ c / 2 ^ (c - 8) < 65536 :=
        div_two_pow_lt 16 (Nat.lt_of_lt_of_le hmod (pow_le_of_le (by omega)))
      refine ⟨2, c - 8, low % 2 ^ c % 2 ^ (c - 8), low % 2 ^ c / 2 ^ (c - 8) :: low / 2 ^ c :: e.pre, ?_, rfl,
        by omega, by omega, by omega, ?_, hfl _ _ hmod2 (by omega)⟩
      · rw [if_pos (show (c : Int) - 16 + d ≥ 8 by omega), show ((c : Int) - 8).toNat = c - 8 by omega,
          mask_shift8 h8, Nat.and_two_pow_sub_one_eq_mod, u16_id _ hcell2]
        exact stored_eq (mul_two_pow_lt 32 hmod2 (by omega)) (by omega) (by omega) (by omega) _ _ _
      · rw [preVal, flush_one, preVal, show c - 8 + 8 = c by omega, flush_one]

theorem encNormalize_spec (e : Enc) (low rng : Nat) (hi : EncInv e) (h1 : 1 ≤ rng) (h3 : rng < 65536)
    (h2 : low + rng ≤ 2 ^ (e.cnt + 25).toNat) :
    EncInv (encNormalize e low rng) ∧
    absEnc (encNormalize e low rng) =
      { L := (preVal e.pre * 2 ^ (e.cnt + 24).toNat + low) * 2 ^ normShift rng,
        r := rng * 2 ^ normShift rng, k := (absEnc e).k + normShift rng } := by
  obtain ⟨i1, i2, -, -, -, i6⟩ := hi
  obtain ⟨n1, n2, -⟩ := normShift_spec rng h1 h3
  have hil := ilogNz_add_normShift rng h1 h3
  -- `cnt = c − 16`; from here on everything is over `Nat`
  obtain ⟨c, hc, hc7, hc15⟩ : ∃ c : Nat, e.cnt = (c : Int) - 16 ∧ 7 ≤ c ∧ c ≤ 15 :=
    ⟨(e.cnt + 16).toNat, by omega, by omega, by omega⟩
  -- `i1 i2` are spent; left in the context they would cost every `omega` below a case split on `e.cnt`
  clear i1 i2
  show _ ∧ _ = AEnc.mk _ _ ((e.cnt + 9).toNat + 8 * e.offs + normShift rng)
  rw [hc, show (c : Int) - 16 + 25 = ((c + 9 : Nat) : Int) by omega, Int.toNat_natCast] at h2
  rw [hc, show (c : Int) - 16 + 24 = ((c + 8 : Nat) : Int) by omega,
    show (c : Int) - 16 + 9 = ((c - 7 : Nat) : Int) by omega, Int.toNat_natCast, Int.toNat_natCast]
  obtain ⟨j, t, l', pre', heq, hlen, hj, h15, h23, hval, hl⟩ :=
    encNormalize_closed e low rng c _ hc hil hc7 hc15 h1 h2 n2
  rw [heq, ← hval, show c - 7 + 8 * e.offs + normShift rng = t + normShift rng - 15 + 8 * (e.offs + j) by omega]
  exact normalized_spec pre' l' t _ _ (e.offs + j) h15 h23 n1 n2 hl (by rw [i6, hlen])

theorem encInv_window_le (e : Enc) (hi : EncInv e) : e.low + e.rng ≤ 16777216 := by
  obtain ⟨i1, i2, i3, i4, i5, i6⟩ := hi
  have : 2 ^ (e.cnt + 25).toNat ≤ 2 ^ 24 := pow_le_of_le (by omega)
  omega

theorem encStep_spec (e : Enc) (u v : Nat) (hi : EncInv e) (huv : v < u) (hu : u ≤ e.rng) :
    EncInv (encNormalize e (e.low + (e.rng - u)) (u - v)) ∧
    absEnc (encNormalize e (e.low + (e.rng - u)) (u - v)) = aEncStep (absEnc e) u v := by
  have ⟨_, _, _, i4, i5, _⟩ := hi
  have S := encNormalize_spec e (e.low + (e.rng - u)) (u - v) hi (by omega) (by omega) (by omega)
  refine ⟨S.1, ?_⟩
  rw [S.2]
  simp only [aEncStep, absEnc, Nat.add_assoc]

theorem encodeCdf_spec (e : Enc) (c : List Nat) (n s : Nat) (hi : EncInv e) (hv : ValidCdf c n) (hs : s < n) :
    EncInv (encodeCdfQ15 e s c n) ∧ absEnc (encodeCdfQ15 e s c n) = aEncPrim (absEnc e) (.sym c n s) := by
  have hb := encInv_window_le e hi
  have P := sym_interval e.rng c n s hi.ainv.1 hi.ainv.2 hv hs
  suffices h : encodeCdfQ15 e s c n =
      encNormalize e (e.low + (e.rng - symU e.rng c (n - 1) s)) (symU e.rng c (n - 1) s - symV e.rng c (n - 1) s) by
    rw [h]; exact encStep_spec e _ _ hi P.1 P.2
  unfold encodeCdfQ15 encodeQ15
  cases s with
  | zero =>
    -- `fl = 32768`: the branch of `od_ec_encode_q15` that leaves `low` alone
    rw [symU_zero] at P ⊢
    have hV : scaleV e.rng (c.getD 0 0) (n - 1 - 0) < e.rng := P.1
    simp only [Nat.lt_irrefl, ↓reduceIte, CDF_PROB_TOP, Nat.sub_self, Nat.add_zero]
    rw [subU32_id _ _ (Nat.le_of_lt hV) (by omega)]; rfl
  | succ s =>
    have hfl : c.getD s 0 < 32768 := Nat.lt_succ_of_le (hv.entry_le (by omega))
    have hU : scaleV e.rng (c.getD s 0) (n - 1 - s) ≤ e.rng := P.2
    have hV : scaleV e.rng (c.getD (s + 1) 0) (n - 1 - (s + 1)) < scaleV e.rng (c.getD s 0) (n - 1 - s) := P.1
    simp only [Nat.succ_pos, gt_iff_lt, ↓reduceIte, CDF_PROB_TOP, Nat.add_sub_cancel, hfl]
    rw [subU32_id _ _ hU (by omega), subU32_id _ _ (Nat.le_of_lt hV) (by omega), u32_id _ (by omega)]; rfl

theorem encodeBool_spec (e : Enc) (f bit : Nat) (hi : EncInv e) (hf : f < 32768) (hb : bit ≤ 1) :
    EncInv (encodeBoolQ15 e bit f) ∧ absEnc (encodeBoolQ15 e bit f) = aEncPrim (absEnc e) (.bool f bit) := by
  have hlb := encInv_window_le e hi
  have hr0 := hi.ainv.1
  have hr1 := hi.ainv.2
  have B := bool_v_range e.rng f hr0 hr1 hf
  have hA : aEncPrim (absEnc e) (.bool f bit) =
      aEncStep (absEnc e) (if bit ≠ 0 then scaleV e.rng f 1 else e.rng) (if bit ≠ 0 then 0 else scaleV e.rng f 1) := rfl
  rw [hA]
  unfold encodeBoolQ15
  by_cases h0 : bit = 0
  · subst h0
    simp only [ne_eq, not_true_eq_false, ↓reduceIte]
    have S := encStep_spec e e.rng (scaleV e.rng f 1) hi B.2 (Nat.le_refl _)
    rw [Nat.sub_self, Nat.add_zero] at S
    rw [subU32_id _ _ (by omega) (by omega)]
    exact S
  · have hne : bit ≠ 0 := h0
    simp only [ne_eq, hne, not_false_eq_true, ↓reduceIte]
    have S := encStep_spec e (scaleV e.rng f 1) 0 hi B.1 (by omega)
    rw [Nat.sub_zero] at S
    rw [subU32_id _ _ (by omega) (by omega), u32_id _ (by omega)]
    exact S

/-- `aom_write_literal` / `aom_read_literal_` code each bit with `probToQ15 128`, the `16384` of `litPrims` -/
theorem probToQ15_half : probToQ15 128 = 16384 := rfl

/-- the bools `aom_write_literal(data, nbits)` codes, most significant first -/
def litPrims (data : Nat) : Nat → List Prim
  | 0 => []
  | b + 1 => .bool 16384 ((data >>> b) &&& 1) :: litPrims data b

theorem litPrims_valid (data : Nat) : ∀ nb, ∀ p ∈ litPrims data nb, p.Valid
  | 0, _, hp => nomatch hp
  | b + 1, p, hp => by
    rcases List.mem_cons.1 hp with rfl | hp
    · exact ⟨by decide, by decide, by rw [Nat.and_one_is_mod]; omega⟩
    · exact litPrims_valid data b p hp

theorem encodeLiteral_spec (data : Nat) : ∀ (nb : Nat) (e : Enc), EncInv e →
    EncInv (encodeLiteral e data nb) ∧ absEnc (encodeLiteral e data nb) = aEncPrims (absEnc e) (litPrims data nb)
  | 0, _, hi => ⟨hi, rfl⟩
  | b + 1, e, hi => by
    have S := encodeBool_spec e 16384 ((data >>> b) &&& 1) hi (by decide) (by rw [Nat.and_one_is_mod]; omega)
    have I := encodeLiteral_spec data b _ S.1
    rw [S.2] at I
    rw [encodeLiteral, probToQ15_half]
    exact I

def opPrims (tabs : Tables) : Op → List Prim
  | .sym id s => [.sym (tabs.getD id []) (nsymsOf (tabs.getD id [])) s]
  | .bool f bit => [.bool f bit]
  | .lit nb v => litPrims v nb
  | .adapt _ => []

/-- the "valid probability tables" of the property statement -/
def OpValid (tabs : Tables) : Op → Prop
  | .sym id s => id < tabs.length ∧ ValidCdf (tabs.getD id []) (nsymsOf (tabs.getD id [])) ∧ s < nsymsOf (tabs.getD id [])
  | .bool f bit => 0 < f ∧ f < 32768 ∧ bit ≤ 1
  | .lit nb v => v < 2 ^ nb
  | .adapt _ => True

theorem opPrims_valid (tabs : Tables) (op : Op) (h : OpValid tabs op) : ∀ p ∈ opPrims tabs op, p.Valid := by
  cases op with
  | sym id s => intro p hp; rw [List.mem_singleton.1 hp]; exact ⟨h.2.1, h.2.2⟩
  | bool f bit => intro p hp; rw [List.mem_singleton.1 hp]; exact h
  | lit nb v => exact litPrims_valid v nb
  | adapt a => intro p hp; nomatch hp

theorem writeOp_spec (w : Writer) (op : Op) (hi : EncInv w.enc) (hv : OpValid w.tabs op) :
    EncInv (writeOp w op).enc ∧ absEnc (writeOp w op).enc = aEncPrims (absEnc w.enc) (opPrims w.tabs op) := by
  cases op with
  | sym id s =>
    have S := encodeCdf_spec w.enc (w.tabs.getD id []) (nsymsOf (w.tabs.getD id [])) s hi hv.2.1 hv.2.2
    rw [writeOp]
    split <;> exact S
  | bool f bit => exact encodeBool_spec w.enc f bit hi hv.2.1 hv.2.2
  | lit nb v => exact encodeLiteral_spec v nb w.enc hi
  | adapt a => exact ⟨hi, rfl⟩

def OpsValid (tabs : Tables) (ops : List Op) : Prop := ∀ op ∈ ops, OpValid tabs op

theorem opsValid_writeOp (w : Writer) (op : Op) (ops : List Op) (hv : OpValid w.tabs op) (h : OpsValid w.tabs ops) :
    OpsValid (writeOp w op).tabs ops := by
  cases op with
  | sym id s =>
    rw [writeOp]
    split
    · intro o ho
      have ho := h o ho
      cases o with
      | sym id' s' =>
        obtain ⟨h1, h2, h3⟩ := ho
        have V := updateCdf_valid _ s _ hv.2.1
        refine ⟨by rw [List.length_set]; exact h1, ?_⟩
        rw [List.getD_set_eq]
        split
        · next hh =>
          obtain ⟨rfl, -⟩ := hh
          rw [show nsymsOf (updateCdf _ s _) = nsymsOf (w.tabs.getD id []) by
            have e1 := V.1; have e2 := hv.2.1.1; unfold nsymsOf at e1 e2 ⊢; omega]
          exact ⟨V, h3⟩
        · exact ⟨h2, h3⟩
      | _ => exact ho
    · exact h
  | _ => exact h

theorem encInit_inv : EncInv encInit := by
  unfold EncInv encInit; simp

theorem absEnc_encInit : absEnc encInit = aEncInit := rfl

theorem writeOps_cons (w : Writer) (op : Op) (ops : List Op) : writeOps w (op :: ops) = writeOps (writeOp w op) ops := rfl

theorem writeOps_spec (ops : List Op) : ∀ (w : Writer), EncInv w.enc → OpsValid w.tabs ops →
    EncInv (writeOps w ops).enc ∧ (absEnc w.enc).k ≤ (absEnc (writeOps w ops).enc).k ∧
    ∀ X T, Cont X T (absEnc (writeOps w ops).enc) → Cont X T (absEnc w.enc) := by
  induction ops with
  | nil => intro w hi _; exact ⟨hi, Nat.le_refl _, fun _ _ h => h⟩
  | cons op ops ih =>
    intro w hi hv
    have h1 := hv op List.mem_cons_self
    have S := writeOp_spec w op hi h1
    obtain ⟨i1, i2, i3⟩ :=
      ih (writeOp w op) S.1 (opsValid_writeOp w op ops h1 (fun o ho => hv o (List.mem_cons_of_mem _ ho)))
    obtain ⟨-, j2, j3⟩ := aEncPrims_spec _ (absEnc w.enc) hi.ainv (opPrims_valid w.tabs op h1)
    rw [S.2] at i2 i3
    exact ⟨i1, Nat.le_trans j2 i2, fun X T hc => j3 X T (i3 X T hc)⟩

theorem carryProp_length : ∀ (pre : List Nat) (c : Nat) (acc : List Nat),
    (carryProp pre c acc).length = pre.length + acc.length
  | [], _, _ => by rw [carryProp, List.length_nil, Nat.zero_add]
  | x :: xs, c, acc => by rw [carryProp, carryProp_length, List.length_cons, List.length_cons]; omega

/-- the flush loop of `svt_od_ec_enc_done` runs once for `cnt ≤ −2`, twice for `cnt = −1` -/
theorem encDone_length (e : Enc) (hi : EncInv e) :
    (encDone e).length = e.offs + (if e.cnt ≤ -2 then 1 else 2) := by
  obtain ⟨i1, i2, -, -, -, i6⟩ := hi
  have h1 : (10 : Int) + e.cnt > 0 := by omega
  rw [encDone, carryProp_length, if_pos h1, doneLoop, i6]
  by_cases h2 : e.cnt ≤ -2
  · rw [if_neg (show ¬ (10 : Int) + e.cnt - 8 > 0 by omega), if_pos h2]; rfl
  · rw [if_pos (show (10 : Int) + e.cnt - 8 > 0 by omega), doneLoop,
      if_neg (show ¬ (10 : Int) + e.cnt - 8 - 8 > 0 by omega), if_neg h2]; rfl

/-- **tell_bounds_bytes**, for any state satisfying the invariant -/
theorem tell_eq_bytes (e : Enc) (hi : EncInv e) : (encTell e + 7) / 8 = ((encDone e).length : Int) := by
  rw [encDone_length e hi]
  obtain ⟨i1, i2, i3, i4, i5, i6⟩ := hi
  unfold encTell
  split <;> omega

end RangeCoder
