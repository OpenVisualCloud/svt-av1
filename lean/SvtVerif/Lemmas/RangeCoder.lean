/-
  Range coder (C25): CDF adaptation, the partition of `[0, r)`, and the abstract coder on exact intervals.
  `Cont X T a`: the `T`-bit code value `X` lies in the writer's interval; `Rel X T a b`: the reader state `b` mirrors the
  writer state `a` for that `X`. RangeCoderEnc / RangeCoderDec tie the real writer and reader to the abstract coder.
-/
import SvtVerif.Model.RangeCoder
import SvtVerif.Lemmas.CSem
import Mathlib.Algebra.Group.Nat.Defs

namespace RangeCoder

theorem u32_id (x : Nat) (h : x < 4294967296) : u32 x = x := by unfold u32; omega
theorem u16_id (x : Nat) (h : x < 65536) : u16 x = x := by unfold u16; omega
theorem i16_id (x : Int) (h0 : -32768 ≤ x) (h1 : x < 32768) : i16 x = x := by unfold i16; omega
theorem subU32_id (a b : Nat) (h : b ≤ a) (ha : a < 4294967296) : subU32 a b = a - b := by unfold subU32; omega

theorem pow_le_of_le {a b : Nat} (h : a ≤ b) : 2 ^ a ≤ 2 ^ b := Nat.pow_le_pow_right (by decide) h

theorem mul_two_pow_lt {x a d : Nat} (N : Nat) (h : x < 2 ^ a) (hN : a + d ≤ N) : x * 2 ^ d < 2 ^ N :=
  calc x * 2 ^ d < 2 ^ a * 2 ^ d := Nat.mul_lt_mul_of_pos_right h (Nat.two_pow_pos d)
    _ = 2 ^ (a + d) := (Nat.pow_add 2 a d).symm
    _ ≤ 2 ^ N := pow_le_of_le hN

theorem div_two_pow_lt {x a : Nat} (b : Nat) (h : x < 2 ^ (a + b)) : x / 2 ^ a < 2 ^ b :=
  Nat.div_lt_of_lt_mul (by rwa [← Nat.pow_add])

def IsU16List (c : List Nat) : Prop := ∀ x ∈ c, x < 65536

/-- one entry: the reader's extra `(AomCdfProb)` cast and its `int tmp` change nothing -/
theorem updEntry_eq (rate c t : Nat) (hc : c < 65536) (ht : t ≤ 32768) :
    (if t < c then u16 (c - ((c - t) >>> rate)) else u16 (c + ((t - c) >>> rate))) =
    (if t < c then u16 (c + 65536 - u16 ((c - t) >>> rate)) else u16 (c + u16 ((t - c) >>> rate))) := by
  have h1 : (c - t) >>> rate ≤ c - t := Nat.shiftRight_le _ _
  have h2 : (t - c) >>> rate ≤ t - c := Nat.shiftRight_le _ _
  rw [u16_id ((c - t) >>> rate) (by omega), u16_id ((t - c) >>> rate) (by omega)]
  split
  · unfold u16; omega
  · rfl

theorem updLoop_eq (rate val : Nat) : ∀ (k i tmp : Nat) (cs : List Nat), IsU16List cs → tmp ≤ 32768 →
    updLoopEnc rate val i k tmp cs = updLoopDec rate val i k tmp cs
  | 0, _, _, _, _, _ => by rw [updLoopEnc, updLoopDec]
  | _ + 1, _, _, [], _, _ => rfl
  | k + 1, i, tmp, c :: cs, h, ht => by
    have ht' : (if i = val then 0 else tmp) ≤ 32768 := by split <;> omega
    rw [updLoopEnc, updLoopDec, updEntry_eq rate c _ (h c List.mem_cons_self) ht',
      updLoop_eq rate val k (i + 1) _ cs (fun x hx => h x (List.mem_cons_of_mem _ hx)) ht']

/-- **update_cdf_eq**, for every table of `uint16` entries -/
theorem updateCdf_eq_dec (c : List Nat) (s n : Nat) (h : IsU16List c) : updateCdf c s n = decUpdateCdf c s n := by
  rw [updateCdf, decUpdateCdf, show u16 32768 = 32768 from rfl, updLoop_eq _ _ _ _ _ _ h (Nat.le_refl _)]

/-- the coder's precondition on a probability table with `n` symbols (`n+1` entries, last = adaptation counter) -/
def ValidCdf (c : List Nat) (n : Nat) : Prop :=
  c.length = n + 1 ∧ 2 ≤ n ∧ n ≤ 16 ∧ (∀ i, i < n → c.getD i 0 ≤ 32767) ∧
  (∀ i, i + 1 < n → c.getD (i + 1) 0 ≤ c.getD i 0) ∧ c.getD (n - 1) 0 = 0 ∧ c.getD n 0 ≤ 32

theorem getD_of_lt (l : List Nat) (i : Nat) (h : i < l.length) : l.getD i 0 = l[i] := by
  simp [List.getD_eq_getElem?_getD, h]

theorem ValidCdf.length_eq {c : List Nat} {n : Nat} (h : ValidCdf c n) : c.length = n + 1 := h.1

theorem ValidCdf.entry_le {c : List Nat} {n i : Nat} (h : ValidCdf c n) (hi : i < n) : c.getD i 0 ≤ 32767 :=
  h.2.2.2.1 i hi

theorem ValidCdf.le {c : List Nat} {n : Nat} (h : ValidCdf c n) : ∀ x ∈ c, x ≤ 32768 := by
  obtain ⟨hl, -, -, hb, -, -, hc⟩ := h
  intro x hx
  obtain ⟨i, hi, rfl⟩ := List.getElem_of_mem hx
  rw [← getD_of_lt _ _ hi]
  by_cases h3 : i < n
  · exact Nat.le_trans (hb i h3) (by decide)
  · rw [show i = n by omega]; exact Nat.le_trans hc (by decide)

theorem ValidCdf.isU16 {c : List Nat} {n : Nat} (h : ValidCdf c n) : IsU16List c :=
  fun x hx => Nat.lt_of_le_of_lt (ValidCdf.le h x hx) (by decide)

def updElem (rate val p c : Nat) : Nat :=
  if val ≤ p then c - c / 2 ^ rate else c + (32768 - c) / 2 ^ rate

/-- `tmp` is `0` from the coded symbol on and `32768` before it -/
theorem updEntryEnc_eq (rate val p c : Nat) (hc : c ≤ 32768) :
    (if (if val ≤ p then 0 else 32768) < c then u16 (c - ((c - (if val ≤ p then 0 else 32768)) >>> rate))
      else u16 (c + (((if val ≤ p then 0 else 32768) - c) >>> rate))) = updElem rate val p c := by
  unfold updElem
  split
  · rw [Nat.sub_zero, Nat.zero_sub, Nat.zero_shiftRight, Nat.shiftRight_eq_div_pow]
    have d1 : c / 2 ^ rate ≤ c := Nat.div_le_self _ _
    generalize c / 2 ^ rate = q at *
    split <;> unfold u16 <;> omega
  · rw [if_neg (by omega), Nat.shiftRight_eq_div_pow]
    have d2 : (32768 - c) / 2 ^ rate ≤ 32768 - c := Nat.div_le_self _ _
    generalize (32768 - c) / 2 ^ rate = q at *
    unfold u16; omega

theorem updLoopEnc_getD (rate val : Nat) : ∀ (k i : Nat) (cs : List Nat), (∀ x ∈ cs, x ≤ 32768) → ∀ j,
    (updLoopEnc rate val i k (if val < i then 0 else 32768) cs).getD j 0 =
      if j < k ∧ j < cs.length then updElem rate val (i + j) (cs.getD j 0) else cs.getD j 0
  | 0, _, _, _, _ => by rw [updLoopEnc, if_neg (fun h => Nat.not_lt_zero _ h.1)]
  | _ + 1, _, [], _, _ => by rw [updLoopEnc, if_neg (fun h => Nat.not_lt_zero _ h.2)]
  | k + 1, i, c :: cs, h, j => by
    have ht : (if i = val then 0 else if val < i then 0 else 32768) = if val ≤ i then 0 else 32768 := by
      by_cases h1 : val ≤ i
      · rw [if_pos h1]; split
        · rfl
        · rw [if_pos (by omega)]
      · rw [if_neg h1, if_neg (by omega), if_neg (by omega)]
    rw [updLoopEnc, ht, updEntryEnc_eq rate val i c (h c List.mem_cons_self)]
    cases j with
    | zero => rw [List.getD_cons_zero, if_pos ⟨Nat.succ_pos _, Nat.succ_pos _⟩]; rfl
    | succ j =>
      rw [List.getD_cons_succ, show (if val ≤ i then 0 else 32768) = if val < i + 1 then 0 else 32768 from
          ite_congr (propext Nat.lt_succ_iff.symm) (fun _ => rfl) (fun _ => rfl),
        updLoopEnc_getD rate val k (i + 1) cs (fun x hx => h x (List.mem_cons_of_mem _ hx)) j,
        List.getD_cons_succ, Nat.add_right_comm, Nat.add_assoc i j 1]
      simp only [List.length_cons, Nat.add_lt_add_iff_right]

theorem rate_range (c : List Nat) (n : Nat) : 3 ≤ cdfRate c n ∧ cdfRate c n ≤ 7 := by
  unfold cdfRate nsymbs2speed
  constructor
  · omega
  · split <;> split <;> split <;> (try split) <;> omega

theorem updLoopEnc_length (rate val : Nat) : ∀ (k i tmp : Nat) (cs : List Nat),
    (updLoopEnc rate val i k tmp cs).length = cs.length
  | 0, _, _, _ => by rw [updLoopEnc]
  | _ + 1, _, _, [] => rfl
  | k + 1, i, tmp, c :: cs => by rw [updLoopEnc, List.length_cons, updLoopEnc_length, List.length_cons]

theorem div_sub_le {a b m : Nat} (h : a ≤ b) (hm : 0 < m) : b / m ≤ a / m + (b - a) :=
  calc b / m ≤ (a + (b - a) * m) / m :=
        Nat.div_le_div_right (by have := Nat.le_mul_of_pos_right (b - a) hm; omega)
    _ = a / m + (b - a) := Nat.add_mul_div_right a (b - a) hm

theorem updElem_mono (rate val p q x y : Nat) (hpq : p ≤ q) (hxy : y ≤ x) (hx : x ≤ 32768) :
    updElem rate val q y ≤ updElem rate val p x := by
  have a1 := div_sub_le hxy (Nat.two_pow_pos rate)
  have a2 := div_sub_le (show 32768 - x ≤ 32768 - y by omega) (Nat.two_pow_pos rate)
  have d1 := Nat.div_le_self y (2 ^ rate)
  have d2 := Nat.div_le_self x (2 ^ rate)
  unfold updElem
  generalize y / 2 ^ rate = a, x / 2 ^ rate = b, (32768 - x) / 2 ^ rate = c, (32768 - y) / 2 ^ rate = d at *
  split <;> split <;> omega

theorem updateCdf_getD (c : List Nat) (s n : Nat) (h : ValidCdf c n) (j : Nat) :
    (updateCdf c s n).getD j 0 =
      if j = n then u16 (c.getD n 0 + (if c.getD n 0 < 32 then 1 else 0))
      else if j < n - 1 then updElem (cdfRate c n) s j (c.getD j 0) else c.getD j 0 := by
  have hl := h.length_eq
  have G : ∀ j, (updLoopEnc (cdfRate c n) s 0 (n - 1) (u16 32768) c).getD j 0 =
      if j < n - 1 then updElem (cdfRate c n) s j (c.getD j 0) else c.getD j 0 := by
    intro j
    rw [show u16 32768 = if s < 0 then 0 else 32768 from rfl, updLoopEnc_getD _ _ _ _ _ (ValidCdf.le h), Nat.zero_add]
    exact ite_congr (propext ⟨fun h => h.1, fun h => ⟨h, by omega⟩⟩) (fun _ => rfl) (fun _ => rfl)
  rw [updateCdf, bumpCounter, List.getD_set_eq, G, G, updLoopEnc_length, hl, if_neg (show ¬ n < n - 1 by omega)]
  by_cases hj : j = n
  · rw [if_pos hj, if_pos ⟨hj.symm, by omega⟩]
  · rw [if_neg hj, if_neg (fun h => hj h.1.symm)]

theorem updElem_le (rate val p x : Nat) (hr : 1 ≤ rate) (hx : x ≤ 32767) : updElem rate val p x ≤ 32767 := by
  unfold updElem
  split
  · exact Nat.le_trans (Nat.sub_le _ _) hx
  · have : (32768 - x) / 2 ^ rate < 32768 - x := Nat.div_lt_self (by omega) (Nat.one_lt_two_pow (by omega))
    omega

/-- **update_cdf_valid** -/
theorem updateCdf_valid (c : List Nat) (s n : Nat) (h : ValidCdf c n) : ValidCdf (updateCdf c s n) n := by
  have F := updateCdf_getD c s n h
  obtain ⟨hl, h2, h16, hb, hm, hz, hc⟩ := h
  have hr := (rate_range c n).1
  refine ⟨?_, h2, h16, fun i hi => ?_, fun i hi => ?_, ?_, ?_⟩
  · rw [updateCdf, bumpCounter, List.length_set, updLoopEnc_length, hl]
  · rw [F, if_neg (show ¬ i = n by omega)]
    split
    · exact updElem_le _ _ _ _ (by omega) (hb i hi)
    · exact hb i hi
  · rw [F, F, if_neg (show ¬ i + 1 = n by omega), if_neg (show ¬ i = n by omega), if_pos (show i < n - 1 by omega)]
    split
    · exact updElem_mono _ _ _ _ _ _ (Nat.le_succ i) (hm i hi) (Nat.le_trans (hb i (by omega)) (by decide))
    · -- `i + 1 = n - 1`: that entry is 0
      rw [show i + 1 = n - 1 by omega, hz]; exact Nat.zero_le _
  · rw [F, if_neg (show ¬ n - 1 = n by omega), if_neg (Nat.lt_irrefl _), hz]
  · rw [F, if_pos rfl]
    split <;> (unfold u16; omega)

/-- the uniform two-symbol table of the test vectors -/
theorem validCdf_half : ValidCdf [16384, 0, 0] 2 :=
  ⟨rfl, by decide, by decide, by decide, fun i hi => match i, hi with | 0, _ => by decide, rfl, by decide⟩

/-- `scaleV` without the (vacuous) `unsigned` wrap -/
theorem scaleV_eq (r f k : Nat) (hr : r < 65536) (hf : f < 65536) (hk : k ≤ 16) :
    scaleV r f k = (r / 256) * (f / 64) / 2 + 4 * k := by
  unfold scaleV u32
  simp only [Nat.shiftRight_eq_div_pow]
  show (r / 256 * (f / 64) / 2 % 4294967296 + 4 * k) % 4294967296 = _
  have h1 : r / 256 ≤ 255 := by omega
  have h2 : f / 64 ≤ 1023 := by omega
  have : r / 256 * (f / 64) ≤ 255 * 1023 := Nat.mul_le_mul h1 h2
  generalize r / 256 * (f / 64) = p at *
  omega

theorem scaleV_mono (r f f' k k' : Nat) (hr : r < 65536) (hf : f < 65536) (hff : f' ≤ f) (hk : k ≤ 16) (hkk : k' < k) :
    scaleV r f' k' < scaleV r f k := by
  rw [scaleV_eq r f k hr hf hk, scaleV_eq r f' k' hr (by omega) (by omega)]
  have h : r / 256 * (f' / 64) / 2 ≤ r / 256 * (f / 64) / 2 :=
    Nat.div_le_div_right (Nat.mul_le_mul_left _ (Nat.div_le_div_right hff))
  omega

theorem scaleV_lt_r (r f k : Nat) (hr0 : 32768 ≤ r) (hr : r < 65536) (hf : f ≤ 32767) (hk : k ≤ 15) :
    scaleV r f k < r := by
  rw [scaleV_eq r f k hr (by omega) (by omega)]
  have h1 : f / 64 ≤ 511 := by omega
  have h2 : r / 256 * (f / 64) ≤ r / 256 * 511 := Nat.mul_le_mul_left _ h1
  generalize r / 256 * (f / 64) = p at *
  omega

theorem scaleV_zero (r : Nat) : scaleV r 0 0 = 0 := by
  unfold scaleV u32; simp

theorem symU_zero (r : Nat) (c : List Nat) (N : Nat) : symU r c N 0 = r := if_pos rfl

theorem symU_succ (r : Nat) (c : List Nat) (N s : Nat) : symU r c N (s + 1) = symV r c N s := if_neg (Nat.succ_ne_zero s)

/-- every symbol of a valid table gets a non-empty sub-interval `[v_s, u_s)` of `[0, r)` -/
theorem sym_interval (r : Nat) (c : List Nat) (n s : Nat) (hr0 : 32768 ≤ r) (hr : r < 65536) (h : ValidCdf c n)
    (hs : s < n) : symV r c (n - 1) s < symU r c (n - 1) s ∧ symU r c (n - 1) s ≤ r := by
  obtain ⟨-, -, h16, hb, hm, -, -⟩ := h
  have hV : ∀ t, t < n → symV r c (n - 1) t < r := fun t ht => scaleV_lt_r r _ _ hr0 hr (hb t ht) (by omega)
  cases s with
  | zero => exact ⟨(symU_zero r c (n - 1)).symm ▸ hV 0 hs, Nat.le_of_eq (symU_zero _ _ _)⟩
  | succ s =>
    rw [symU_succ]
    exact ⟨scaleV_mono r _ _ _ _ hr (by have := hb s (by omega); omega) (hm s hs) (by omega) (by omega),
      Nat.le_of_lt (hV s (by omega))⟩

/-- **partition lemma**: `r = u₀ > v₀ = u₁ > v₁ = … > v_{n-1} = 0`. -/
theorem partition (r : Nat) (c : List Nat) (n : Nat) (hr0 : 32768 ≤ r) (hr : r < 65536) (h : ValidCdf c n) :
    symU r c (n - 1) 0 = r ∧ symV r c (n - 1) (n - 1) = 0 ∧
    ∀ s, s < n → symV r c (n - 1) s < symU r c (n - 1) s ∧ symU r c (n - 1) (s + 1) = symV r c (n - 1) s ∧
      symU r c (n - 1) s ≤ r := by
  refine ⟨symU_zero _ _ _, by rw [symV, h.2.2.2.2.2.1, Nat.sub_self]; exact scaleV_zero r, fun s hs => ?_⟩
  have I := sym_interval r c n s hr0 hr h hs
  exact ⟨I.1, symU_succ _ _ _ _, I.2⟩

theorem symU_le_symV (r : Nat) (c : List Nat) (n : Nat) (hr0 : 32768 ≤ r) (hr : r < 65536) (h : ValidCdf c n) :
    ∀ t s, s < t → t < n → symU r c (n - 1) t ≤ symV r c (n - 1) s := by
  intro t
  induction t with
  | zero => intro s hs; omega
  | succ t ih =>
    intro s hs ht
    rw [symU_succ]
    by_cases h1 : s = t
    · subst h1; exact Nat.le_refl _
    · have := ih s (by omega) (by omega)
      have := (sym_interval r c n t hr0 hr h (by omega)).1
      omega

theorem take_drop_cons (c : List Nat) (n ret : Nat) (hl : n ≤ c.length) (hr : ret < n) :
    (c.take n).drop ret = c.getD ret 0 :: (c.take n).drop (ret + 1) := by
  have hlen : (c.take n).length = n := by simp [List.length_take]; omega
  rw [List.drop_eq_getElem_cons (by omega : ret < (c.take n).length)]
  congr 1
  rw [List.getElem_take, getD_of_lt]

theorem decSearch_finds (r : Nat) (c : List Nat) (n s cc : Nat) (hr0 : 32768 ≤ r) (hr : r < 65536) (h : ValidCdf c n)
    (hs : s < n) (hv : symV r c (n - 1) s ≤ cc) (hu : cc < symU r c (n - 1) s) :
    decSearch r cc (n - 1) 0 r (c.take n) = (s, symU r c (n - 1) s, symV r c (n - 1) s) := by
  have A := symU_le_symV r c n hr0 hr h
  have hl : n ≤ c.length := by have := h.length_eq; omega
  -- started at `ret ≤ s` with `u = u_ret`, the loop walks up to `s`
  have G : ∀ m ret, ret + m = s →
      decSearch r cc (n - 1) ret (symU r c (n - 1) ret) ((c.take n).drop ret) =
        (s, symU r c (n - 1) s, symV r c (n - 1) s) := by
    intro m
    induction m with
    | zero =>
      rintro ret rfl
      rw [take_drop_cons c n ret hl hs]
      simp only [decSearch]
      rw [if_neg (show ¬ cc < scaleV r (c.getD ret 0) (n - 1 - ret) from Nat.not_lt.2 hv)]; rfl
    | succ m ih =>
      intro ret hm
      rw [take_drop_cons c n ret hl (by omega)]
      simp only [decSearch]
      rw [if_pos (show cc < scaleV r (c.getD ret 0) (n - 1 - ret) from Nat.lt_of_lt_of_le hu (A s ret (by omega) hs))]
      have := ih (ret + 1) (by omega)
      rwa [symU_succ] at this
  have := G s 0 (Nat.zero_add s)
  rwa [symU_zero, List.drop_zero] at this

theorem normShift_spec (x : Nat) (h0 : 1 ≤ x) (h1 : x < 65536) :
    32768 ≤ x * 2 ^ normShift x ∧ x * 2 ^ normShift x < 65536 ∧ normShift x ≤ 15 := by
  have hx : x ≠ 0 := by omega
  have l3 : x.log2 < 16 := (Nat.log2_lt hx).2 h1
  rw [normShift, ilogNz, show 16 - (x.log2 + 1) = 15 - x.log2 by omega]
  refine ⟨?_, mul_two_pow_lt 16 Nat.lt_log2_self (by omega), by omega⟩
  calc 32768 = 2 ^ x.log2 * 2 ^ (15 - x.log2) := by rw [← Nat.pow_add, Nat.add_sub_cancel' (by omega)]
    _ ≤ x * 2 ^ (15 - x.log2) := Nat.mul_le_mul_right _ (Nat.log2_self_le hx)

def AInv (a : AEnc) : Prop := 32768 ≤ a.r ∧ a.r < 65536

def Cont (X T : Nat) (a : AEnc) : Prop :=
  ∃ e, e + a.k + 15 = T ∧ a.L * 2 ^ e ≤ X ∧ X < (a.L + a.r) * 2 ^ e

def Rel (X T : Nat) (a : AEnc) (b : ADec) : Prop :=
  b.r = a.r ∧ b.e + a.k + 15 = T ∧ b.D + X + 1 = (a.L + a.r) * 2 ^ b.e

theorem ilogNz_add_normShift (x : Nat) (h0 : 1 ≤ x) (h1 : x < 65536) : ilogNz x + normShift x = 16 := by
  have : x.log2 < 16 := (Nat.log2_lt (by omega)).2 h1
  unfold normShift ilogNz; omega

/-- the interval after coding `[v, u)`, at the scale `e` of the interval before the step; additive, so that no truncated
    subtraction appears: `(L + r - u)·2^e ≤ X < (L + r - v)·2^e` -/
theorem step_core (X T : Nat) (a : AEnc) (u v : Nat) (huv : v < u) (hu : u ≤ a.r)
    (hc : Cont X T (aEncStep a u v)) :
    ∃ e, e + a.k + 15 = T ∧ normShift (u - v) ≤ e ∧
      (a.L + a.r) * 2 ^ e ≤ X + u * 2 ^ e ∧ X + v * 2 ^ e < (a.L + a.r) * 2 ^ e := by
  obtain ⟨e', he, h1, h2⟩ := hc
  simp only [aEncStep] at he h1 h2
  rw [← Nat.add_mul, Nat.mul_assoc, ← Nat.pow_add] at h2
  rw [Nat.mul_assoc, ← Nat.pow_add] at h1
  refine ⟨normShift (u - v) + e', by omega, by omega, ?_, ?_⟩
  · rw [show a.L + a.r = a.L + (a.r - u) + u by omega, Nat.add_mul _ u]; omega
  · rw [show a.L + a.r = a.L + (a.r - u) + (u - v) + v by omega, Nat.add_mul _ v]; omega

theorem cont_step (X T : Nat) (a : AEnc) (u v : Nat) (huv : v < u) (hu : u ≤ a.r)
    (hc : Cont X T (aEncStep a u v)) : Cont X T a := by
  obtain ⟨e, he, -, h1, h2⟩ := step_core X T a u v huv hu hc
  have := Nat.mul_le_mul_right (2 ^ e) hu
  rw [Nat.add_mul] at h1
  exact ⟨e, he, by omega, by omega⟩

theorem rel_step (X T : Nat) (a : AEnc) (b : ADec) (u v : Nat) (huv : v < u) (hu : u ≤ a.r)
    (hc : Cont X T (aEncStep a u v)) (hr : Rel X T a b) :
    v ≤ b.D / 2 ^ b.e ∧ b.D / 2 ^ b.e < u ∧ Rel X T (aEncStep a u v) (aDecStep b u v) := by
  obtain ⟨e, he, hd, h1, h2⟩ := step_core X T a u v huv hu hc
  obtain ⟨r1, r2, r3⟩ := hr
  obtain rfl : b.e = e := by omega
  have hM := Nat.two_pow_pos b.e
  refine ⟨(Nat.le_div_iff_mul_le hM).2 (by omega), (Nat.div_lt_iff_lt_mul hM).2 (by omega), rfl, ?_, ?_⟩
  · show b.e - normShift (u - v) + (a.k + normShift (u - v)) + 15 = T; omega
  · show b.D - v * 2 ^ b.e + X + 1 =
      ((a.L + (a.r - u)) * 2 ^ normShift (u - v) + (u - v) * 2 ^ normShift (u - v)) * 2 ^ (b.e - normShift (u - v))
    rw [← Nat.add_mul, Nat.mul_assoc, ← Nat.pow_add, Nat.add_sub_cancel' hd]
    have key : (a.L + (a.r - u) + (u - v)) * 2 ^ b.e + v * 2 ^ b.e = (a.L + a.r) * 2 ^ b.e := by
      rw [← Nat.add_mul]; congr 1; omega
    omega
def Prim.Valid : Prim → Prop
  | .sym c n s => ValidCdf c n ∧ s < n
  | .bool f bit => 0 < f ∧ f < 32768 ∧ bit ≤ 1

theorem bool_v_range (r f : Nat) (hr0 : 32768 ≤ r) (hr : r < 65536) (hf : f < 32768) :
    0 < scaleV r f 1 ∧ scaleV r f 1 < r := by
  refine ⟨?_, scaleV_lt_r r f 1 hr0 hr (by omega) (by omega)⟩
  rw [scaleV_eq r f 1 hr (by omega) (by omega)]; omega

theorem prim_interval (r : Nat) (p : Prim) (hr0 : 32768 ≤ r) (hr : r < 65536) (hp : p.Valid) :
    primV r p < primU r p ∧ primU r p ≤ r := by
  cases p with
  | sym c n s => exact sym_interval r c n s hr0 hr hp.1 hp.2
  | bool f bit =>
    have B := bool_v_range r f hr0 hr hp.2.1
    simp only [primU, primV]
    split <;> omega

theorem aEncPrim_inv (a : AEnc) (p : Prim) (ha : AInv a) (hp : p.Valid) : AInv (aEncPrim a p) := by
  have I := prim_interval a.r p ha.1 ha.2 hp
  have N := normShift_spec (primU a.r p - primV a.r p) (by omega) (by have := ha.2; omega)
  exact ⟨N.1, N.2.1⟩

theorem aEncPrims_spec : ∀ (ps : List Prim) (a : AEnc), AInv a → (∀ p ∈ ps, p.Valid) →
    AInv (aEncPrims a ps) ∧ a.k ≤ (aEncPrims a ps).k ∧ ∀ X T, Cont X T (aEncPrims a ps) → Cont X T a
  | [], _, ha, _ => ⟨ha, Nat.le_refl _, fun _ _ h => h⟩
  | p :: ps, a, ha, hv =>
    have hp := hv p List.mem_cons_self
    have I := prim_interval a.r p ha.1 ha.2 hp
    have ⟨i1, i2, i3⟩ := aEncPrims_spec ps (aEncPrim a p) (aEncPrim_inv a p ha hp) (fun q hq => hv q (List.mem_cons_of_mem _ hq))
    ⟨i1, Nat.le_trans (Nat.le_add_right _ _) i2, fun X T h => cont_step X T a _ _ I.1 I.2 (i3 X T h)⟩

theorem aEncPrims_inv : ∀ (ps : List Prim) (a : AEnc), AInv a → (∀ p ∈ ps, p.Valid) → AInv (aEncPrims a ps) :=
  fun ps a h hv => (aEncPrims_spec ps a h hv).1

theorem aEncPrims_append (a : AEnc) (ps qs : List Prim) : aEncPrims a (ps ++ qs) = aEncPrims (aEncPrims a ps) qs := by
  simp [aEncPrims, List.foldl_append]

/-- **dec_step_inverts_enc_step** -/
theorem aDecPrim_correct (X T : Nat) (a : AEnc) (b : ADec) (p : Prim) (ha : AInv a) (hp : p.Valid)
    (hc : Cont X T (aEncPrim a p)) (hr : Rel X T a b) :
    (aDecPrim b p).2 = p.value ∧ Rel X T (aEncPrim a p) (aDecPrim b p).1 := by
  have I := prim_interval a.r p ha.1 ha.2 hp
  obtain ⟨hv, hu, S⟩ := rel_step X T a b _ _ I.1 I.2 hc hr
  have hbr : b.r = a.r := hr.1
  cases p with
  | sym c n s =>
    rw [aDecPrim, hbr, decSearch_finds a.r c n s (b.D / 2 ^ b.e) ha.1 ha.2 hp.1 hp.2 hv hu]
    exact ⟨rfl, S⟩
  | bool f bit =>
    rw [aDecPrim, hbr]
    obtain rfl | rfl : bit = 0 ∨ bit = 1 := by have := hp.2.2; omega
    · rw [if_pos (show b.D / 2 ^ b.e ≥ scaleV a.r f 1 from hv)]; exact ⟨rfl, S⟩
    · rw [if_neg (show ¬ b.D / 2 ^ b.e ≥ scaleV a.r f 1 from Nat.not_le_of_lt hu)]; exact ⟨rfl, S⟩

theorem aDecPrims_correct (X T : Nat) : ∀ (ps : List Prim) (a : AEnc) (b : ADec), AInv a → (∀ p ∈ ps, p.Valid) →
    Cont X T (aEncPrims a ps) → Rel X T a b → aDecPrims b ps = ps.map Prim.value
  | [], _, _, _, _, _, _ => rfl
  | p :: ps, a, b, ha, hv, hc, hr => by
    have hp := hv p List.mem_cons_self
    have hv' : ∀ q ∈ ps, q.Valid := fun q hq => hv q (List.mem_cons_of_mem _ hq)
    have ha' := aEncPrim_inv a p ha hp
    have C := aDecPrim_correct X T a b p ha hp ((aEncPrims_spec ps _ ha' hv').2.2 X T hc) hr
    show (aDecPrim b p).2 :: aDecPrims (aDecPrim b p).1 ps = _
    rw [List.map_cons, C.1, aDecPrims_correct X T ps (aEncPrim a p) (aDecPrim b p).1 ha' hv' hc C.2]

theorem rel_init (X T : Nat) (hc : Cont X T aEncInit) :
    Rel X T aEncInit { D := 2 ^ T - 1 - X, r := 32768, e := T - 15 } := by
  obtain ⟨e, he, -, h2⟩ := hc
  obtain rfl : e + 15 = T := he
  refine ⟨rfl, Nat.sub_add_cancel (Nat.le_add_left 15 e), ?_⟩
  show 2 ^ (e + 15) - 1 - X + X + 1 = (0 + 32768) * 2 ^ (e + 15 - 15)
  rw [Nat.add_sub_cancel, Nat.zero_add, Nat.pow_add, Nat.mul_comm]
  rw [show (aEncInit.L + aEncInit.r) = 32768 from rfl] at h2
  omega

end RangeCoder
