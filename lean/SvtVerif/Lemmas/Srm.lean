/-
  C23 — the invariant of the System Resource Manager model (`Model/Srm.lean`) and the ring buffer's refinement.
  `Tr` is `step` in normal form.  Every clause of an invariant component speaks of one fifo or one object, and a step
  writes one fifo and moves one object: the clause is re-established there and stands elsewhere.
-/
import SvtVerif.Model.Srm

namespace Srm

theorem upd1_same {α : Type} (g : Side → α) (sd : Side) (v : α) : upd1 g sd v sd = v :=
  if_pos rfl

theorem upd1_ne {α : Type} {g : Side → α} {sd d : Side} {v : α} (h : d ≠ sd) : upd1 g sd v d = g d :=
  if_neg h

theorem upd2_same {α : Type} (g : Side → Nat → α) (sd : Side) (f : Nat) (v : α) : upd2 g sd f v sd f = v :=
  if_pos ⟨rfl, rfl⟩

theorem upd2_ne {α : Type} {g : Side → Nat → α} {sd d : Side} {f j : Nat} {v : α} (h : ¬ (d = sd ∧ j = f)) :
    upd2 g sd f v d j = g d j :=
  if_neg h

theorem assignN_preserves (P : State → Prop) (sd : Side)
    (hP : ∀ s s', P s → assignStep sd s = some s' → P s') : ∀ n s, P s → P (assignN sd n s) := by
  intro n
  induction n with
  | zero => intro s h; exact h
  | succ n ih =>
    intro s h
    unfold assignN
    split
    · rename_i s' he; exact ih s' (hP s s' h he)
    · exact h

theorem assign_preserves (P : State → Prop) (sd : Side)
    (hP : ∀ s s', P s → assignStep sd s = some s' → P s') (s : State) (h : P s) : P (assign sd s) :=
  assignN_preserves P sd hP _ s h

theorem assignStep_some {sd : Side} {s s' : State} (he : assignStep sd s = some s') :
    ∃ o os p ps, s.objQ sd = o :: os ∧ s.procQ sd = p :: ps ∧
      s' = { s with objQ := upd1 s.objQ sd os, procQ := upd1 s.procQ sd ps,
                    items := upd2 s.items sd p (s.items sd p ++ [o]),
                    sem := upd2 s.sem sd p (s.sem sd p + 1),
                    assigned := upd1 s.assigned sd (s.assigned sd ++ [(p, o)]),
                    loc := upd s.loc o (.fifo sd p) } := by
  unfold assignStep at he
  split at he
  · rename_i o os p ps ho hp
    simp only [Option.some.injEq] at he
    exact ⟨o, os, p, ps, ho, hp, he.symm⟩
  · simp at he

theorem assignStep_none {sd : Side} {s : State} (he : assignStep sd s = none) :
    s.objQ sd = [] ∨ s.procQ sd = [] := by
  unfold assignStep at he
  split at he
  · simp at he
  · rename_i hne
    cases ho : s.objQ sd with
    | nil => exact Or.inl rfl
    | cons o os =>
      cases hp : s.procQ sd with
      | nil => exact Or.inr rfl
      | cons p ps => exact absurd hp (hne o os p ps ho)

theorem assignN_fix (sd : Side) : ∀ n s, (s.objQ sd).length ≤ n →
    ((assignN sd n s).objQ sd = [] ∨ (assignN sd n s).procQ sd = []) := by
  intro n
  induction n with
  | zero =>
    intro s h
    left
    simp only [assignN]
    exact List.eq_nil_of_length_eq_zero (by omega)
  | succ n ih =>
    intro s h
    unfold assignN
    split
    · rename_i s' he
      obtain ⟨o, os, p, ps, ho, hp, rfl⟩ := assignStep_some he
      apply ih
      simp only [upd1, ↓reduceIte]
      rw [ho] at h
      simp only [List.length_cons] at h
      omega
    · rename_i he
      exact assignStep_none he

theorem assign_other (sd d : Side) (hd : d ≠ sd) (s : State) :
    (assign sd s).objQ d = s.objQ d ∧ (assign sd s).procQ d = s.procQ d := by
  apply assign_preserves (fun t => t.objQ d = s.objQ d ∧ t.procQ d = s.procQ d) sd _ s ⟨rfl, rfl⟩
  intro a b hab he
  obtain ⟨o, os, p, ps, _, _, rfl⟩ := assignStep_some he
  exact ⟨(upd1_ne hd).trans hab.1, (upd1_ne hd).trans hab.2⟩

theorem assign_frame (sd : Side) (s : State) :
    { assign sd s with objQ := s.objQ, procQ := s.procQ, items := s.items, sem := s.sem, assigned := s.assigned,
                       loc := s.loc } = s := by
  apply assign_preserves (fun t => { t with objQ := s.objQ, procQ := s.procQ, items := s.items, sem := s.sem,
                                            assigned := s.assigned, loc := s.loc } = s) sd _ s rfl
  intro a b hab he
  obtain ⟨o, os, p, ps, _, _, rfl⟩ := assignStep_some he
  exact hab

theorem assign_loc_pool (o : Nat) (s : State)
    (h : s.loc o = .objQ .empty ∨ ∃ p, s.loc o = .fifo .empty p) :
    (assign .empty s).loc o = .objQ .empty ∨ ∃ p, (assign .empty s).loc o = .fifo .empty p := by
  apply assign_preserves (fun s => s.loc o = .objQ .empty ∨ ∃ p, s.loc o = .fifo .empty p) .empty _ s h
  intro s s' h he
  obtain ⟨o', os, p, ps, ho, hp, rfl⟩ := assignStep_some he
  simp only [upd]
  by_cases hc : o = o'
  · right; exact ⟨p, by simp [hc]⟩
  · simpa [hc] using h

inductive Tr (s : State) : Op → State → Ret → Prop
  | reg (sd f pq) : f < s.nProc sd → (s.pc sd f = .idle ∨ (sd = .full ∧ s.pc sd f = .nbCall)) →
      pushProc (s.procQ sd) (s.nProc sd) f = some pq →
      Tr s (.reg sd f) (assign sd { s with procQ := upd1 s.procQ sd pq, pc := upd2 s.pc sd f .waiting }) .ok
  | nbReg (f pq) : f < s.nProc .full → s.pc .full f = .idle →
      pushProc (s.procQ .full) (s.nProc .full) f = some pq →
      Tr s (.nbReg f) (assign .full { s with nbUsed := true, procQ := upd1 s.procQ .full pq,
                                             pc := upd2 s.pc .full f .nbPeek }) .ok
  | peekSome (f) : s.pc .full f = .nbPeek → s.quit .full f = false → s.items .full f ≠ [] →
      Tr s (.peek f) { s with pc := upd2 s.pc .full f .nbCall } .nonEmpty
  | peekNone (f) : s.pc .full f = .nbPeek → ¬ (s.quit .full f = false ∧ s.items .full f ≠ []) →
      Tr s (.peek f) { s with pc := upd2 s.pc .full f .idle } .null
  | semWait (sd f) : s.pc sd f = .waiting → s.sem sd f ≠ 0 →
      Tr s (.semWait sd f) { s with sem := upd2 s.sem sd f (s.sem sd f - 1), pc := upd2 s.pc sd f .popping } .ok
  | popShut (f) : s.pc .full f = .popping → s.quit .full f = true →
      Tr s (.pop .full f) { s with pc := upd2 s.pc .full f .idle,
                                   shutRets := upd2 s.shutRets .full f (s.shutRets .full f + 1) } .shutdown
  | pop (sd f o rest) : s.pc sd f = .popping → ¬ (sd = .full ∧ s.quit sd f = true) → s.items sd f = o :: rest →
      Tr s (.pop sd f) { s with items := upd2 s.items sd f rest, pc := upd2 s.pc sd f .idle,
                                taken := upd2 s.taken sd f (s.taken sd f ++ [o]), loc := upd s.loc o .held,
                                live := if sd = .empty then upd s.live o 0 else s.live,            -- 617
                                relEn := if sd = .empty then upd s.relEn o true else s.relEn }     -- 620
        (.obj o)
  | post (o) : o < s.nObj → s.nProc .full ≠ 0 → (s.objQ .full).length < s.nObj →
      Tr s (.post o) (assign .full { s with objQ := upd1 s.objQ .full (s.objQ .full ++ [o]),
                                            loc := upd s.loc o (.objQ .full), posted := s.posted ++ [o] }) .ok
  | relPush (o) : o < s.nObj → s.relEn o = true → s.live o ≤ 1 → (s.objQ .empty).length < s.nObj →
      Tr s (.release o) (assign .empty { s with live := upd s.live o released,
                                                objQ := upd1 s.objQ .empty (o :: s.objQ .empty),
                                                loc := upd s.loc o (.objQ .empty) }) .ok
  | relKeep (o) : o < s.nObj → ¬ (s.relEn o = true ∧ s.live o ≤ 1) →
      Tr s (.release o) { s with live := upd s.live o (s.live o - 1) } .ok
  | incLive (o k) : o < s.nObj →
      Tr s (.incLive o k) { s with live := upd s.live o ((s.live o + k) % 4294967296) } .ok
  | setRel (o b) : o < s.nObj → Tr s (.setRel o b) { s with relEn := upd s.relEn o b } .ok
  | shutQuit (f) : f < s.nProc .full →
      Tr s (.shutQuit f) { s with quit := upd2 s.quit .full f true, shutUsed := true,
                                  shutPend := upd2 s.shutPend .full f (s.shutPend .full f + 1) } .ok
  | shutPost (f) : s.shutPend .full f ≠ 0 →
      Tr s (.shutPost f) { s with sem := upd2 s.sem .full f (s.sem .full f + 1),
                                  shutPend := upd2 s.shutPend .full f (s.shutPend .full f - 1),
                                  shutPosts := upd2 s.shutPosts .full f (s.shutPosts .full f + 1) } .ok

/-- `live_count--`, lines 570-571 -/
theorem satDec (n : Nat) : (if n = 0 then 0 else n - 1) = n - 1 := by
  split <;> omega

theorem register_ok {s s' : State} {sd f pc' r} (h : register s sd f pc' = .ok s' r) :
    ∃ pq, pushProc (s.procQ sd) (s.nProc sd) f = some pq ∧
      s' = assign sd { s with procQ := upd1 s.procQ sd pq, pc := upd2 s.pc sd f pc' } ∧ r = .ok := by
  unfold register at h
  split at h
  · cases h
  · rename_i pq hp
    refine ⟨pq, hp, ?_⟩
    injection h with h1 h2
    exact ⟨h1.symm, h2.symm⟩

theorem step_Tr {s s' : State} {op : Op} {r : Ret} (hs : step s op = .ok s' r) : Tr s op s' r := by
  cases op <;> simp only [step] at hs
  case reg sd f =>
    split at hs; · cases hs
    split at hs
    · obtain ⟨pq, hp, rfl, rfl⟩ := register_ok hs
      exact Tr.reg sd f pq (Decidable.of_not_not ‹_›) ‹_› hp
    · cases hs
  case nbReg f =>
    split at hs; · cases hs
    split at hs
    · obtain ⟨pq, hp, rfl, rfl⟩ := register_ok hs
      exact Tr.nbReg f pq (Decidable.of_not_not ‹_›) ‹_› hp
    · cases hs
  case peek f =>
    split at hs; · cases hs
    have hpc := Decidable.of_not_not ‹¬ s.pc .full f ≠ .nbPeek›
    split at hs <;> cases hs
    · exact Tr.peekSome f hpc (And.left ‹_›) (And.right ‹_›)
    · exact Tr.peekNone f hpc ‹_›
  case semWait sd f =>
    split at hs; · cases hs
    split at hs <;> cases hs
    exact Tr.semWait sd f (Decidable.of_not_not ‹_›) ‹_›
  case pop sd f =>
    split at hs; · cases hs
    have hpc := Decidable.of_not_not ‹¬ s.pc sd f ≠ .popping›
    split at hs
    · obtain ⟨rfl, hq⟩ := ‹sd = .full ∧ s.quit sd f = true›
      cases hs
      exact Tr.popShut f hpc hq
    · split at hs; · cases hs
      cases sd <;> cases hs <;> exact Tr.pop _ f _ _ hpc ‹_› ‹_›
  case post o =>
    split at hs; · cases hs
    split at hs; · cases hs
    split at hs <;> cases hs
    exact Tr.post o (Decidable.of_not_not ‹_›) ‹_› (Decidable.of_not_not ‹_›)
  case release o =>
    split at hs; · cases hs
    have ho := Decidable.of_not_not ‹¬ ¬ o < s.nObj›
    rw [satDec] at hs
    split at hs
    · obtain ⟨hr, h0⟩ := ‹s.relEn o = true ∧ s.live o - 1 = 0›
      split at hs <;> cases hs
      exact Tr.relPush o ho hr (by omega) (Decidable.of_not_not ‹_›)
    · cases hs
      exact Tr.relKeep o ho (fun hh => ‹¬ (s.relEn o = true ∧ s.live o - 1 = 0)› ⟨hh.1, by omega⟩)
  case incLive | setRel | shutQuit =>
    split at hs <;> cases hs
    constructor
    exact Decidable.of_not_not ‹_›
  case shutPost f =>
    split at hs <;> cases hs
    exact Tr.shutPost f ‹_›

theorem Tr_step {s s' : State} {op : Op} {r : Ret} (ht : Tr s op s' r) : step s op = .ok s' r := by
  cases ht
  case reg hf hpc hp => simp [step, register, hf, hpc, hp]
  case nbReg hf hpc hp => simp [step, register, hf, hpc, hp]
  case pop sd f o rest hpc hq hi => cases sd <;> simp_all [step]
  case relPush o ho hr hl hq =>
    simp [step, ho, hr, Nat.sub_eq_zero_of_le hl, hq]
  case relKeep o ho hn =>
    have : ¬ (s.relEn o = true ∧ s.live o - 1 = 0) := fun h => hn ⟨h.1, by omega⟩
    simp [step, ho, satDec, this]
  all_goals simp_all [step]

theorem shutdown_leaves_producer_blocked {s s' : State} {f g : Nat} {r : Ret}
    (hs : step s (.shutQuit f) = .ok s' r ∨ step s (.shutPost f) = .ok s' r)
    (hp : s.pc .empty g = .waiting) (h0 : s.sem .empty g = 0) : step s' (.semWait .empty g) = .blocked := by
  rcases hs with hs | hs <;> cases step_Tr hs <;> simp [step, hp, h0, upd2]

theorem pushProc_some {procQ : List Nat} {n f : Nat} {pq : List Nat} (h : pushProc procQ n f = some pq) :
    pq = f :: procQ ∨ (n = 1 ∧ pq = [f]) := by
  unfold pushProc at h
  split at h
  · left; injection h with h; exact h.symm
  · split at h
    · rename_i hn; right; injection h with h; exact ⟨hn, h.symm⟩
    · cases h

theorem pushProc_ne_none {procQ : List Nat} {n f : Nat} (h : procQ.length < n ∨ n = 1) : pushProc procQ n f ≠ none := by
  unfold pushProc
  split
  · simp
  · split
    · simp
    · rcases h with h | h <;> omega

/-- (I1) conservation: the ghost location of every object is exact, lists have no duplicates. -/
structure LocOk (s : State) : Prop where
  objQ_loc : ∀ sd o, o ∈ s.objQ sd → o < s.nObj ∧ s.loc o = .objQ sd
  fifo_loc : ∀ sd f o, o ∈ s.items sd f → o < s.nObj ∧ s.loc o = .fifo sd f
  objQ_nodup : ∀ sd, (s.objQ sd).Nodup
  fifo_nodup : ∀ sd f, (s.items sd f).Nodup
  loc_objQ : ∀ o sd, o < s.nObj → s.loc o = .objQ sd → o ∈ s.objQ sd
  loc_fifo : ∀ o sd f, o < s.nObj → s.loc o = .fifo sd f → o ∈ s.items sd f

/-- (I2) after every atomic step, no muxing queue has both a waiting object and a waiting process. -/
def I2 (s : State) : Prop := ∀ sd, s.objQ sd = [] ∨ s.procQ sd = []

/-- (I3) semaphore accounting. -/
structure SemOk (s : State) : Prop where
  bal : ∀ sd f, s.sem sd f + (if s.pc sd f = .popping then 1 else 0) + s.shutRets sd f
                  = (s.items sd f).length + s.shutPosts sd f
  noquit : ∀ sd f, s.quit sd f = false → s.shutPosts sd f = 0 ∧ s.shutRets sd f = 0 ∧ s.shutPend sd f = 0
  emptyq : ∀ f, s.quit .empty f = false

/-- (I4a) no lost registration; everything in the process ring / assignment log is a real fifo. -/
structure RegOk (s : State) : Prop where
  waiting : ∀ sd f, s.pc sd f = .waiting → f ∈ s.procQ sd ∨ 0 < s.sem sd f
  bound : ∀ sd f, f ∈ s.procQ sd → f < s.nProc sd
  abound : ∀ sd x, x ∈ s.assigned sd → x.1 < s.nProc sd

/-- (I5) order. -/
structure OrderOk (s : State) : Prop where
  posted : (s.assigned .full).map Prod.snd ++ s.objQ .full = s.posted
  perFifo : ∀ sd f, ((s.assigned sd).filter (fun x => x.1 = f)).map Prod.snd = s.taken sd f ++ s.items sd f

/-- (I4b) on a queue used with blocking calls only and not shut down (always: the empty queue), a fifo is
    registered at most once, and its semaphore is 0 or 1. -/
structure ProcOk (s : State) : Prop where
  nodup : ∀ sd, (sd = .empty ∨ (s.nbUsed = false ∧ s.shutUsed = false)) → (s.procQ sd).Nodup
  inq : ∀ sd f, (sd = .empty ∨ (s.nbUsed = false ∧ s.shutUsed = false)) → f ∈ s.procQ sd →
    s.pc sd f = .waiting ∧ s.sem sd f = 0
  semw : ∀ sd f, (sd = .empty ∨ (s.nbUsed = false ∧ s.shutUsed = false)) →
    (s.pc sd f = .waiting → s.sem sd f ≤ 1) ∧ (s.pc sd f ≠ .waiting → s.sem sd f = 0)
  pend : s.shutUsed = false → ∀ f, s.shutPend .full f = 0

theorem LocOk.put {s : State} (h : LocOk s) {sd : Side} {o : Nat} {l : List Nat} (hl : l.Perm (o :: s.objQ sd))
    (ho : o < s.nObj) (hh : s.loc o = .held) :
    LocOk { s with objQ := upd1 s.objQ sd l, loc := upd s.loc o (.objQ sd) } := by
  have hm := fun x => hl.mem_iff (a := x)
  have hn := hl.nodup_iff
  have := h.objQ_loc sd o
  refine ⟨fun d x => ?_, fun d g x => ?_, fun d => ?_, h.fifo_nodup, fun x d => ?_, fun x d g => ?_⟩
  all_goals simp only [upd, upd1]
  · have := h.objQ_loc d x
    grind
  · have := h.fifo_loc d g x
    grind
  · have := h.objQ_nodup d
    grind
  · have := h.loc_objQ x d
    grind
  · have := h.loc_fifo x d g
    grind

theorem assignStep_LocOk (sd : Side) (s s' : State) (h : LocOk s) (he : assignStep sd s = some s') : LocOk s' := by
  obtain ⟨o, os, p, ps, ho, hp, rfl⟩ := assignStep_some he
  -- `o` was the front of ring `sd`, hence nowhere else
  have hq := h.objQ_loc sd
  have hn := h.objQ_nodup sd
  rw [ho] at hq hn
  refine ⟨fun d x => ?_, fun d g x => ?_, fun d => ?_, fun d g => ?_, fun x d => ?_, fun x d g => ?_⟩
  all_goals simp only [upd, upd1, upd2]
  · have := h.objQ_loc d x
    grind
  · have := h.fifo_loc d g x
    grind
  · have := h.objQ_nodup d
    grind
  · have := h.fifo_nodup d g
    have := h.fifo_loc d g o
    grind
  · have := h.loc_objQ x d
    grind
  · have := h.loc_fifo x d g
    grind

theorem Tr_LocOk {s s' : State} {op : Op} {r : Ret} (h : LocOk s) (hw : WellUsed s op) (ht : Tr s op s' r) : LocOk s' := by
  cases ht
  case pop sd f o rest _ _ hi =>
    have hf := h.fifo_loc sd f
    have hn := h.fifo_nodup sd f
    rw [hi] at hf hn
    refine ⟨fun d x => ?_, fun d g x => ?_, h.objQ_nodup, fun d g => ?_, fun x d => ?_, fun x d g => ?_⟩
    all_goals simp only [upd, upd2]
    · have := h.objQ_loc d x
      grind
    · have := h.fifo_loc d g x
      grind
    · have := h.fifo_nodup d g
      grind
    · have := h.loc_objQ x d
      grind
    · have := h.loc_fifo x d g
      grind
  case post o ho _ _ =>
    apply assign_preserves LocOk _ (assignStep_LocOk _)
    exact { h.put (List.perm_append_singleton o _) ho hw with }
  case relPush o ho _ _ _ =>
    apply assign_preserves LocOk _ (assignStep_LocOk _)
    exact { h.put (List.Perm.refl _) ho hw with }
  case reg | nbReg =>
    apply assign_preserves LocOk _ (assignStep_LocOk _)
    exact { h with }
  all_goals exact { h with }

theorem Tr_I2 {s s' : State} {op : Op} {r : Ret} (h : I2 s) (ht : Tr s op s' r) : I2 s' := by
  have key : ∀ sd (s0 : State), (∀ d, d ≠ sd → s0.objQ d = s.objQ d ∧ s0.procQ d = s.procQ d) → I2 (assign sd s0) := by
    intro sd s0 h0 d
    by_cases hd : d = sd
    · subst hd; exact assignN_fix d _ s0 (Nat.le_refl _)
    · rw [(assign_other sd d hd s0).1, (assign_other sd d hd s0).2, (h0 d hd).1, (h0 d hd).2]
      exact h d
  cases ht
  case reg | nbReg | post | relPush =>
    apply key; intro d hd; simp only [upd1, hd, ↓reduceIte, and_self]
  all_goals exact h

theorem assignStep_SemOk (sd : Side) (s s' : State) (h : SemOk s) (he : assignStep sd s = some s') : SemOk s' := by
  obtain ⟨o, os, p, ps, ho, hp, rfl⟩ := assignStep_some he
  refine ⟨fun d g => ?_, h.noquit, h.emptyq⟩
  have := h.bal d g
  simp only [upd2]
  grind

theorem Tr_SemOk {s s' : State} {op : Op} {r : Ret} (h : SemOk s) (ht : Tr s op s' r) : SemOk s' := by
  cases ht
  case reg | nbReg =>
    apply assign_preserves SemOk _ (assignStep_SemOk _)
    refine ⟨fun d g => ?_, h.noquit, h.emptyq⟩
    have := h.bal d g
    simp only [upd2]
    grind
  case post | relPush =>
    apply assign_preserves SemOk _ (assignStep_SemOk _)
    exact { h with }
  case peekSome | peekNone | semWait | pop =>
    refine ⟨fun d g => ?_, h.noquit, h.emptyq⟩
    have := h.bal d g
    simp only [upd2]
    grind
  case popShut | shutQuit | shutPost =>
    -- `shutPend ≠ 0` implies `quit_signal`
    refine ⟨fun d g => ?_, fun d g => ?_, fun g => ?_⟩
    · have := h.bal d g
      simp only [upd2]
      grind
    · have := h.noquit d g
      simp only [upd2]
      grind
    · have := h.emptyq g
      simp only [upd2]
      grind
  all_goals exact { h with }

theorem RegOk.register {s : State} (h : RegOk s) {sd : Side} {f : Nat} {pq : List Nat} (pc' : Pc)
    (hf : f < s.nProc sd) (hp : pushProc (s.procQ sd) (s.nProc sd) f = some pq) :
    RegOk { s with procQ := upd1 s.procQ sd pq, pc := upd2 s.pc sd f pc' } := by
  -- on the one-slot ring `f` is the only index (`bound`), so nobody is dropped
  have := pushProc_some hp
  refine ⟨fun d g => ?_, fun d g => ?_, h.abound⟩
  · have := h.waiting d g
    have := h.bound d g
    simp only [upd1, upd2]
    grind
  · have := h.bound d g
    simp only [upd1]
    grind

theorem assignStep_RegOk (sd : Side) (s s' : State) (h : RegOk s) (he : assignStep sd s = some s') : RegOk s' := by
  obtain ⟨o, os, p, ps, ho, hp, rfl⟩ := assignStep_some he
  have := h.bound sd p
  refine ⟨fun d g => ?_, fun d g => ?_, fun d x => ?_⟩
  all_goals simp only [upd1, upd2]
  · have := h.waiting d g
    grind
  · have := h.bound d g
    grind
  · have := h.abound d x
    grind

theorem Tr_RegOk {s s' : State} {op : Op} {r : Ret} (h : RegOk s) (ht : Tr s op s' r) : RegOk s' := by
  cases ht
  case reg sd f pq hf hpc hp =>
    apply assign_preserves RegOk _ (assignStep_RegOk _)
    exact h.register .waiting hf hp
  case nbReg f pq hf hpc hp =>
    apply assign_preserves RegOk _ (assignStep_RegOk _)
    exact { h.register .nbPeek hf hp with }
  case post | relPush =>
    apply assign_preserves RegOk _ (assignStep_RegOk _)
    exact { h with }
  case peekSome | peekNone | popShut | pop | semWait | shutPost =>
    refine ⟨fun d g => ?_, h.bound, h.abound⟩
    have := h.waiting d g
    simp only [upd2]
    grind
  all_goals exact { h with }

theorem assignStep_OrderOk (sd : Side) (s s' : State) (h : OrderOk s) (he : assignStep sd s = some s') : OrderOk s' := by
  obtain ⟨o, os, p, ps, ho, hp, rfl⟩ := assignStep_some he
  refine ⟨?_, fun d f => ?_⟩
  · have := h.posted
    simp only [upd1]
    cases sd <;> grind
  · have := h.perFifo d f
    simp only [upd1, upd2]
    grind

theorem Tr_OrderOk {s s' : State} {op : Op} {r : Ret} (h : OrderOk s) (ht : Tr s op s' r) : OrderOk s' := by
  cases ht
  case post o _ _ _ =>
    apply assign_preserves OrderOk _ (assignStep_OrderOk _)
    exact ⟨by simp only [upd1, ↓reduceIte, ← h.posted, List.append_assoc], h.perFifo⟩
  case relPush =>
    apply assign_preserves OrderOk _ (assignStep_OrderOk _)
    exact ⟨h.posted, h.perFifo⟩
  case reg | nbReg =>
    apply assign_preserves OrderOk _ (assignStep_OrderOk _)
    exact { h with }
  case pop sd f o rest _ _ hi =>
    refine ⟨h.posted, fun d g => ?_⟩
    have := h.perFifo d g
    simp only [upd2]
    grind
  all_goals exact { h with }

theorem assignStep_ProcOk (sd : Side) (s s' : State) (h : ProcOk s) (he : assignStep sd s = some s') : ProcOk s' := by
  obtain ⟨o, os, p, ps, ho, hp, rfl⟩ := assignStep_some he
  have hn := h.nodup sd
  have hi := h.inq sd p
  rw [hp] at hn hi
  refine ⟨fun d => ?_, fun d g => ?_, fun d g => ?_, h.pend⟩
  · have := h.nodup d
    simp only [upd1]
    grind
  · have := h.inq d g
    simp only [upd1, upd2]
    grind
  · have := h.semw d g
    simp only [upd2]
    grind

theorem Tr_ProcOk {s s' : State} {op : Op} {r : Ret} (h : ProcOk s) (ht : Tr s op s' r) : ProcOk s' := by
  cases ht
  case reg sd f pq hf hpc hp =>
    apply assign_preserves ProcOk _ (assignStep_ProcOk _)
    have := h.nodup sd
    have := h.inq sd f
    have := h.semw sd f
    have := pushProc_some hp
    refine ⟨fun d => ?_, fun d g => ?_, fun d g => ?_, h.pend⟩
    · have := h.nodup d
      simp only [upd1]
      grind
    · have := h.inq d g
      simp only [upd1, upd2]
      grind
    · have := h.semw d g
      simp only [upd2]
      grind
  case nbReg =>
    apply assign_preserves ProcOk _ (assignStep_ProcOk _)
    refine ⟨fun d => ?_, fun d g => ?_, fun d g => ?_, h.pend⟩
    · have := h.nodup d
      simp only [upd1]
      grind
    · have := h.inq d g
      simp only [upd1, upd2]
      grind
    · have := h.semw d g
      simp only [upd2]
      grind
  case post | relPush =>
    apply assign_preserves ProcOk _ (assignStep_ProcOk _)
    exact { h with }
  case peekSome | peekNone | popShut | pop | semWait =>
    refine ⟨h.nodup, fun d g => ?_, fun d g => ?_, h.pend⟩
    · have := h.inq d g
      simp only [upd2]
      grind
    · have := h.semw d g
      simp only [upd2]
      grind
  case shutQuit | shutPost =>
    -- `shutPend ≠ 0` implies `shutUsed`, and then the component speaks of the empty queue only
    have := h.pend
    refine ⟨fun d => ?_, fun d g => ?_, fun d g => ?_, ?_⟩
    · have := h.nodup d
      grind
    · have := h.inq d g
      simp only [upd2]
      grind
    · have := h.semw d g
      simp only [upd2]
      grind
    · simp only [upd2]
      grind
  all_goals exact { h with }

structure Inv (s : State) : Prop where
  loc : LocOk s
  i2 : I2 s
  sem : SemOk s
  reg : RegOk s
  order : OrderOk s
  proc : ProcOk s

theorem init_Inv (nObj nProd nCons : Nat) : Inv (init nObj nProd nCons) := by
  refine ⟨?_, ?_, ?_, ?_, ?_, ?_⟩
  · constructor
    · intro sd o h; cases sd <;> simp_all [init]
    · intro sd f o h; simp [init] at h
    · intro sd; cases sd <;> simp [init, List.nodup_range]
    · intro sd f; simp [init]
    · intro o sd ho h; cases sd <;> simp_all [init]
    · intro o sd f ho h; simp [init] at h
  · intro sd; right; rfl
  · constructor <;> simp [init]
  · constructor <;> simp [init]
  · constructor
    · simp [init]
    · intro sd f; simp [init]
  · constructor <;> simp [init]

theorem step_Inv {s s' : State} {op : Op} {r : Ret} (h : Inv s) (hw : WellUsed s op)
    (hs : step s op = .ok s' r) : Inv s' :=
  have ht := step_Tr hs
  ⟨Tr_LocOk h.loc hw ht, Tr_I2 h.i2 ht, Tr_SemOk h.sem ht, Tr_RegOk h.reg ht, Tr_OrderOk h.order ht,
   Tr_ProcOk h.proc ht⟩

theorem reachable_Inv {s : State} (h : Reachable s) : Inv s := by
  induction h with
  | init n p c => exact init_Inv n p c
  | step _ hw hs ih => exact step_Inv ih hw hs

theorem Inv.token {s : State} (h : Inv s) {sd : Side} {f : Nat} (hi : s.items sd f ≠ []) (hq : s.quit sd f = false) :
    s.pc sd f = .popping ∨ 0 < s.sem sd f := by
  have hb := h.sem.bal sd f
  have hn := h.sem.noquit sd f hq
  have := List.length_pos_iff.2 hi
  by_cases hp : s.pc sd f = .popping
  · exact Or.inl hp
  · rw [if_neg hp] at hb
    exact Or.inr (by omega)

theorem Inv.sem_pos {s : State} (h : Inv s) {sd : Side} {f : Nat} (hp : s.pc sd f = .waiting)
    (hi : s.items sd f ≠ []) (hq : s.quit sd f = false) : s.sem sd f ≠ 0 :=
  (h.token hi hq).elim (fun e => by rw [hp] at e; cases e) Nat.pos_iff_ne_zero.1

theorem nodup_bounded_length : ∀ (n : Nat) (l : List Nat), l.Nodup → (∀ x, x ∈ l → x < n) → l.length ≤ n :=
  fun n _ hn h => List.length_range (n := n) ▸ hn.length_le_of_subset fun x hx => List.mem_range.2 (h x hx)

theorem nodup_room {n x : Nat} {l : List Nat} (hnd : l.Nodup) (hb : ∀ y, y ∈ l → y < n) (hx : x < n) (hn : x ∉ l) :
    l.length < n :=
  nodup_bounded_length n (x :: l) (List.nodup_cons.2 ⟨hn, hnd⟩)
    (fun y hy => (List.mem_cons.1 hy).elim (fun e => e ▸ hx) (hb y))

theorem procQ_room {s : State} (h : Inv s) (sd : Side) (f : Nat)
    (hc : sd = .empty ∨ (s.nbUsed = false ∧ s.shutUsed = false)) (hf : f < s.nProc sd)
    (hpc : s.pc sd f ≠ .waiting) : (s.procQ sd).length < s.nProc sd :=
  nodup_room (h.proc.nodup sd hc) (h.reg.bound sd) hf (fun hm => hpc (h.proc.inq sd f hc hm).1)

theorem objQ_room {s : State} (h : Inv s) (sd : Side) (o : Nat) (ho : o < s.nObj) (hl : s.loc o = .held) :
    (s.objQ sd).length < s.nObj :=
  nodup_room (h.loc.objQ_nodup sd) (fun x hx => (h.loc.objQ_loc sd x hx).1) ho
    (fun hm => by have := (h.loc.objQ_loc sd o hm).2; rw [hl] at this; cases this)

def ArgsOk (s : State) : Op → Prop
  | .reg sd f => f < s.nProc sd
  | .nbReg f => f < s.nProc .full
  | .post o => o < s.nObj ∧ s.nProc .full ≠ 0
  | .release o => o < s.nObj
  | .incLive o _ => o < s.nObj
  | .setRel o _ => o < s.nObj
  | .shutQuit f => f < s.nProc .full
  | _ => True

instance (s : State) (op : Op) : Decidable (ArgsOk s op) := by
  cases op <;> unfold ArgsOk <;> infer_instance

theorem register_ne_ub {s : State} {sd : Side} {f : Nat} {pc' : Pc} {w : String}
    (h : (s.procQ sd).length < s.nProc sd ∨ s.nProc sd = 1) : register s sd f pc' ≠ .ub w := by
  unfold register
  split
  · exact absurd ‹_› (pushProc_ne_none h)
  · simp

theorem no_ub {s : State} {op : Op} (h : Inv s) (hw : WellUsed s op) (ha : ArgsOk s op)
    (hc : (s.nbUsed = false ∧ s.shutUsed = false) ∨ s.nProc .full = 1) : ∀ w, step s op ≠ .ub w := by
  intro w
  have room : ∀ sd f, f < s.nProc sd → s.pc sd f ≠ .waiting →
      (s.procQ sd).length < s.nProc sd ∨ s.nProc sd = 1 := by
    intro sd f hf hnw
    cases sd with
    | empty => exact Or.inl (procQ_room h .empty f (Or.inl rfl) hf hnw)
    | full => exact hc.imp (fun hc => procQ_room h .full f (Or.inr hc) hf hnw) id
  cases op <;> simp only [ArgsOk, WellUsed] at ha hw <;> simp only [step]
  case reg sd f =>
    rw [if_neg (not_not_intro ha)]
    split
    · refine register_ne_ub (room sd f ha ?_)
      rcases ‹_ ∨ _› with e | ⟨_, e⟩ <;> rw [e] <;> decide
    · simp
  case nbReg f =>
    rw [if_neg (not_not_intro ha)]
    split
    · exact register_ne_ub (s := { s with nbUsed := true }) (room .full f ha (by rw [‹s.pc .full f = .idle›]; decide))
    · simp
  case pop sd f =>
    split; · simp
    split; · simp
    have := h.sem.bal sd f
    have := h.sem.noquit sd f
    have := h.sem.emptyq f
    -- the token a `popping` thread took was an object's (`quit_signal` clear), so the fifo is not empty
    split
    · cases sd <;> grind
    · cases sd <;> simp
  case post o =>
    rw [if_neg (not_not_intro ha.1), if_neg ha.2, if_neg (not_not_intro (objQ_room h .full o ha.1 hw))]
    simp
  case release o =>
    rw [if_neg (not_not_intro ha)]
    simp only [if_neg (not_not_intro (objQ_room h .empty o ha hw))]
    split <;> split <;> simp
  case incLive | setRel | shutQuit =>
    rw [if_neg (not_not_intro ha)]
    simp
  all_goals
    repeat' split
    all_goals simp

def Res.ret? : Res → Option Ret
  | .ok _ r => some r
  | _ => none

theorem Res.ret?_some {x : Res} {r : Ret} (h : x.ret? = some r) : ∃ s', x = .ok s' r := by
  cases x with
  | ok s' r' => simp only [Res.ret?, Option.some.injEq] at h; exact ⟨s', by rw [h]⟩
  | blocked => cases h
  | badPc => cases h
  | ub w => cases h

/-- Run atomic steps, checking the caller protocol; `none` if a step is not enabled. -/
def runW (s : State) : List Op → Option State
  | [] => some s
  | op :: ops =>
    if WellUsed s op then
      match step s op with
      | .ok s' _ => runW s' ops
      | _ => none
    else none

theorem runW_reachable : ∀ (ops : List Op) (s s' : State), Reachable s → runW s ops = some s' → Reachable s' := by
  intro ops
  induction ops with
  | nil => intro s s' h hr; simp only [runW, Option.some.injEq] at hr; exact hr ▸ h
  | cons op ops ih =>
    intro s s' h hr
    unfold runW at hr
    split at hr
    · rename_i hw
      split at hr
      · rename_i s1 r hs
        exact ih s1 s' (Reachable.step h hw hs) hr
      · cases hr
    · cases hr

theorem exists_reachable_of_run (n p c : Nat) (ops : List Op) (P : State → Prop) [DecidablePred P]
    (h : (runW (init n p c) ops).map (fun s => decide (P s)) = some true) : ∃ s, Reachable s ∧ P s := by
  cases hr : runW (init n p c) ops with
  | none => rw [hr] at h; cases h
  | some s =>
    rw [hr] at h
    simp only [Option.map_some, Option.some.injEq, decide_eq_true_eq] at h
    exact ⟨s, runW_reachable ops _ s (Reachable.init n p c) hr, h⟩

namespace CircBuf

/-- array index of the `i`-th queue element (no `%`: `head, i < cap`). -/
def idx (b : CircBuf) (i : Nat) : Nat := if b.head + i < b.cap then b.head + i else b.head + i - b.cap

/-- `Rep b l`: the array of `b` holds the queue `l` (front first) starting at `head`, cyclically, NULL elsewhere. -/
structure Rep (b : CircBuf) (l : List Nat) : Prop where
  len : b.arr.length = b.cap
  pos : 0 < b.cap
  head : b.head < b.cap
  fit : l.length ≤ b.cap
  tail : b.tail = if l.length = b.cap then b.head else idx b l.length
  cells : ∀ i, i < b.cap → (b.arr[idx b i]?).getD 0 = (l[i]?).getD 0
  nz : ∀ x, x ∈ l → x ≠ 0

variable {b : CircBuf} {l : List Nat} {i k p x : Nat}

theorem idx_zero (hh : b.head < b.cap) : idx b 0 = b.head := if_pos hh

theorem idx_cap (b : CircBuf) : idx b b.cap = b.head := by
  unfold idx
  lia

theorem idx_lt (hh : b.head < b.cap) (hi : i ≤ b.cap) : idx b i < b.cap := by
  unfold idx
  lia

theorem idx_inj (hi : i < b.cap) (hk : k < b.cap) (h : idx b i = idx b k) : i = k := by
  unfold idx at h
  lia

theorem idx_succ (hh : b.head < b.cap) (hi : i < b.cap) :
    (if idx b i = b.cap - 1 then 0 else idx b i + 1) = idx b (i + 1) := by
  unfold idx
  lia

/-- `hs`: `popFront` steps the head forward from `b'` to `b`, or `pushFront` steps it back from `b` to `b'`. -/
theorem idx_shift (b b' : CircBuf) (c : Nat) (hc : b.cap = c) (hc' : b'.cap = c)
    (hs : b'.head < c ∧ b.head = (if b'.head = c - 1 then 0 else b'.head + 1) ∨
      b.head < c ∧ b'.head = if b.head = 0 then c - 1 else b.head - 1) :
    b.head < c ∧ b'.head < c ∧ ∀ i, i < c → idx b i = idx b' (i + 1) := by
  unfold idx
  grind

theorem Rep.tail_idx (h : Rep b l) : b.tail = idx b l.length := by
  rw [h.tail]
  unfold idx
  lia

/-- Every ring operation writes one slot: `x` to the slot of element `k`; the other cells of `a` agree with `l`. -/
theorem Rep.write {a : List Nat} {c : Nat} (ha : a.length = c) (harr : b.arr = a.set p x) (hcap : b.cap = c)
    (hh : b.head < c) (hfit : l.length ≤ c) (ht : b.tail = idx b l.length) (hk : k < c) (hp : p = idx b k)
    (hx : (l[k]?).getD 0 = x) (hc : ∀ i, i < c → i ≠ k → (a[idx b i]?).getD 0 = (l[i]?).getD 0)
    (hnz : ∀ y, y ∈ l → y ≠ 0) : Rep b l := by
  subst hcap
  refine ⟨by rw [harr, List.length_set, ha], Nat.zero_lt_of_lt hh, hh, hfit, ?_, fun i hi => ?_, hnz⟩
  · rw [ht]
    unfold idx
    lia
  · rw [harr, hp, List.getElem?_set]
    by_cases e : i = k
    · subst e
      simp [ha, hx, idx_lt hh (Nat.le_of_lt hk)]
    · rw [if_neg fun h => e (idx_inj hk hi h).symm]
      exact hc i hi e

theorem rep_new (cap : Nat) (h : 0 < cap) : Rep (new cap) [] := by
  refine ⟨by simp [new], h, h, by simp, by simp [new, idx, h], fun i hi => ?_, by simp⟩
  simp only [new, List.getElem?_replicate]
  split <;> rfl

theorem rep_isEmpty (h : Rep b l) : b.isEmpty = true ↔ l = [] := by
  have hc := h.cells 0 h.pos
  have ht := h.tail_idx
  rw [idx_zero h.head] at hc
  cases l with
  | nil => simp_all [isEmpty, idx_zero h.head]
  | cons x t =>
    have := h.nz x (by simp)
    simp_all [isEmpty]

theorem rep_pushBack (h : Rep b l) (hl : l.length < b.cap) (hx : x ≠ 0) :
    Rep (b.pushBack x) (l ++ [x]) := by
  have ht := h.tail_idx
  refine .write h.len rfl rfl h.head (List.length_append ▸ hl) ?_ hl ht (by simp)
    (fun i hi e => (h.cells i hi).trans (by grind)) (by grind [h.nz])
  show (if b.tail = b.cap - 1 then 0 else b.tail + 1) = idx b (l ++ [x]).length
  rw [ht, List.length_append]
  exact idx_succ h.head hl

theorem rep_pushFront (h : Rep b l) (hl : l.length < b.cap) (hx : x ≠ 0) :
    Rep (b.pushFront x) (x :: l) := by
  obtain ⟨-, hh', hshift⟩ := idx_shift b (b.pushFront x) b.cap rfl rfl (.inr ⟨h.head, rfl⟩)
  refine .write h.len rfl rfl hh' hl (h.tail_idx.trans (hshift _ hl)) h.pos (idx_zero hh').symm rfl
    (fun i hi e => ?_) (by grind [h.nz])
  obtain _ | j := i
  · contradiction
  · rw [← hshift j (by omega)]
    exact h.cells j (by omega)

theorem rep_popFront (h : Rep b (x :: l)) :
    b.popFront.1 = x ∧ Rep b.popFront.2 l := by
  obtain ⟨hh', -, hshift⟩ := idx_shift b.popFront.2 b b.cap rfl rfl (.inl ⟨h.head, rfl⟩)
  have hfit : l.length + 1 ≤ b.cap := h.fit
  constructor
  · have := h.cells 0 h.pos
    rwa [idx_zero h.head, ← List.getD_eq_getElem?_getD] at this
  · -- NULL is written to old element 0, which is new element `cap - 1`, past the end of `l`
    refine .write h.len rfl rfl hh' (by omega) (h.tail_idx.trans (hshift _ hfit).symm) (k := b.cap - 1) (by omega) ?_
      (by rw [List.getElem?_eq_none (by omega)]; rfl) (fun i hi e => ?_) fun y hy => h.nz y (.tail _ hy)
    · rw [hshift _ (by omega), Nat.sub_add_cancel h.pos, idx_cap]
    · rw [hshift i hi]
      exact h.cells (i + 1) (by omega)

/-- The double registration of `svt_get_full_object_non_blocking` on a single-consumer resource:
    `push_front` on a *full one-slot* ring overwrites the only slot; the ring still reads as a one-element
    queue (only `current_count`, which nothing reads, is off). -/
theorem rep_pushFront_full_single {y : Nat} (h : Rep b [y]) (hc : b.cap = 1) (hx : x ≠ 0) :
    Rep (b.pushFront x) [x] := by
  obtain ⟨-, hh', hshift⟩ := idx_shift b (b.pushFront x) b.cap rfl rfl (.inr ⟨h.head, rfl⟩)
  have ht := (h.tail.trans (if_pos hc.symm)).trans ((idx_zero h.head).symm.trans (hshift 0 h.pos))
  exact .write h.len rfl rfl hh' h.pos ht h.pos (idx_zero hh').symm rfl (fun i hi e => by omega) (by simpa)

end CircBuf

end Srm
