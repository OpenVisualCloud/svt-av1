/-
  C09 — the frame: tiles → LF → CDEF → LR tied by the row maps (`DecWf.fstep`).  Safety invariant `FInv`:
  what a set map entry / an entered row implies about the previous stage.
-/
import SvtVerif.Lemmas.DecWavefrontSched

namespace DecWf

/-- the row body of `p` has been entered (the gate spin was left) -/
def entered : Ph → Prop
  | .unpicked => False
  | .gate => False
  | _ => True

theorem step_row {s : Stage} {st st' : WSt} {g : Nat → Bool} {op : Op} (hi : Inv s st)
    (h : step s g st op = some st') (r : Nat) :
    lget st'.ph r = lget st.ph r ∨ ∃ p p', lget st.ph r = p ∧ lget st'.ph r = p' ∧ Tr s g st op r p p' st' := by
  rcases step_cases hi h with b | ⟨r0, p, p', hr0, hp, t⟩
  · exact Or.inl (by rw [b.same.1])
  · rw [t.ph_eq]
    by_cases e : r0 = r
    · subst e; exact Or.inr ⟨p, p', hp, lget_lset_self _ _ _ (hi.len_ph ▸ hr0), t⟩
    · exact Or.inl (lget_lset_ne _ _ _ _ e)

theorem fin_stable {s : Stage} {st st' : WSt} {g : Nat → Bool} {op : Op} (hi : Inv s st)
    (h : step s g st op = some st') {r : Nat} (hf : lget st.ph r = Ph.fin) : lget st'.ph r = Ph.fin := by
  rcases step_row hi h r with e | ⟨p, p', hp, _, t⟩
  · exact e.trans hf
  · rw [hf] at hp; subst hp; cases t

theorem entered_stable {s : Stage} {st st' : WSt} {g : Nat → Bool} {op : Op} (hi : Inv s st)
    (h : step s g st op = some st') {r : Nat} (hf : entered (lget st.ph r)) : entered (lget st'.ph r) := by
  rcases step_row hi h r with e | ⟨p, p', hp, hp', t⟩
  · rw [e]; exact hf
  · rw [hp] at hf; rw [hp']
    cases t <;> first | exact hf | exact True.intro

theorem entered_step {s : Stage} {st st' : WSt} {g : Nat → Bool} {op : Op} (hi : Inv s st)
    (h : step s g st op = some st') {P : Nat → Prop} (hold : ∀ r, entered (lget st.ph r) → P r)
    (hgate : ∀ r, g r = true → P r) : ∀ r, entered (lget st'.ph r) → P r := by
  intro r hf
  rcases step_row hi h r with e | ⟨p, p', hp, hp', t⟩
  · exact hold r (e ▸ hf)
  · rw [hp'] at hf
    have hold := hold r
    rw [hp] at hold
    cases t with
    | enter1 hg => exact hgate r hg
    | enter2 hg => exact hgate r hg
    | pick => exact hf.elim
    | _ => exact hold True.intro

theorem step_fin_ph {s : Stage} {st w : WSt} {g : Nat → Bool} {r : Nat} (hi : Inv s st)
    (h : step s g st (Op.fin r) = some w) : lget w.ph r = Ph.fin := by
  rcases step_cases hi h with b | ⟨r0, p, p', hr0, hp, t⟩
  · cases b
  · have := t.ph_eq
    cases t <;> exact this ▸ lget_lset_self _ _ _ (hi.len_ph ▸ hr0)

/-- `k` indexes `sb_recon_row_map` at a row of a tile that has published it -/
def ReconAt (F : Frame) (fs : FSt) (k : Nat) : Prop :=
  ∃ t r', t < F.tiles.length ∧ k = ((lget F.tiles t).r0 + r') * F.tileCols + (lget F.tiles t).tc ∧
    lget (lget fs.tiles t).ph r' = Ph.fin

/-- what a set `lf_row_map[r]` means: the LF row that stores it has finished -/
def LfMapMeans (F : Frame) (fs : FSt) (r : Nat) : Prop :=
  lget fs.lf.ph (r + 1) = Ph.fin ∨ (r = F.H - 1 ∧ lget fs.lf.ph r = Ph.fin)

/-- the three rows whose reconstruction LF row `r` waits for (EbDecProcess.c:843-846) -/
def lfRows (F : Frame) (r R : Nat) : Prop :=
  R = r ∨ R = r - (if r = 0 then 0 else 1) ∨ R = r + (if r = F.H - 1 then 0 else 1)

structure FInv (F : Frame) (fs : FSt) : Prop where
  len_tiles : fs.tiles.length = F.tiles.length
  tile_reach : ∀ t, t < F.tiles.length → Reach (lget F.tiles t).st (lget fs.tiles t)
  lf_reach : Reach F.lf fs.lf
  cdef_reach : Reach F.cdef fs.cdef
  lr_reach : Reach F.lr fs.lr
  recon_sound : ∀ k, lget fs.reconMap k = true → ReconAt F fs k
  lf_sound : ∀ r, lget fs.lfMap r = true → LfMapMeans F fs r
  cdef_sound : ∀ r, lget fs.cdefMap r = true → lget fs.cdef.ph r = Ph.fin
  lf_entered : ∀ r, entered (lget fs.lf.ph r) → ∀ R i, lfRows F r R → i < F.tileCols → ReconAt F fs (R * F.tileCols + i)
  cdef_entered : ∀ r, entered (lget fs.cdef.ph r) → LfMapMeans F fs (r + (if r = F.H - 1 then 0 else 1))
  lr_entered : ∀ r, entered (lget fs.lr.ph r) → lget fs.cdef.ph r = Ph.fin

theorem lfGate_true {F : Frame} {fs : FSt} {r : Nat} (h : lfGate F fs r = true) {R i : Nat} (hR : lfRows F r R)
    (hi : i < F.tileCols) : lget fs.reconMap (R * F.tileCols + i) = true := by
  simp only [lfGate, List.all_eq_true, List.mem_range, Bool.and_eq_true] at h
  have := h i hi
  rcases hR with e | e | e
  · rw [e]; exact this.1.1
  · rw [e]; exact this.1.2
  · rw [e]; exact this.2

theorem finv_init (F : Frame) : FInv F (initF F) := by
  have hent : ∀ s r, ¬ entered (lget (initW s).ph r) := fun s r h => by rw [initW_ph] at h; exact h
  refine ⟨List.length_map _, fun t ht => ?_, Reach.init, Reach.init, Reach.init, ?_, ?_, ?_, ?_, ?_, ?_⟩
  · show Reach _ (lget (F.tiles.map fun t => initW t.st) t)
    rw [lget_map _ _ _ ht]; exact Reach.init
  · exact fun k h => absurd h (lget_replicate_false _ k)
  · exact fun r h => absurd h (lget_replicate_false _ r)
  · exact fun r h => absurd h (lget_replicate_false _ r)
  · exact fun r h => absurd h (hent _ r)
  · exact fun r h => absurd h (hent _ r)
  · exact fun r h => absurd h (hent _ r)

/-- the row map a stage step leaves behind: only `fin r` stores into it -/
def finMap (op : Op) (m : List Bool) (f : Nat → List Bool) : List Bool :=
  match op with
  | .fin r => f r
  | _ => m

theorem finMap_true {op : Op} {m : List Bool} {f : Nat → List Bool} {k : Nat} (h : lget (finMap op m f) k = true) :
    lget m k = true ∨ ∃ r, op = Op.fin r ∧ lget (f r) k = true := by
  cases op <;> first | exact Or.inl h | exact Or.inr ⟨_, rfl, h⟩

theorem lfPublish_true {F : Frame} {m : List Bool} {r0 r : Nat} (h : lget (lfPublish F m r0) r = true) :
    lget m r = true ∨ (r0 ≠ 0 ∧ r = r0 - 1) ∨ (r0 = F.H - 1 ∧ r = r0) := by
  change lget (if r0 = F.H - 1 then lset (if r0 ≠ 0 then lset m (r0 - 1) true else m) r0 true
    else if r0 ≠ 0 then lset m (r0 - 1) true else m) r = true at h
  have inner : ∀ {r}, lget (if r0 ≠ 0 then lset m (r0 - 1) true else m) r = true →
      lget m r = true ∨ (r0 ≠ 0 ∧ r = r0 - 1) := by
    intro r h
    split at h
    · rename_i h0; exact (lget_true_lset h).elim (fun e => Or.inr ⟨h0, e⟩) Or.inl
    · exact Or.inl h
  split at h
  · rename_i hl
    rcases lget_true_lset h with e | h
    · exact Or.inr (Or.inr ⟨hl, e⟩)
    · exact (inner h).imp_right Or.inl
  · exact (inner h).imp_right Or.inl

/-- a frame step is a step of one stage; on `fin` that stage's row map gains entries -/
theorem fstep_cases {F : Frame} {fs fs' : FSt} {op : FOp} (h : fstep F fs op = some fs') :
    match op with
    | .parse _ _ => ∃ p, fs' = { fs with parsed := p }
    | .tile t o => t < F.tiles.length ∧
        ∃ w, step (lget F.tiles t).st (fun r => lget (lget fs.parsed t) r) (lget fs.tiles t) o = some w ∧
          fs' = { fs with
            tiles := lset fs.tiles t w
            reconMap := finMap o fs.reconMap
              (fun r => lset fs.reconMap (((lget F.tiles t).r0 + r) * F.tileCols + (lget F.tiles t).tc) true) }
    | .lf o => ∃ w, step F.lf (lfGate F fs) fs.lf o = some w ∧
        fs' = { fs with lf := w, lfMap := finMap o fs.lfMap (lfPublish F fs.lfMap) }
    | .cdef o => ∃ w, step F.cdef (cdefGate F fs) fs.cdef o = some w ∧
        fs' = { fs with cdef := w, cdefMap := finMap o fs.cdefMap (fun r => lset fs.cdefMap r true) }
    | .lr o => ∃ w, step F.lr (lrGate fs) fs.lr o = some w ∧
        fs' = { fs with lr := w, lrMap := finMap o fs.lrMap (fun r => lset fs.lrMap r true) } := by
  cases op with
  | parse t r =>
    rcases ite_cases h with ⟨_, h⟩ | ⟨_, h⟩
    · exact ⟨_, (Option.some.inj h).symm⟩
    · exact absurd h nofun
  | tile t o =>
    rcases ite_cases h with ⟨ht, h⟩ | ⟨_, h⟩
    · dsimp only at h
      split at h
      · exact absurd h nofun
      · rename_i w hw
        exact ⟨ht, w, hw, by cases o <;> exact (Option.some.inj h).symm⟩
    · exact absurd h nofun
  | lf o | cdef o | lr o =>
    dsimp only [fstep] at h
    split at h
    · exact absurd h nofun
    · rename_i w hw; exact ⟨w, hw, by cases o <;> exact (Option.some.inj h).symm⟩

theorem finv_step {F : Frame} {fs fs' : FSt} {op : FOp} (hi : FInv F fs) (h : fstep F fs op = some fs') :
    FInv F fs' := by
  have hc := fstep_cases h
  cases op with
  | parse t r =>
    obtain ⟨p, rfl⟩ := hc
    exact { hi with }
  | tile t op =>
    obtain ⟨ht, w, hw, rfl⟩ := hc
    have hlt : t < fs.tiles.length := hi.len_tiles ▸ ht
    have hti := reach_inv (hi.tile_reach t ht)
    have hnew : lget (lset fs.tiles t w) t = w := lget_lset_self _ _ _ hlt
    have mono : ∀ k, ReconAt F fs k → ReconAt F { fs with tiles := lset fs.tiles t w } k := by
      rintro k ⟨t', r', h1, h2, h3⟩
      refine ⟨t', r', h1, h2, ?_⟩
      show lget (lget (lset fs.tiles t w) t').ph r' = Ph.fin
      by_cases htt : t = t'
      · subst htt; rw [hnew]; exact fin_stable hti hw h3
      · rw [lget_lset_ne _ _ _ _ htt]; exact h3
    refine { hi with
      len_tiles := (length_lset _ _ _).trans hi.len_tiles
      tile_reach := fun t' ht' => ?_
      recon_sound := fun k hk => ?_
      lf_entered := fun r hr R i hR hi' => mono _ (hi.lf_entered r hr R i hR hi') }
    · show Reach _ (lget (lset fs.tiles t w) t')
      by_cases htt : t = t'
      · subst htt; rw [hnew]; exact Reach.step (hi.tile_reach t ht) hw
      · rw [lget_lset_ne _ _ _ _ htt]; exact hi.tile_reach t' ht'
    · rcases finMap_true hk with hk | ⟨r, rfl, hk⟩
      · exact mono k (hi.recon_sound k hk)
      · rcases lget_true_lset hk with e | hk
        · refine ⟨t, r, ht, e, ?_⟩
          show lget (lget (lset fs.tiles t w) t).ph r = Ph.fin
          rw [hnew]; exact step_fin_ph hti hw
        · exact mono k (hi.recon_sound k hk)
  | lf op =>
    obtain ⟨w, hw, rfl⟩ := hc
    have hli := reach_inv hi.lf_reach
    have mono : ∀ r, LfMapMeans F fs r → LfMapMeans F { fs with lf := w } r :=
      fun r hm => hm.imp (fin_stable hli hw) (And.imp_right (fin_stable hli hw))
    refine { hi with
      lf_reach := Reach.step hi.lf_reach hw
      lf_sound := fun r hr => ?_
      lf_entered := entered_step hli hw hi.lf_entered fun r hg R i hR hi' => hi.recon_sound _ (lfGate_true hg hR hi')
      cdef_entered := fun r hr => mono _ (hi.cdef_entered r hr) }
    rcases finMap_true hr with hr | ⟨r0, rfl, hr⟩
    · exact mono r (hi.lf_sound r hr)
    · have hfin : lget w.ph r0 = Ph.fin := step_fin_ph hli hw
      rcases lfPublish_true hr with hr | ⟨h0, rfl⟩ | ⟨hl, rfl⟩
      · exact mono r (hi.lf_sound r hr)
      · exact Or.inl ((congrArg (lget w.ph) (Nat.sub_add_cancel (Nat.pos_of_ne_zero h0))).trans hfin)
      · exact Or.inr ⟨hl, hfin⟩
  | cdef op =>
    obtain ⟨w, hw, rfl⟩ := hc
    have hci := reach_inv hi.cdef_reach
    refine { hi with
      cdef_reach := Reach.step hi.cdef_reach hw
      cdef_sound := fun r hr => ?_
      cdef_entered := entered_step hci hw hi.cdef_entered fun r hg => hi.lf_sound _ hg
      lr_entered := fun r hr => fin_stable hci hw (hi.lr_entered r hr) }
    rcases finMap_true hr with hr | ⟨r0, rfl, hr⟩
    · exact fin_stable hci hw (hi.cdef_sound r hr)
    · rcases lget_true_lset hr with e | hr
      · rw [e]; exact step_fin_ph hci hw
      · exact fin_stable hci hw (hi.cdef_sound r hr)
  | lr op =>
    obtain ⟨w, hw, rfl⟩ := hc
    exact { hi with
      lr_reach := Reach.step hi.lr_reach hw
      lr_entered := entered_step (reach_inv hi.lr_reach) hw hi.lr_entered fun r hg => hi.cdef_sound r hg }

inductive FReach (F : Frame) : FSt → Prop
  | init : FReach F (initF F)
  | step {fs fs' : FSt} {op : FOp} : FReach F fs → fstep F fs op = some fs' → FReach F fs'

theorem freach_inv {F : Frame} {fs : FSt} (h : FReach F fs) : FInv F fs := by
  induction h with
  | init => exact finv_init F
  | step _ hs ih => exact finv_step ih hs

theorem fstep_of_tile_step {F : Frame} {fs : FSt} {t : Nat} {op : Op} {w : WSt} (ht : t < F.tiles.length)
    (hw : step (lget F.tiles t).st (fun r => lget (lget fs.parsed t) r) (lget fs.tiles t) op = some w) :
    ∃ fs', fstep F fs (FOp.tile t op) = some fs' := by
  dsimp only [fstep]
  rw [if_pos ht, hw]
  cases op <;> exact ⟨_, rfl⟩

theorem fstep_of_lf_step {F : Frame} {fs : FSt} {op : Op} {w : WSt} (hw : step F.lf (lfGate F fs) fs.lf op = some w) :
    ∃ fs', fstep F fs (FOp.lf op) = some fs' := by
  dsimp only [fstep]
  rw [hw]
  cases op <;> exact ⟨_, rfl⟩

theorem fstep_of_cdef_step {F : Frame} {fs : FSt} {op : Op} {w : WSt} (hw : step F.cdef (cdefGate F fs) fs.cdef op = some w) :
    ∃ fs', fstep F fs (FOp.cdef op) = some fs' := by
  dsimp only [fstep]
  rw [hw]
  cases op <;> exact ⟨_, rfl⟩

theorem fstep_of_lr_step {F : Frame} {fs : FSt} {op : Op} {w : WSt} (hw : step F.lr (lrGate fs) fs.lr op = some w) :
    ∃ fs', fstep F fs (FOp.lr op) = some fs' := by
  dsimp only [fstep]
  rw [hw]
  cases op <;> exact ⟨_, rfl⟩

def frun (F : Frame) : FSt → List FOp → Option FSt
  | fs, [] => some fs
  | fs, op :: ops => match fstep F fs op with
    | some fs' => frun F fs' ops
    | none => none

theorem freach_of_frun {F : Frame} {fs fs' : FSt} (h : FReach F fs) (ops : List FOp) (e : frun F fs ops = some fs') :
    FReach F fs' := by
  induction ops generalizing fs with
  | nil => simp [frun] at e; subst e; exact h
  | cons op t ih =>
    simp only [frun] at e
    split at e
    · rename_i fs1 h1; exact ih (FReach.step h h1) e
    · simp at e

end DecWf
