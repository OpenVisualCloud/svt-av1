/-
  C09 — one row wavefront (`DecWf.step`): the counter encodings, a step as a relation on row phases (`Tr`, `Bk`),
  the structural invariant `Inv`.
-/
import SvtVerif.Model.DecWavefront

namespace DecWf

theorem length_lset {α : Type} (l : List α) (i : Nat) (v : α) : (lset l i v).length = l.length :=
  List.length_set

theorem lget_lset {α : Type} [Inhabited α] (l : List α) (i j : Nat) (v : α) :
    lget (lset l i v) j = if i = j ∧ i < l.length then v else lget l j := by
  unfold lget lset
  rw [List.getD_eq_getElem?_getD, List.getD_eq_getElem?_getD, List.getElem?_set]
  by_cases h : i = j
  · subst h
    by_cases h2 : i < l.length
    · simp only [h2, and_self, if_true, Option.getD_some]
    · rw [List.getElem?_eq_none (Nat.le_of_not_lt h2)]; simp only [h2, and_false, if_false, if_true, Option.getD_none]
  · simp only [h, false_and, if_false]

theorem lget_lset_self {α : Type} [Inhabited α] (l : List α) (i : Nat) (v : α) (h : i < l.length) :
    lget (lset l i v) i = v := by
  rw [lget_lset, if_pos ⟨rfl, h⟩]

theorem lget_lset_ne {α : Type} [Inhabited α] (l : List α) (i j : Nat) (v : α) (h : i ≠ j) :
    lget (lset l i v) j = lget l j := by
  rw [lget_lset, if_neg fun c => h c.1]

theorem lget_replicate {α : Type} [Inhabited α] (n i : Nat) (v : α) :
    lget (List.replicate n v) i = if i < n then v else default := by
  unfold lget
  rw [List.getD_eq_getElem?_getD, List.getElem?_replicate]
  split <;> rfl

theorem lget_map {α β : Type} [Inhabited α] [Inhabited β] (l : List α) (f : α → β) (i : Nat) (h : i < l.length) :
    lget (l.map f) i = f (lget l i) := by
  unfold lget
  rw [List.getD_eq_getElem?_getD, List.getD_eq_getElem?_getD, List.getElem?_map, List.getElem?_eq_getElem h]
  rfl

theorem lget_replicate_false (n k : Nat) : lget (List.replicate n false) k ≠ true := by
  rw [lget_replicate]; split <;> nofun

theorem lget_true_lset {m : List Bool} {i k : Nat} (h : lget (lset m i true) k = true) :
    k = i ∨ lget m k = true := by
  by_cases hk : i = k
  · exact Or.inl hk.symm
  · rw [lget_lset_ne _ _ _ _ hk] at h; exact Or.inr h

theorem lget_of_le {α : Type} [Inhabited α] (l : List α) (i : Nat) (h : l.length ≤ i) : lget l i = default := by
  unfold lget
  rw [List.getD_eq_getElem?_getD, List.getElem?_eq_none h]; rfl

def sumf {α : Type} (f : α → Nat) (l : List α) : Nat := (l.map f).sum

theorem sumf_cons {α : Type} (f : α → Nat) (a : α) (l : List α) : sumf f (a :: l) = f a + sumf f l := rfl

theorem sumf_lset {α : Type} [Inhabited α] (f : α → Nat) (l : List α) (i : Nat) (v : α) (h : i < l.length) :
    sumf f (lset l i v) + f (lget l i) = sumf f l + f v := by
  induction l generalizing i with
  | nil => exact absurd h (Nat.not_lt_zero i)
  | cons a t ih =>
    cases i with
    | zero => show f v + sumf f t + f a = f a + sumf f t + f v; omega
    | succ k =>
      have := ih k (Nat.lt_of_succ_lt_succ h)
      show f a + sumf f (lset t k v) + f (lget t k) = f a + sumf f t + f v
      omega

theorem sumf_lset_add {α : Type} [Inhabited α] (f : α → Nat) (l : List α) (i : Nat) (v : α) (h : i < l.length)
    {k : Nat} (hk : f v + k = f (lget l i)) : sumf f (lset l i v) + k = sumf f l := by
  have := sumf_lset f l i v h
  omega

theorem sumf_replicate {α : Type} (f : α → Nat) (n : Nat) (v : α) : sumf f (List.replicate n v) = n * f v := by
  induction n with
  | zero => exact (Nat.zero_mul _).symm
  | succ k ih => rw [List.replicate_succ, sumf_cons, ih, Nat.succ_mul, Nat.add_comm]

theorem sumf_eq_zero {α : Type} [Inhabited α] (f : α → Nat) (l : List α) :
    sumf f l = 0 ↔ ∀ i, i < l.length → f (lget l i) = 0 := by
  induction l with
  | nil => exact ⟨fun _ i h => absurd h (Nat.not_lt_zero i), fun _ => rfl⟩
  | cons a t ih =>
    rw [sumf_cons, Nat.add_eq_zero_iff, ih]
    constructor
    · rintro ⟨h0, ht⟩ i hi
      cases i with
      | zero => exact h0
      | succ k => exact ht k (Nat.lt_of_succ_lt_succ hi)
    · intro h
      exact ⟨h 0 (Nat.zero_lt_succ _), fun k hk => h (k + 1) (Nat.succ_lt_succ hk)⟩

theorem sumf_pos {α : Type} [Inhabited α] (f : α → Nat) (l : List α) (i : Nat) (hi : i < l.length)
    (h : 0 < f (lget l i)) : 0 < sumf f l :=
  Nat.pos_of_ne_zero fun h0 => absurd ((sumf_eq_zero f l).1 h0 i hi) (Nat.ne_of_gt h)

/-- the number of columns the row loop walks: `W` if the body is enabled, else 0 -/
def Wb (s : Stage) : Nat := if s.en = true ∧ 0 < s.W then s.W else 0

/-- columns whose processing has finished (counter stored) -/
def cnt (s : Stage) : Ph → Nat
  | .unpicked => 0
  | .gate => 0
  | .at j => j
  | .busy j => j
  | .tail => Wb s
  | .fin => Wb s

/-- columns whose processing has started -/
def beg (s : Stage) : Ph → Nat
  | .unpicked => 0
  | .gate => 0
  | .at j => j
  | .busy j => j + 1
  | .tail => Wb s
  | .fin => Wb s

/-- the worker holding the row is inside the row (between pick and the map store) -/
def hold : Ph → Nat
  | .unpicked => 0
  | .fin => 0
  | _ => 1

/-- counter value when `d` columns of the row are finished -/
def enc (s : Stage) (d : Nat) : Int := if d = 0 then initCtr s.kind else pubVal s (d - 1)

theorem enc_zero (s : Stage) : enc s 0 = initCtr s.kind := rfl

theorem enc_succ (s : Stage) (d : Nat) : enc s (d + 1) = pubVal s d := rfl

theorem cnt_le_beg (s : Stage) (p : Ph) : cnt s p ≤ beg s p := by
  cases p <;> simp only [cnt, beg, Nat.le_refl, Nat.le_succ]

theorem Wb_le (s : Stage) : Wb s ≤ s.W := by unfold Wb; split <;> omega
theorem Wb_eq {s : Stage} (h1 : s.en = true) (h2 : 0 < s.W) : Wb s = s.W := if_pos ⟨h1, h2⟩
theorem Wb_zero {s : Stage} (h : ¬ (s.en = true ∧ 0 < s.W)) : Wb s = 0 := if_neg h

theorem not_decide_lt {a b : Int} : (!decide (a < b)) = true ↔ b ≤ a := by
  rw [Bool.not_eq_true', decide_eq_false_iff_not, Int.not_lt]

/-- LF waits one column further than the other three -/
theorem pass_enc (s : Stage) {j d : Nat} (hj : j < s.W) (hd : d ≤ s.W) :
    pass s j (enc s d) = true ↔ j + 2 + (if s.kind = Kind.lf then 1 else 0) ≤ d ∨ s.W ≤ d := by
  have hn : j + 1 + nsync s j ≤ d ↔ j + 2 ≤ d ∨ s.W ≤ d := by
    unfold nsync
    split
    · rename_i e
      exact ⟨fun h => Or.inr (e ▸ h), fun h => h.elim Nat.le_of_succ_le fun h => e ▸ h⟩
    · rename_i e
      exact ⟨Or.inl, fun h => h.elim id (Nat.le_trans (Nat.succ_le_of_lt (Nat.lt_of_le_of_ne hj e)))⟩
  cases hk : s.kind with
  | recon =>
    cases d <;>
    simp only [pass, enc_zero, enc_succ, initCtr, pubVal, hk, not_decide_lt, reduceCtorEq, if_false] <;> omega
  | lf =>
    cases d <;>
    simp only [pass, enc_zero, enc_succ, initCtr, pubVal, hk, not_decide_lt, if_true] <;> omega
  | cdef =>
    rw [if_neg nofun, ← hn]
    cases d <;>
    simp only [pass, enc_zero, enc_succ, initCtr, pubVal, hk, Bool.not_eq_true', decide_eq_false_iff_not, Nat.not_lt,
      Int.toNat_natCast, Int.toNat_zero]
  | lr =>
    rw [if_neg nofun, ← hn]
    cases d <;>
    simp only [pass, enc_zero, enc_succ, initCtr, pubVal, hk, not_decide_lt] <;> omega

/-- soundness of a stage's spin test: leaving the spin of column `j` implies that the previous row has finished
    columns `0 .. min (j+1) (W-1)` (left-above, above and right-above neighbour) -/
def PassSound (s : Stage) : Prop :=
  ∀ j d, j < s.W → d ≤ s.W → pass s j (enc s d) = true → min (j + 2) s.W ≤ d

/-- liveness of the spin test: a finished previous row lets every column through -/
def PassLive (s : Stage) : Prop := ∀ j, j < s.W → pass s j (enc s s.W) = true

theorem passSound (s : Stage) : PassSound s := by
  intro j d hj hd hp
  rcases (pass_enc s hj hd).1 hp with h | h
  · exact Nat.le_trans (Nat.min_le_left _ _) (Nat.le_trans (Nat.le_add_right _ _) h)
  · exact Nat.le_trans (Nat.min_le_right _ _) h

theorem passLive (s : Stage) : PassLive s :=
  fun _ hj => (pass_enc s hj (Nat.le_refl _)).2 (Or.inr (Nat.le_refl _))

/-- structural invariant (no hypothesis on the spin test) -/
structure Inv (s : Stage) (st : WSt) : Prop where
  len_ph : st.ph.length = s.H
  len_ctr : st.ctr.length = s.H
  next_le : st.next ≤ s.H
  picked : ∀ r, r < s.H → (r < st.next ↔ lget st.ph r ≠ Ph.unpicked)
  col_lt : ∀ r j, r < s.H → (lget st.ph r = Ph.at j ∨ lget st.ph r = Ph.busy j) → j < s.W ∧ s.en = true
  ctr_ok : ∀ r, r < s.H → lget st.ctr r = enc s (cnt s (lget st.ph r))
  log_iff : ∀ r j, (r, j) ∈ st.log ↔ r < s.H ∧ j < beg s (lget st.ph r)
  workers : st.idle + st.chk + st.out + sumf hold st.ph = s.n
  out_next : 0 < st.out → st.next = s.H

/-- step `op` moves row `r` from phase `p` to `p'` and yields `st'` -/
inductive Tr (s : Stage) (g : Nat → Bool) (st : WSt) : Op → Nat → Ph → Ph → WSt → Prop
  | pick : st.idle ≠ 0 → st.next ≠ s.H → Tr s g st .pick st.next .unpicked .gate
      { st with idle := st.idle - 1, next := st.next + 1, ph := lset st.ph st.next .gate }
  | enter1 {r : Nat} : g r = true → s.en = true → 0 < s.W →
      Tr s g st (.enter r) r .gate (.at 0) { st with ph := lset st.ph r (.at 0) }
  | enter2 {r : Nat} : g r = true → ¬ (s.en = true ∧ 0 < s.W) →
      Tr s g st (.enter r) r .gate .tail { st with ph := lset st.ph r .tail }
  | dec {r j : Nat} : r = 0 ∨ pass s j (lget st.ctr (r - 1)) = true →
      Tr s g st (.dec r) r (.at j) (.busy j) { st with ph := lset st.ph r (.busy j), log := (r, j) :: st.log }
  | pub1 {r j : Nat} : j + 1 < s.W → Tr s g st (.pub r) r (.busy j) (.at (j + 1))
      { st with ctr := lset st.ctr r (pubVal s j), ph := lset st.ph r (.at (j + 1)) }
  | pub2 {r j : Nat} : ¬ j + 1 < s.W → Tr s g st (.pub r) r (.busy j) .tail
      { st with ctr := lset st.ctr r (pubVal s j), ph := lset st.ph r .tail }
  | finR {r : Nat} : s.kind = Kind.recon → Tr s g st (.fin r) r .tail .fin
      { st with ph := lset st.ph r .fin, chk := st.chk + 1 }
  | finF {r : Nat} : s.kind ≠ Kind.recon → Tr s g st (.fin r) r .tail .fin
      { st with ph := lset st.ph r .fin, idle := st.idle + 1 }

/-- the steps that change no row -/
inductive Bk (s : Stage) (st : WSt) : Op → WSt → Prop
  | pickR : st.idle ≠ 0 → st.next = s.H → s.kind = Kind.recon →
      Bk s st .pick { st with idle := st.idle - 1, chk := st.chk + 1 }
  | pickF : st.idle ≠ 0 → st.next = s.H → s.kind ≠ Kind.recon →
      Bk s st .pick { st with idle := st.idle - 1, out := st.out + 1 }
  | chkOut : st.chk ≠ 0 → st.next = s.H → Bk s st .chk { st with chk := st.chk - 1, out := st.out + 1 }
  | chkIdle : st.chk ≠ 0 → st.next ≠ s.H → Bk s st .chk { st with chk := st.chk - 1, idle := st.idle + 1 }

theorem ph_lt {s : Stage} {st : WSt} (hi : Inv s st) {r : Nat} {p : Ph} (hp : lget st.ph r = p)
    (h : p ≠ Ph.unpicked) : r < s.H :=
  hi.len_ph ▸ Nat.lt_of_not_le fun h1 => h (hp ▸ lget_of_le st.ph r h1)

theorem ite_cases {α : Type} {c : Prop} [Decidable c] {x y z : α} (h : (if c then x else y) = z) :
    c ∧ x = z ∨ ¬ c ∧ y = z := by
  split at h
  · exact Or.inl ⟨‹c›, h⟩
  · exact Or.inr ⟨‹¬ c›, h⟩

theorem step_cases {s : Stage} {g : Nat → Bool} {st st' : WSt} {op : Op} (hi : Inv s st)
    (h : step s g st op = some st') :
    Bk s st op st' ∨ ∃ r p p', r < s.H ∧ lget st.ph r = p ∧ Tr s g st op r p p' st' := by
  cases op with
  | pick =>
    rcases ite_cases h with ⟨_, h⟩ | ⟨h1, h⟩
    · exact absurd h nofun
    rcases ite_cases h with ⟨h2, h⟩ | ⟨h2, h⟩
    · have hlt : st.next < s.H := Nat.lt_of_le_of_ne hi.next_le h2
      have hu : lget st.ph st.next = Ph.unpicked :=
        Decidable.not_not.1 fun hn => Nat.lt_irrefl _ ((hi.picked st.next hlt).2 hn)
      exact Option.some.inj h ▸ Or.inr ⟨_, _, _, hlt, hu, Tr.pick h1 h2⟩
    · have h2 : st.next = s.H := Decidable.not_not.1 h2
      rcases ite_cases h with ⟨h3, h⟩ | ⟨h3, h⟩
      · exact Option.some.inj h ▸ Or.inl (Bk.pickR h1 h2 h3)
      · exact Option.some.inj h ▸ Or.inl (Bk.pickF h1 h2 h3)
  | enter r =>
    rcases ite_cases h with ⟨hc, h⟩ | ⟨_, h⟩
    · have hr := ph_lt hi hc.1 nofun
      by_cases he : s.en = true ∧ 0 < s.W
      · rw [if_pos he] at h; exact Option.some.inj h ▸ Or.inr ⟨r, _, _, hr, hc.1, Tr.enter1 hc.2 he.1 he.2⟩
      · rw [if_neg he] at h; exact Option.some.inj h ▸ Or.inr ⟨r, _, _, hr, hc.1, Tr.enter2 hc.2 he⟩
    · exact absurd h nofun
  | dec r =>
    dsimp only [step] at h
    split at h
    · rename_i j hg
      rcases ite_cases h with ⟨hc, h⟩ | ⟨_, h⟩
      · exact Option.some.inj h ▸ Or.inr ⟨r, _, _, ph_lt hi hg nofun, hg, Tr.dec hc⟩
      · exact absurd h nofun
    · exact absurd h nofun
  | pub r =>
    dsimp only [step] at h
    split at h
    · rename_i j hg
      by_cases hj : j + 1 < s.W
      · rw [if_pos hj] at h; exact Option.some.inj h ▸ Or.inr ⟨r, _, _, ph_lt hi hg nofun, hg, Tr.pub1 hj⟩
      · rw [if_neg hj] at h; exact Option.some.inj h ▸ Or.inr ⟨r, _, _, ph_lt hi hg nofun, hg, Tr.pub2 hj⟩
    · exact absurd h nofun
  | fin r =>
    rcases ite_cases h with ⟨hg, h⟩ | ⟨_, h⟩
    · have hr := ph_lt hi hg nofun
      rcases ite_cases h with ⟨hk, h⟩ | ⟨hk, h⟩
      · exact Option.some.inj h ▸ Or.inr ⟨r, _, _, hr, hg, Tr.finR hk⟩
      · exact Option.some.inj h ▸ Or.inr ⟨r, _, _, hr, hg, Tr.finF hk⟩
    · exact absurd h nofun
  | chk =>
    rcases ite_cases h with ⟨_, h⟩ | ⟨h1, h⟩
    · exact absurd h nofun
    rcases ite_cases h with ⟨h2, h⟩ | ⟨h2, h⟩
    · exact Option.some.inj h ▸ Or.inl (Bk.chkOut h1 h2)
    · exact Option.some.inj h ▸ Or.inl (Bk.chkIdle h1 h2)

theorem Inv.Wb_last {s : Stage} {st : WSt} (hi : Inv s st) {r j : Nat} (hr : r < s.H)
    (hp : lget st.ph r = Ph.busy j) (hj : ¬ j + 1 < s.W) : Wb s = j + 1 :=
  have h := hi.col_lt r j hr (Or.inr hp)
  (Wb_eq h.2 (Nat.zero_lt_of_lt h.1)).trans (Nat.le_antisymm (Nat.le_of_not_lt hj) h.1)

theorem Inv.at_not_logged {s : Stage} {st : WSt} (hi : Inv s st) {r j : Nat} (hp : lget st.ph r = Ph.at j) :
    (r, j) ∉ st.log := fun hm => by
  have := ((hi.log_iff r j).1 hm).2
  rw [hp] at this
  exact Nat.lt_irrefl j this

theorem initW_ph (s : Stage) (r : Nat) : lget (initW s).ph r = Ph.unpicked := by
  show lget (List.replicate s.H Ph.unpicked) r = _
  rw [lget_replicate]; split <;> rfl

theorem inv_init (s : Stage) : Inv s (initW s) := by
  have hph := initW_ph s
  refine ⟨List.length_replicate, List.length_replicate, Nat.zero_le _, ?_, ?_, ?_, ?_, ?_, nofun⟩
  · exact fun r _ => ⟨fun h => absurd h (Nat.not_lt_zero r), fun h => absurd (hph r) h⟩
  · intro r j _ h; rw [hph r] at h; exact h.elim nofun nofun
  · intro r hr
    show lget (List.replicate s.H (initCtr s.kind)) r = _
    rw [hph r, lget_replicate, if_pos hr]; rfl
  · intro r j; rw [hph r]
    exact ⟨nofun, fun h => absurd h.2 (Nat.not_lt_zero j)⟩
  · show s.n + 0 + 0 + sumf hold (List.replicate s.H Ph.unpicked) = s.n
    rw [sumf_replicate]; rfl

/-- `Inv` after one row has moved, from what the move does to `cnt`, `beg`, `hold` -/
theorem inv_row {s : Stage} {st : WSt} (hi : Inv s st) {r : Nat} (hr : r < s.H) {p' : Ph} {n' i' k' : Nat}
    {c' : List Int} {l' : List (Nat × Nat)}
    (hn : n' = st.next ∧ r < st.next ∨ n' = st.next + 1 ∧ r = st.next)
    (hp : p' ≠ Ph.unpicked)
    (hcol : ∀ j, p' = Ph.at j ∨ p' = Ph.busy j → j < s.W ∧ s.en = true)
    (hc : c' = st.ctr ∧ cnt s p' = cnt s (lget st.ph r) ∨ c' = lset st.ctr r (enc s (cnt s p')))
    (hl : ∀ r' j', (r', j') ∈ l' ↔ (r', j') ∈ st.log ∨ r' = r ∧ beg s (lget st.ph r) ≤ j' ∧ j' < beg s p')
    (hb : beg s (lget st.ph r) ≤ beg s p')
    (hw : i' + k' + hold p' = st.idle + st.chk + hold (lget st.ph r)) :
    Inv s { st with next := n', ctr := c', ph := lset st.ph r p', idle := i', chk := k', log := l' } := by
  have hlen : r < st.ph.length := hi.len_ph ▸ hr
  have hget : ∀ r', (r' = r ∧ lget (lset st.ph r p') r' = p') ∨ (r' ≠ r ∧ lget (lset st.ph r p') r' = lget st.ph r') :=
    fun r' => (Decidable.em (r' = r)).imp (fun e => ⟨e, by rw [e]; exact lget_lset_self _ _ _ hlen⟩)
      (fun e => ⟨e, lget_lset_ne _ _ _ _ (Ne.symm e)⟩)
  refine ⟨(length_lset _ _ _).trans hi.len_ph, ?_, ?_, ?_, ?_, ?_, ?_, ?_, ?_⟩
  · rcases hc with ⟨e, _⟩ | e <;> rw [e]
    · exact hi.len_ctr
    · exact (length_lset _ _ _).trans hi.len_ctr
  · rcases hn with ⟨e, _⟩ | ⟨e, e2⟩ <;> rw [e]
    · exact hi.next_le
    · exact e2 ▸ hr
  · intro r' hr'
    show r' < n' ↔ lget (lset st.ph r p') r' ≠ Ph.unpicked
    have := hi.picked r' hr'
    rcases hget r' with ⟨e, h⟩ | ⟨e, h⟩ <;> rw [h]
    · refine ⟨fun _ => hp, fun _ => ?_⟩
      rcases hn with ⟨en, h1⟩ | ⟨en, h1⟩ <;> rw [e, en]
      · exact h1
      · exact h1 ▸ Nat.lt_succ_self _
    · rw [← this]
      rcases hn with ⟨en, _⟩ | ⟨en, h1⟩ <;> rw [en]
      exact ⟨fun h => Nat.lt_of_le_of_ne (Nat.le_of_lt_succ h) (h1 ▸ e), Nat.lt_succ_of_lt⟩
  · intro r' j hr'
    show lget (lset st.ph r p') r' = _ ∨ lget (lset st.ph r p') r' = _ → _
    rcases hget r' with ⟨_, h⟩ | ⟨_, h⟩ <;> rw [h]
    · exact hcol j
    · exact hi.col_lt r' j hr'
  · intro r' hr'
    show lget c' r' = enc s (cnt s (lget (lset st.ph r p') r'))
    have := hi.ctr_ok r' hr'
    rcases hget r' with ⟨e, h⟩ | ⟨e, h⟩ <;> rw [h] <;> rcases hc with ⟨ec, e2⟩ | ec <;> rw [ec]
    · rw [e2, ← e]; exact this
    · rw [e]; exact lget_lset_self _ _ _ (hi.len_ctr ▸ hr)
    · exact this
    · rw [lget_lset_ne _ _ _ _ (Ne.symm e)]; exact this
  · intro r' j'
    show (r', j') ∈ l' ↔ r' < s.H ∧ j' < beg s (lget (lset st.ph r p') r')
    rw [hl, hi.log_iff]
    rcases hget r' with ⟨e, h⟩ | ⟨e, h⟩ <;> rw [h]
    · subst e; constructor
      · rintro (⟨_, h2⟩ | ⟨_, _, h2⟩)
        · exact ⟨hr, Nat.lt_of_lt_of_le h2 hb⟩
        · exact ⟨hr, h2⟩
      · rintro ⟨_, h2⟩
        rcases Nat.lt_or_ge j' (beg s (lget st.ph r')) with h3 | h3
        · exact Or.inl ⟨hr, h3⟩
        · exact Or.inr ⟨rfl, h3, h2⟩
    · exact ⟨fun h => h.elim id fun h => absurd h.1 e, Or.inl⟩
  · show i' + k' + st.out + sumf hold (lset st.ph r p') = s.n
    have := sumf_lset hold st.ph r p' hlen
    have := hi.workers
    omega
  · intro h
    rcases hn with ⟨e, _⟩ | ⟨e, e2⟩ <;> rw [e]
    · exact hi.out_next h
    · exact absurd (hi.out_next h) (e2 ▸ Nat.ne_of_lt hr)

theorem Tr.inv {s : Stage} {g : Nat → Bool} {st st' : WSt} {op : Op} {r : Nat} {p p' : Ph} (hi : Inv s st)
    (hr : r < s.H) (hp : lget st.ph r = p) (t : Tr s g st op r p p' st') : Inv s st' := by
  -- `next` moves only at `pick`, the log only at `dec`
  have hnx : p ≠ Ph.unpicked → st.next = st.next ∧ r < st.next ∨ st.next = st.next + 1 ∧ r = st.next :=
    fun h => Or.inl ⟨rfl, (hi.picked r hr).2 (hp ▸ h)⟩
  have hcol := hi.col_lt r
  have hlog : ∀ b, b = beg s p → ∀ r' j', (r', j') ∈ st.log ↔ (r', j') ∈ st.log ∨ r' = r ∧ beg s (lget st.ph r) ≤ j' ∧ j' < b :=
    fun b e r' j' => ⟨Or.inl, fun h => h.elim id fun h => absurd h.2.2 (Nat.not_lt.2 (e ▸ hp ▸ h.2.1))⟩
  cases t with
  | pick h1 h2 =>
    exact inv_row hi hr (Or.inr ⟨rfl, rfl⟩) nofun (fun j h => h.elim nofun nofun) (Or.inl ⟨rfl, hp ▸ rfl⟩)
      (hlog _ rfl) (hp ▸ Nat.le_refl _) (by
        rw [hp]
        show st.idle - 1 + st.chk + 1 = st.idle + st.chk
        rw [Nat.add_right_comm, Nat.sub_add_cancel (Nat.pos_of_ne_zero h1)])
  | enter1 _ he hW =>
    exact inv_row hi hr (hnx nofun) nofun (fun j h => h.elim (fun e => Ph.at.inj e ▸ ⟨hW, he⟩) nofun)
      (Or.inl ⟨rfl, hp ▸ rfl⟩) (hlog _ rfl) (hp ▸ Nat.le_refl _) (hp ▸ rfl)
  | enter2 _ he =>
    exact inv_row hi hr (hnx nofun) nofun (fun j h => h.elim nofun nofun)
      (Or.inl ⟨rfl, hp ▸ Wb_zero he⟩) (hlog _ (Wb_zero he)) (hp ▸ Nat.zero_le _) (hp ▸ rfl)
  | @dec _ j _ =>
    refine inv_row hi hr (hnx nofun) nofun (fun j' h => h.elim nofun fun e => Ph.busy.inj e ▸ hcol j hr (Or.inl hp))
      (Or.inl ⟨rfl, hp ▸ rfl⟩) ?_ (hp ▸ Nat.le_succ j) (hp ▸ rfl)
    intro r' j'
    rw [hp]
    show (r', j') ∈ (r, j) :: st.log ↔ (r', j') ∈ st.log ∨ r' = r ∧ j ≤ j' ∧ j' < j + 1
    rw [List.mem_cons, Prod.mk.injEq, Or.comm]
    exact or_congr Iff.rfl (and_congr Iff.rfl ⟨fun e => e ▸ ⟨Nat.le_refl _, Nat.lt_succ_self _⟩,
      fun h => Nat.le_antisymm (Nat.le_of_lt_succ h.2) h.1⟩)
  | @pub1 _ j hj =>
    exact inv_row hi hr (hnx nofun) nofun
      (fun j' h => h.elim (fun e => Ph.at.inj e ▸ ⟨hj, (hcol j hr (Or.inr hp)).2⟩) nofun)
      (Or.inr rfl) (hlog _ rfl) (hp ▸ Nat.le_refl _) (hp ▸ rfl)
  | @pub2 _ j hj =>
    have hWb := hi.Wb_last hr hp hj
    exact inv_row hi hr (hnx nofun) nofun (fun j' h => h.elim nofun nofun)
      (Or.inr (show lset st.ctr r (pubVal s j) = lset st.ctr r (enc s (Wb s)) by rw [hWb]; rfl))
      (hlog _ hWb) (hp ▸ Nat.le_of_eq hWb.symm) (hp ▸ rfl)
  | finR _ =>
    exact inv_row hi hr (hnx nofun) nofun (fun j h => h.elim nofun nofun) (Or.inl ⟨rfl, hp ▸ rfl⟩)
      (hlog _ rfl) (hp ▸ Nat.le_refl _) (by rw [hp]; rfl)
  | finF _ =>
    exact inv_row hi hr (hnx nofun) nofun (fun j h => h.elim nofun nofun) (Or.inl ⟨rfl, hp ▸ rfl⟩)
      (hlog _ rfl) (hp ▸ Nat.le_refl _) (by rw [hp]; exact Nat.add_right_comm st.idle 1 st.chk)

theorem Bk.counts {s : Stage} {st st' : WSt} {op : Op} (b : Bk s st op st') :
    ∃ i k o, st' = { st with idle := i, chk := k, out := o } ∧
      ((i + 1 = st.idle ∧ k = st.chk + 1 ∧ o = st.out ∧ st.next = s.H) ∨
       (i + 1 = st.idle ∧ k = st.chk ∧ o = st.out + 1 ∧ st.next = s.H) ∨
       (i = st.idle ∧ k + 1 = st.chk ∧ o = st.out + 1 ∧ st.next = s.H) ∨
       (i = st.idle + 1 ∧ k + 1 = st.chk ∧ o = st.out ∧ st.next ≠ s.H)) := by
  have pred : ∀ {n : Nat}, n ≠ 0 → n - 1 + 1 = n := fun h => Nat.sub_add_cancel (Nat.pos_of_ne_zero h)
  cases b with
  | pickR h1 h2 => exact ⟨_, _, _, rfl, Or.inl ⟨pred h1, rfl, rfl, h2⟩⟩
  | pickF h1 h2 => exact ⟨_, _, _, rfl, Or.inr (Or.inl ⟨pred h1, rfl, rfl, h2⟩)⟩
  | chkOut h1 h2 => exact ⟨_, _, _, rfl, Or.inr (Or.inr (Or.inl ⟨rfl, pred h1, rfl, h2⟩))⟩
  | chkIdle h1 h2 => exact ⟨_, _, _, rfl, Or.inr (Or.inr (Or.inr ⟨rfl, pred h1, rfl, h2⟩))⟩

theorem Tr.ph_eq {s : Stage} {g : Nat → Bool} {st st' : WSt} {op : Op} {r : Nat} {p p' : Ph}
    (t : Tr s g st op r p p' st') : st'.ph = lset st.ph r p' := by
  cases t <;> rfl

theorem Bk.same {s : Stage} {st st' : WSt} {op : Op} (b : Bk s st op st') :
    st'.ph = st.ph ∧ st'.log = st.log := by
  obtain ⟨_, _, _, rfl, _⟩ := b.counts
  exact ⟨rfl, rfl⟩

theorem Bk.inv {s : Stage} {st st' : WSt} {op : Op} (hi : Inv s st) (b : Bk s st op st') : Inv s st' := by
  obtain ⟨i, k, o, rfl, h⟩ := b.counts
  have hw := hi.workers
  refine { hi with workers := ?_, out_next := fun ho => ?_ }
  · show i + k + o + sumf hold st.ph = s.n
    omega
  · rcases h with h | h | h | h
    · exact h.2.2.2
    · exact h.2.2.2
    · exact h.2.2.2
    · exact hi.out_next (h.2.2.1 ▸ ho)

theorem inv_step {s : Stage} {st st' : WSt} {g : Nat → Bool} {op : Op} (hi : Inv s st)
    (h : step s g st op = some st') : Inv s st' := by
  rcases step_cases hi h with b | ⟨r, p, p', hr, hp, t⟩
  · exact b.inv hi
  · exact t.inv hi hr hp

inductive Reach (s : Stage) : WSt → Prop
  | init : Reach s (initW s)
  | step {st st' : WSt} {g : Nat → Bool} {op : Op} : Reach s st → step s g st op = some st' → Reach s st'

theorem reach_inv {s : Stage} {st : WSt} (h : Reach s st) : Inv s st := by
  induction h with
  | init => exact inv_init s
  | step _ hs ih => exact inv_step ih hs

end DecWf
