/-
  C24 — the scheduling invariant (Lemmas/Segments.lean) read on the closed-form edge relation `cEdge` of the control
  block that `initSeg` builds (Lemmas/SegmentsArith.lean, SegmentsInit.lean).
-/
import SvtVerif.Lemmas.SegmentsInit

namespace Seg

section concrete
variable {W H C R MR : Nat}

/-- one dependency edge of the closed-form relation `cEdge` (the edges `enc_dec_segments_init` counts):
    the target is handed out only after the source's SB loop finished and its decrement was performed -/
theorem safe_cEdge (ok : InitOK W H C R MR) (MC : Nat) {st : ASt}
    (h0 : Inv0 (initSeg W H C R MC MR) st) {p t : Nat}
    (he : cEdge W H (min C W) (effR W H R MR) p t) (ht : 1 ≤ aget st.ph t) : 3 ≤ aget st.ph p := by
  have hw := initSeg_wf ok MC
  have sh := initSeg_wf_static ok MC
  have eR := sh.segRows; have eB := sh.segBands; have hrows := sh.rows
  rcases he with ⟨rfl, r, hr, a, b⟩ | ⟨rfl, r, hr1, a, b, c⟩
  · have hr' : r < (initSeg W H C R MC MR).segRowCount := by rw [eR]; exact hr
    obtain ⟨e1, e2, _⟩ := hrows r hr'
    exact safe_right h0 hr' (by rw [e1]; exact a) (by rw [e2]; exact b) ht
  · have hr' : r + 1 < (initSeg W H C R MC MR).segRowCount := by rw [eR]; exact hr1
    obtain ⟨e1, e2, _⟩ := hrows r (by omega)
    obtain ⟨e3, _, _⟩ := hrows (r + 1) hr'
    have := safe_bottom hw h0 hr' (s := p) (by rw [e1]; exact a) (by rw [e2]; exact b)
      (by rw [e3, eB]; exact c) (by rw [eB]; exact ht)
    omega

theorem safe_transGen (ok : InitOK W H C R MR) (MC : Nat) {st : ASt}
    (h0 : Inv0 (initSeg W H C R MC MR) st) {p t : Nat}
    (he : Relation.TransGen (cEdge W H (min C W) (effR W H R MR)) p t) (ht : 1 ≤ aget st.ph t) :
    3 ≤ aget st.ph p := by
  induction he using Relation.TransGen.head_induction_on with
  | single h => exact safe_cEdge ok MC h0 h ht
  | head h _ ih => exact safe_cEdge ok MC h0 h (by omega)

end concrete
end Seg
