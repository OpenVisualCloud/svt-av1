import SvtVerif.Lemmas.Config
namespace Lemmas.Config
open Gen.Config CSem

/-- the library defaults (what svt_av1_enc_init_handle writes) -/
def dflt : Cfg := initParam {}
/-- … with the two members every application must set -/
def dfltWH (w h : Int) : Cfg := { dflt with source_width := w, source_height := h }

theorem set_set_pair (l : List Int) (hl : l.length = 2) (a b : Int) : (l.set 0 a).set 1 b = [a, b] := by
  match l, hl with
  | [x, y], _ => rfl

theorem dflt_accepted : setParameterAccepts {} (dfltWH 64 64) = true := by decide +kernel

theorem initParam_eq_dflt (c : Cfg) (h : c.WellTyped) : initParam c = dflt := by
  unfold dflt initParam
  simp only [set_set_pair _ h.hme_level0_search_area_in_width_array.1, set_set_pair _ h.hme_level0_search_area_in_height_array.1,
    set_set_pair _ h.hme_level1_search_area_in_width_array.1, set_set_pair _ h.hme_level1_search_area_in_height_array.1,
    set_set_pair _ h.hme_level2_search_area_in_width_array.1, set_set_pair _ h.hme_level2_search_area_in_height_array.1]
  rfl

theorem accepts_resize (s : Scs) (c : Cfg) (w h w' h' : Int) (hw : 64 ≤ w ∧ w ≤ 4096 ∧ w % 2 = 0)
    (hh : 64 ≤ h ∧ h ≤ 2160 ∧ h % 2 = 0) (hw' : 64 ≤ w' ∧ w' ≤ 4096 ∧ w' % 2 = 0) (hh' : 64 ≤ h' ∧ h' ≤ 2160 ∧ h' % 2 = 0)
    (hc : c.compressed_ten_bit_format ≠ 1) :
    setParameterAccepts s { c with source_width := w, source_height := h }
      = setParameterAccepts s { c with source_width := w', source_height := h' } := by
  have ew : w % 65536 = w ∧ w' % 65536 = w' := by omega
  have eh : h % 65536 = h ∧ h' % 65536 = h' := by omega
  refine all_eq_all (l₂ := rejectChecks) ?_
  unfold rejectChecks
  repeat' apply List.Forall₂.cons
  rotate_right
  · exact .nil
  -- rules 2, 3, 5 … 9 read the picture size; any other is the same term on both sides
  all_goals try rfl
  all_goals
    rw [Bool.eq_iff_iff]
    simp only [rej2, rej3, rej5, rej6, rej7, rej8, rej9, Bool.not_eq_true', Bool.and_eq_false_iff, decide_eq_false_iff_not,
      bne_eq_false_iff_eq, beq_eq_false_iff_ne, cmod_wrapU16]
    simp only [wrapU16_eq, ew, eh, Int.not_lt, gt_iff_lt, ne_eq, hc, not_false_eq_true, or_true, hw.1, hw.2.1, hw.2.2, hh.1,
      hh.2.1, hh.2.2, hw'.1, hw'.2.1, hw'.2.2, hh'.1, hh'.2.1, hh'.2.2]

end Lemmas.Config
