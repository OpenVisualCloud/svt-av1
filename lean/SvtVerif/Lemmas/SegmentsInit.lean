/-
  C24 — `enc_dec_segments_init` produces a well-formed control block:
  `Seg.WF (initSeg …)` and `Seg.Live (initSeg …)` for every accepted input (`InitOK`), the single-segment
  shape of a one-SB-wide picture, and (as a witness for `sched_stuck`) the stuck control block the code
  produces for such a picture without the clamp of EbEncDecSegments.c:83.
-/
import SvtVerif.Lemmas.SegmentsArith
import SvtVerif.Lemmas.SegmentsFold
import Mathlib.Data.List.Nodup

namespace Seg

/-- discrete intermediate value: a function that rises by at most 1 per step takes every value between `f lo` and
    `f hi` somewhere on `[lo, hi]` -/
theorem ivt_step (f : Nat → Nat) (hstep : ∀ s, f (s + 1) ≤ f s + 1) {lo hi b : Nat} (hle : lo ≤ hi)
    (h1 : f lo ≤ b) (h2 : b ≤ f hi) : ∃ m, lo ≤ m ∧ m ≤ hi ∧ f m = b := by
  induction hi, hle using Nat.le_induction with
  | base => exact ⟨lo, Nat.le_refl _, Nat.le_refl _, Nat.le_antisymm h1 h2⟩
  | succ hi hle ih =>
    by_cases h : b ≤ f hi
    · obtain ⟨m, a, c, e⟩ := ih h
      exact ⟨m, a, Nat.le_succ_of_le c, e⟩
    · exact ⟨hi + 1, Nat.le_succ_of_le hle, Nat.le_refl _,
        Nat.le_antisymm (Nat.le_trans (hstep hi) (Nat.succ_le_of_lt (Nat.lt_of_not_le h))) h2⟩

section
variable {W H Cc Rr : Nat}

theorem bands_contiguous (hC : 1 ≤ Cc) (hCW : Cc ≤ W) (hR : 1 ≤ Rr) (hRH : Rr ≤ H)
    {r b : Nat} (hr : r < Rr) (h1 : startBand W H Cc Rr r ≤ b) (h2 : b ≤ endBand W H Cc Rr r) :
    ∃ x y, x < W ∧ y < H ∧ rowOf Rr H y = r ∧ bandOf (segB Rr Cc) (sbT W H) (x + y) = b := by
  have hH : 1 ≤ H := Nat.le_trans hR hRH
  have hlt := y0_lt_succ hR hRH r
  have hle := y0_le_H hR H (show r + 1 ≤ Rr from hr)
  -- `W = w + 1`, `y0 (r + 1) = c + 1`: the last SB of segment row `r` is `(w, c)`
  obtain ⟨w, rfl⟩ : ∃ w, W = w + 1 := ⟨W - 1, by omega⟩
  obtain ⟨c, hc⟩ : ∃ c, y0 Rr H (r + 1) = c + 1 := ⟨y0 Rr H (r + 1) - 1, by omega⟩
  have hpred := rowOf_y0_succ_pred hR hRH r
  unfold endBand at h2
  rw [hc, Nat.add_sub_cancel] at h2 hpred
  rw [Nat.add_sub_cancel] at h2
  obtain ⟨m, hm1, hm2, e⟩ := ivt_step (bandOf (segB Rr Cc) (sbT (w + 1) H))
    (bandOf_succ_le (sbT_pos (Nat.succ_pos w) hH) (segB_le_sbT hCW hRH)) (lo := y0 Rr H r) (hi := w + c) (by omega) h1 h2
  -- walk down column 0 to row `c`, then along row `c`
  by_cases hs : m ≤ c
  · exact ⟨0, m, Nat.succ_pos w, by omega, (rowOf_eq_iff hR hH r m).2 ⟨hm1, by omega⟩, by rw [Nat.zero_add]; exact e⟩
  · exact ⟨m - c, c, by omega, by omega, hpred, by rw [Nat.sub_add_cancel (by omega)]; exact e⟩

theorem row_segs_nonempty (hC : 1 ≤ Cc) (hCW : Cc ≤ W) (hR : 1 ≤ Rr) (hRH : Rr ≤ H)
    {r s : Nat} (hr : r < Rr) (h1 : cst W H Cc Rr r ≤ s) (h2 : s ≤ cen W H Cc Rr r) :
    ∃ x y, x < W ∧ y < H ∧ cseg W H Cc Rr x y = s := by
  unfold cst at h1; unfold cen at h2
  obtain ⟨x, y, hx, hy, e1, e2⟩ := bands_contiguous (W := W) (H := H) hC hCW hR hRH hr
    (b := s - r * segB Rr Cc) (by omega) (by omega)
  exact ⟨x, y, hx, hy, by unfold cseg; rw [e1, e2]; omega⟩

end

namespace InitAux

theorem size_foldl_amod {α : Type} (l : List α) (f : α → Nat) (g : α → Nat → Nat) (a0 : Array Nat) :
    (l.foldl (fun a p => amod a (f p) (g p)) a0).size = a0.size :=
  Seg.size_foldl_amod l f g a0

end InitAux

theorem countP_of_unique {α : Type} (p : α → Prop) [DecidablePred p] {l : List α}
    (hnd : l.Nodup) (hu : ∀ a ∈ l, ∀ b ∈ l, p a → p b → a = b) :
    l.countP (fun e => decide (p e)) = if ∃ e ∈ l, p e then 1 else 0 := by
  induction l with
  | nil => simp
  | cons a l ih =>
    rw [List.nodup_cons] at hnd
    rw [List.countP_cons, ih hnd.2 fun x hx y hy =>
      hu x (List.mem_cons_of_mem _ hx) y (List.mem_cons_of_mem _ hy)]
    by_cases hpa : p a
    · have : ¬ ∃ e ∈ l, p e := fun ⟨e, he, hpe⟩ =>
        hnd.1 (hu e (List.mem_cons_of_mem _ he) a List.mem_cons_self hpe hpa ▸ he)
      simp [hpa, this]
    · simp [hpa]

theorem row_idx_unique {B a c t : Nat} (h1 : a * B ≤ t) (h2 : t < a * B + B)
    (h3 : c * B ≤ t) (h4 : t < c * B + B) : a = c := by
  rw [← Nat.div_eq_of_lt_le h1 (by rw [Nat.add_one_mul]; exact h2),
    ← Nat.div_eq_of_lt_le h3 (by rw [Nat.add_one_mul]; exact h4)]

structure RowsOK (rows : Array SegRow) (R B : Nat) : Prop where
  hB : 1 ≤ B
  hR : 1 ≤ R
  hsmall : R * B < 65536
  lo : ∀ r, r < R → r * B ≤ rowStart rows r
  le : ∀ r, r < R → rowStart rows r ≤ rowEnd rows r
  hi : ∀ r, r < R → rowEnd rows r < r * B + B

theorem mem_rowSegs (rows : Array SegRow) (r s : Nat) :
    s ∈ rowSegs rows r ↔ rowStart rows r ≤ s ∧ s ≤ rowEnd rows r := by
  unfold rowSegs
  rw [List.mem_range'_1]; omega

theorem mem_depPairs (rows : Array SegRow) (R : Nat) (e : Nat × Nat) :
    e ∈ depPairs rows R ↔ e.1 < R ∧ rowStart rows e.1 ≤ e.2 ∧ e.2 ≤ rowEnd rows e.1 := by
  obtain ⟨r, s⟩ := e
  simp only [depPairs, List.mem_flatMap, List.mem_range, List.mem_map, Prod.mk.injEq, mem_rowSegs]
  constructor
  · rintro ⟨r', hr', s', hs', rfl, rfl⟩; exact ⟨hr', hs'⟩
  · rintro ⟨hr, hs⟩; exact ⟨r, hr, s, hs, rfl, rfl⟩

theorem nodup_depPairs (rows : Array SegRow) (R : Nat) : (depPairs rows R).Nodup := by
  unfold depPairs
  rw [List.nodup_flatMap]
  constructor
  · intro r _
    refine List.Nodup.map (fun a b h => by simpa using h) ?_
    unfold rowSegs
    exact List.nodup_range'
  · refine List.Pairwise.imp ?_ (List.nodup_iff_pairwise_ne.1 List.nodup_range)
    intro a b hab
    simp only [Function.onFun, List.disjoint_left, List.mem_map]
    rintro e ⟨_, _, rfl⟩ ⟨_, _, h⟩
    simp at h
    exact hab h.1.symm

theorem row_lt_total' {rows : Array SegRow} {R B : Nat} (ok : RowsOK rows R B) {r t : Nat}
    (hr : r < R) (h2 : t ≤ rowEnd rows r) : t < R * B :=
  lt_total hr (by rw [Nat.add_one_mul]; exact Nat.lt_of_le_of_lt h2 (ok.hi r hr))

section
variable {valid : Array Nat} {rows : Array SegRow} {R B : Nat}

/-- Edges at distance `d` into `t`: the visited pair `(row, s)` with `s + d = t` is unique (`s` fixes
    its row, and `s + d` does not wrap), so the count of such edges satisfying `c` is 0 or 1. -/
theorem count_edge (ok : RowsOK rows R B) (c : Nat × Nat → Prop) [DecidablePred c] {d t : Nat}
    (hd : d ≤ 65536) :
    (depPairs rows R).countP (fun e => c e ∧ u32 (e.2 + d) = t)
      = if ∃ e ∈ depPairs rows R, c e ∧ e.2 + d = t then 1 else 0 := by
  have hs := ok.hsmall
  have hrow : ∀ e ∈ depPairs rows R, e.1 * B ≤ e.2 ∧ e.2 < e.1 * B + B ∧ e.2 < R * B := by
    intro e he
    obtain ⟨hr, h1, h2⟩ := (mem_depPairs rows R e).1 he
    exact ⟨(ok.lo _ hr).trans h1, Nat.lt_of_le_of_lt h2 (ok.hi _ hr), row_lt_total' ok hr h2⟩
  rw [← countP_of_unique (fun e => c e ∧ e.2 + d = t) (nodup_depPairs rows R)]
  · refine List.countP_congr fun e he => ?_
    have := (hrow e he).2.2
    rw [u32_small (by omega)]
  · intro a ha b hb h1 h2
    obtain ⟨a1, a2, _⟩ := hrow a ha
    obtain ⟨b1, b2, _⟩ := hrow b hb
    have h2e : a.2 = b.2 := by omega
    exact Prod.ext (row_idx_unique (t := a.2) a1 a2 (by omega) (by omega)) h2e

theorem count_right (ok : RowsOK rows R B)
    (hvalid : ∀ r, r < R → ∀ s, rowStart rows r ≤ s → s ≤ rowEnd rows r → aget valid s ≠ 0)
    {r t : Nat} (hr : r < R) (h1 : rowStart rows r ≤ t) (h2 : t ≤ rowEnd rows r) :
    (depPairs rows R).countP (fun e => depC1 valid rows e ∧ u32 (e.2 + 1) = t)
      = if rowStart rows r < t then 1 else 0 := by
  have hlo := ok.lo r hr
  have hhi := ok.hi r hr
  rw [count_edge ok (depC1 valid rows) (d := 1) (by omega)]
  refine if_congr ⟨?_, fun hlt => ?_⟩ rfl rfl
  · rintro ⟨⟨r', s⟩, he, ⟨_, h5⟩, h6⟩
    obtain ⟨hr', h3, h4⟩ := (mem_depPairs rows R _).1 he
    simp only at h3 h4 h5 h6
    have hlo' := ok.lo r' hr'
    have hhi' := ok.hi r' hr'
    have : r' = r := row_idx_unique (B := B) (t := t) (by omega) (by omega) (by omega) (by omega)
    subst this
    omega
  · exact ⟨(r, t - 1), (mem_depPairs rows R _).2 ⟨hr, Nat.le_sub_one_of_lt hlt, (Nat.sub_le _ _).trans h2⟩,
      ⟨hvalid r hr (t - 1) (Nat.le_sub_one_of_lt hlt) ((Nat.sub_le _ _).trans h2),
        Nat.lt_of_lt_of_le (Nat.sub_one_lt (by omega)) h2⟩, Nat.sub_add_cancel (by omega)⟩

theorem count_bottom (ok : RowsOK rows R B)
    (hvalid : ∀ r, r < R → ∀ s, rowStart rows r ≤ s → s ≤ rowEnd rows r → aget valid s ≠ 0)
    {r t : Nat} (hr : r < R) (h1 : rowStart rows r ≤ t) (h2 : t ≤ rowEnd rows r) :
    (depPairs rows R).countP (fun e => depC2 valid rows R B e ∧ u32 (e.2 + B) = t)
      = if 1 ≤ r ∧ rowStart rows (r - 1) + B ≤ t ∧ t ≤ rowEnd rows (r - 1) + B then 1 else 0 := by
  have hs := ok.hsmall
  have hB := ok.hB
  have htot := row_lt_total' ok hr h2
  have hRB : R ≤ R * B := Nat.le_mul_of_pos_right _ hB
  rw [count_edge ok (depC2 valid rows R B) (d := B) (Nat.le_trans (Nat.le_mul_of_pos_left _ ok.hR) (by omega))]
  refine if_congr ⟨?_, ?_⟩ rfl rfl
  · rintro ⟨⟨r', s⟩, he, ⟨_, h5, h6⟩, h7⟩
    obtain ⟨hr', h3, h4⟩ := (mem_depPairs rows R _).1 he
    simp only at h3 h4 h5 h6 h7
    subst h7
    rw [u32_small (by omega), sub32_of_le ok.hR (by omega)] at *
    -- `s + B` lies in the index range of row `r' + 1` and of row `r`
    have hlo' := ok.lo (r' + 1) (by omega)
    have hhi' := ok.hi r' hr'
    have hlo := ok.lo r hr
    have hhi := ok.hi r hr
    obtain rfl : r' + 1 = r := row_idx_unique (B := B) (t := s + B)
      (by omega) (by rw [Nat.add_mul, Nat.one_mul]; omega) (by omega) (by omega)
    rw [Nat.add_sub_cancel]
    exact ⟨Nat.succ_pos _, Nat.add_le_add_right h3 B, Nat.add_le_add_right h4 B⟩
  · rintro ⟨h0, h3, h4⟩
    obtain ⟨r', rfl⟩ : ∃ r', r = r' + 1 := ⟨r - 1, by omega⟩
    rw [Nat.add_sub_cancel] at h3 h4
    obtain ⟨s, rfl⟩ : ∃ s, t = s + B := ⟨t - B, by omega⟩
    have hr' : r' < R := Nat.lt_of_succ_lt hr
    have hs1 : rowStart rows r' ≤ s := Nat.le_of_add_le_add_right h3
    have hs2 : s ≤ rowEnd rows r' := Nat.le_of_add_le_add_right h4
    refine ⟨(r', s), (mem_depPairs rows R _).2 ⟨hr', hs1, hs2⟩, ⟨hvalid r' hr' s hs1 hs2, ?_, ?_⟩, rfl⟩
    · show r' < sub32 R 1
      rw [sub32_of_le ok.hR (by omega)]; omega
    · show u32 (s + B) ≥ rowStart rows (r' + 1)
      rw [u32_small (by omega)]; exact h1

/-- the dependency fold of `enc_dec_segments_init` (lines 146-165), for any row table satisfying
    `RowsOK` and any `valid` array that is non-zero on every row range -/
theorem dep_fold_spec (ok : RowsOK rows R B)
    (hvalid : ∀ r, r < R → ∀ s, rowStart rows r ≤ s → s ≤ rowEnd rows r → aget valid s ≠ 0)
    (n : Nat) (hn : n = R * B) :
    ((List.range R).foldl (fun d r => (rowSegs rows r).foldl (depBody valid rows R B r) d)
        (Array.replicate n 0)).size = n ∧
    ∀ r, r < R → ∀ t, rowStart rows r ≤ t → t ≤ rowEnd rows r →
      aget ((List.range R).foldl (fun d r => (rowSegs rows r).foldl (depBody valid rows R B r) d)
        (Array.replicate n 0)) t
      = (if rowStart rows r < t then 1 else 0) +
        (if 1 ≤ r ∧ rowStart rows (r - 1) + B ≤ t ∧ t ≤ rowEnd rows (r - 1) + B then 1 else 0) := by
  rw [dep_fold_eq_pairs]
  refine ⟨by rw [size_foldl_twoInc]; simp, ?_⟩
  intro r hr t h1 h2
  have htot := row_lt_total' ok hr h2
  rw [aget_foldl_twoInc 256 _ _ _ _ _ _ t (by simpa [hn] using htot)
    (by rw [aget_replicate]; split <;> omega)]
  rw [aget_replicate, if_pos (by omega), Nat.zero_add, count_right ok hvalid hr h1 h2,
    count_bottom ok hvalid hr h1 h2]
  split <;> split <;> rfl

end

/-- size hypotheses under which `enc_dec_segments_init` is analysed: picture at most 4096x4096 SBs
    and fewer than 65536 SBs in total (so `valid_sb_count_array` (uint16_t) cannot wrap), at least one
    segment row/column requested, and `segment_ttl_count < 65536` (uint16_t row indices), where
    `effR W H R MR` is the effective segment row count after init's clamps (1 when `W = 1`). -/
structure InitOK (W H C R MR : Nat) : Prop where
  hW1 : 1 ≤ W
  hW : W ≤ 4096
  hH1 : 1 ≤ H
  hH : H ≤ 4096
  hC : 1 ≤ C
  hR : 1 ≤ R
  hMR : 1 ≤ MR
  hWH : W * H < 65536
  hN : effR W H R MR * segB (effR W H R MR) (min C W) < 65536

section
variable {W H C R MR : Nat}

theorem initSeg_validSb_fold (MC : Nat) :
    (initSeg W H C R MC MR).validSb
      = (allSbs W H).foldl (fun a p => amod a
            (sbSeg (initSeg W H C R MC MR).segBandCount (initSeg W H C R MC MR).sbBandCount
              (initSeg W H C R MC MR).segRowCount H p) (fun v => (v + 1) % 65536))
          (Array.replicate (initSeg W H C R MC MR).segTtlCount 0) := rfl

/-- every segment inside a row range contains at least one SB, and its `uint16_t` SB count is non-zero -/
theorem initSeg_valid_ne_zero (ok : InitOK W H C R MR) (MC : Nat) {r s : Nat}
    (hr : r < effR W H R MR)
    (h1 : cst W H (min C W) (effR W H R MR) r ≤ s)
    (h2 : s ≤ cen W H (min C W) (effR W H R MR) r) :
    aget (initSeg W H C R MC MR).validSb s ≠ 0 := by
  obtain ⟨hW1, hW, hH1, hH, hC, hR, hMR, hWH, hN⟩ := ok
  have hCc : 1 ≤ min C W := by omega
  have hCW : min C W ≤ W := by omega
  have hRr : 1 ≤ effR W H R MR := effR_pos hH1 hR hMR
  have hRH : effR W H R MR ≤ H := effR_le_H hH1
  have httl := initSeg_segTtlCount_closed (R := R) (MR := MR) hW1 hW hH hC MC hN
  have hs : s < (initSeg W H C R MC MR).segTtlCount := by
    rw [httl]
    have a := cen_lt (W := W) (H := H) (Cc := min C W) hW1 hCc hRr hRH hr
    have b := Nat.mul_le_mul_right (segB (effR W H R MR) (min C W)) (show r + 1 ≤ _ from hr)
    omega
  rw [initSeg_validSb_fold, aget_foldl_count_mod 65536 _ _ _ s (by simpa using hs)
    (by rw [aget_replicate]; split <;> omega), aget_replicate, if_pos hs, Nat.zero_add]
  obtain ⟨x, y, hx, hy, e⟩ := row_segs_nonempty (W := W) (H := H) hCc hCW hRr hRH hr h1 h2
  have hpos : 0 < (allSbs W H).countP (fun p => sbSeg (initSeg W H C R MC MR).segBandCount
      (initSeg W H C R MC MR).sbBandCount (initSeg W H C R MC MR).segRowCount H p = s) := by
    rw [List.countP_pos_iff]
    refine ⟨(x, y), (mem_allSbs W H _).2 ⟨hx, hy⟩, ?_⟩
    rw [initSeg_segBandCount_raw, initSeg_sbBandCount_raw, initSeg_segRowCount_min,
      initSeg_sbSeg hW1 hW hH hC hR hMR hN hx hy]
    simpa using e
  have hle := List.countP_le_length (p := fun p => decide (sbSeg (initSeg W H C R MC MR).segBandCount
      (initSeg W H C R MC MR).sbBandCount (initSeg W H C R MC MR).segRowCount H p = s)) (l := allSbs W H)
  rw [length_allSbs] at hle
  rw [Nat.mod_eq_of_lt (by omega)]
  omega


/-- the static facts about the control block, in closed form -/
structure InitShape (W H C R MR : Nat) (g : SegCtl) : Prop where
  segRows : g.segRowCount = effR W H R MR
  segBands : g.segBandCount = segB (effR W H R MR) (min C W)
  sbBands : g.sbBandCount = sbT W H
  ttl : g.segTtlCount = g.segRowCount * g.segBandCount
  rowsSize : g.rows.size = g.segRowCount
  bandPos : 1 ≤ g.segBandCount
  rowPos : 1 ≤ g.segRowCount
  small : g.segRowCount * g.segBandCount < 65536
  rows : ∀ r, r < g.segRowCount →
    rowStart g.rows r = cst W H (min C W) (effR W H R MR) r ∧
    rowEnd g.rows r = cen W H (min C W) (effR W H R MR) r ∧
    (g.rows.getD r default).current = rowStart g.rows r

theorem initSeg_wf_static (ok : InitOK W H C R MR) (MC : Nat) :
    InitShape W H C R MR (initSeg W H C R MC MR) := by
  let g := initSeg W H C R MC MR
  obtain ⟨hW1, hW, hH1, hH, hC, hR, hMR, hWH, hN⟩ := ok
  have eR : g.segRowCount = effR W H R MR := initSeg_segRowCount_min W H C R MC MR
  have eB : g.segBandCount = segB (effR W H R MR) (min C W) :=
    initSeg_segBandCount_closed hW1 hW hH hC MC
  have eT : g.segTtlCount = effR W H R MR * segB (effR W H R MR) (min C W) :=
    initSeg_segTtlCount_closed hW1 hW hH hC MC hN
  refine ⟨eR, eB, initSeg_sbBandCount_closed hW1 hW hH MC, by rw [eT, eR, eB],
    by rw [eR]; exact initSeg_rows_size MC, by rw [eB]; exact segB_pos (by omega) (effR_pos hH1 hR hMR),
    by rw [eR]; exact effR_pos hH1 hR hMR, by rw [eR, eB]; exact hN, ?_⟩
  intro r hr
  rw [eR] at hr
  have e1 := initSeg_rowStart (R := R) (MR := MR) hW1 hW hH1 hH hC MC hN hr
  have e2 := initSeg_rowEnd (R := R) (MR := MR) hW1 hW hH1 hH hC MC hN hr
  have e3 := initSeg_row (R := R) (MR := MR) hW1 hW hH1 hH hC MC hN hr
  refine ⟨e1, e2, ?_⟩
  show ((initSeg W H C R MC MR).rows.getD r default).current = rowStart (initSeg W H C R MC MR).rows r
  rw [e1, e3]

theorem initSeg_rowsOK (ok : InitOK W H C R MR) (MC : Nat) :
    RowsOK (initSeg W H C R MC MR).rows (initSeg W H C R MC MR).segRowCount
      (initSeg W H C R MC MR).segBandCount := by
  have sh := initSeg_wf_static ok MC
  have eR := sh.segRows; have eB := sh.segBands; have hrow := sh.rows
  obtain ⟨hW1, hW, hH1, hH, hC, hR, hMR, hWH, hN⟩ := ok
  have hCc : 1 ≤ min C W := by omega
  have hRr : 1 ≤ effR W H R MR := effR_pos hH1 hR hMR
  have hRH : effR W H R MR ≤ H := effR_le_H hH1
  refine ⟨sh.bandPos, sh.rowPos, sh.small, ?_, ?_, ?_⟩
  · intro r hr
    rw [(hrow r hr).1, eB]; exact le_cst r
  · intro r hr
    rw [(hrow r hr).1, (hrow r hr).2.1]; exact cst_le_cen hRr hRH r
  · intro r hr
    rw [(hrow r hr).2.1, eB]
    have := cen_lt (W := W) (H := H) (Cc := min C W) hW1 hCc hRr hRH (eR ▸ hr)
    rw [Nat.add_mul, Nat.one_mul] at this
    exact this

/-- `enc_dec_segments_init` produces a well-formed control block -/
theorem initSeg_wf (ok : InitOK W H C R MR) (MC : Nat) : WF (initSeg W H C R MC MR) := by
  have rok := initSeg_rowsOK ok MC
  obtain ⟨eR, eB, _, eT, hsz, hB, hR', hs, hrow⟩ := initSeg_wf_static ok MC
  have hRr : 1 ≤ effR W H R MR := effR_pos ok.hH1 ok.hR ok.hMR
  have hvalid : ∀ r, r < (initSeg W H C R MC MR).segRowCount → ∀ s,
      rowStart (initSeg W H C R MC MR).rows r ≤ s → s ≤ rowEnd (initSeg W H C R MC MR).rows r →
      aget (initSeg W H C R MC MR).validSb s ≠ 0 := by
    intro r hr s h1 h2
    rw [(hrow r hr).1] at h1
    rw [(hrow r hr).2.1] at h2
    exact initSeg_valid_ne_zero ok MC (eR ▸ hr) h1 h2
  have hdep := dep_fold_spec rok hvalid (initSeg W H C R MC MR).segTtlCount eT
  rw [← initSeg_dep_eq] at hdep
  refine ⟨hB, hR', hs, eT, hsz, by rw [hdep.1, eT], rok.lo, rok.le, ?_, fun r hr => (hrow r hr).2.2,
    ?_, ?_, ?_⟩
  · intro r hr
    have := rok.hi r hr
    rw [Nat.add_mul, Nat.one_mul]; exact this
  · intro r hr
    rw [(hrow r (by omega)).1, (hrow (r + 1) hr).1, eB]
    exact cst_add_le_cst_succ r
  · intro r hr
    rw [(hrow r (by omega)).2.1, (hrow (r + 1) hr).2.1, eB]
    exact cen_add_le_cen_succ r
  · intro r hr t h1 h2
    rw [hdep.2 r hr t h1 h2]
    by_cases hb : botPred (initSeg W H C R MC MR) r t
    · have hb' := hb
      unfold botPred at hb'
      rw [if_pos hb, if_pos hb']
    · have hb' := hb
      unfold botPred at hb'
      rw [if_neg hb, if_neg hb']

/-- every row after the first is fed by a bottom edge: with at least two SB columns by the geometry
    (`cst_succ_le_cen_add`), and a picture one SB wide has a single segment row (line 83), so there is no
    "row after the first".  (Without the clamp of line 83 this fails for `W = 1`, `Rr ≥ 2`:
    `no_bottom_edge_W1` in SegmentsArith.) -/
theorem initSeg_live (ok : InitOK W H C R MR) (MC : Nat) : Live (initSeg W H C R MC MR) := by
  have sh := initSeg_wf_static ok MC
  have eR := sh.segRows; have eB := sh.segBands; have hrow := sh.rows
  intro r hr
  rw [(hrow r (by omega)).2.1, (hrow (r + 1) hr).1, eB]
  rcases effR_live ok.hW1 H R MR with h | h
  · exact cst_succ_le_cen_add h (effR_pos ok.hH1 ok.hR ok.hMR) (effR_le_H ok.hH1) r
  · rw [eR] at hr; omega

theorem initSeg_W1 (ok : InitOK 1 H C R MR) (MC : Nat) :
    (initSeg 1 H C R MC MR).segRowCount = 1 ∧ (initSeg 1 H C R MC MR).segBandCount = 1 ∧
    (initSeg 1 H C R MC MR).segTtlCount = 1 := by
  have sh := initSeg_wf_static ok MC
  have eR := sh.segRows; have eB := sh.segBands; have eT := sh.ttl
  have hC := ok.hC
  have e1 : effR 1 H R MR = 1 := effR_W1 H R MR
  have e2 : min C 1 = 1 := by omega
  rw [e1] at eR
  rw [e1, e2] at eB
  refine ⟨eR, by rw [eB]; rfl, ?_⟩
  rw [eT, eR, eB]; rfl

end

/-! non-vacuity: the hypotheses are satisfiable, also for a one-SB-wide grid -/
example : InitOK 5 7 3 4 6 := ⟨by decide, by decide, by decide, by decide, by decide, by decide, by decide,
  by decide, by decide⟩
example : WF (initSeg 5 7 3 4 6 6) := initSeg_wf ⟨by decide, by decide, by decide, by decide, by decide,
  by decide, by decide, by decide, by decide⟩ 6
example : Live (initSeg 1 7 1 4 6 6) := initSeg_live ⟨by decide, by decide, by decide, by decide,
  by decide, by decide, by decide, by decide, by decide⟩ 6

/-- The control block the init code produces WITHOUT the clamp of EbEncDecSegments.c:83 for a picture 1 SB wide and
    2 SBs high with 2 segment rows (C = 1, R = 2): band count 2, rows `{0}` and `{3}`, every dependency count 0.
    Used as the witness that the hypotheses of `sched_stuck` are satisfiable (finding F2). -/
def preFixW1x2 : SegCtl :=
  { maxRowCount := 2, maxBandCount := 3, maxTotalCount := 6, segBandCount := 2, segRowCount := 2, segTtlCount := 4,
    sbBandCount := 2, sbRowCount := 2, validSb := #[1, 0, 0, 1], xStart := #[0, 65535, 65535, 0],
    yStart := #[0, 65535, 65535, 1], dep := #[0, 0, 0, 0],
    rows := #[{ starting := 0, ending := 0, current := 0 }, { starting := 3, ending := 3, current := 3 }] }

theorem preFixW1x2_wf : WF preFixW1x2 := wf_of_check preFixW1x2 false (by decide)

end Seg
