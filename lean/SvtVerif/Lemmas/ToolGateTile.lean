import SvtVerif.Model.ToolGate
import Mathlib.Algebra.GroupWithZero.Nat

/-!
Arithmetic of the tile-info section of `Model/ToolGate.lean`.  Ceiling division and `tileLog2` are used through their order
characterisations (`lt_ceilDiv`, `lt_tileLog2`); the fuel-bounded `tileStarts` loop is a `List.range'`.
-/

namespace ToolGate

theorem lt_ceilDiv (n p m : Nat) (hp : 1 ≤ p) : m < (n + p - 1) / p ↔ m * p < n := by
  rw [Nat.lt_iff_add_one_le, Nat.le_div_iff_mul_le hp, Nat.add_mul, Nat.one_mul]
  omega

theorem ceilDiv_le (n p m : Nat) (hp : 1 ≤ p) : (n + p - 1) / p ≤ m ↔ n ≤ m * p := by
  rw [← Nat.not_lt, lt_ceilDiv n p m hp, Nat.not_lt]

theorem ceilDiv_pos (n p : Nat) (hn : 1 ≤ n) (hp : 1 ≤ p) : 1 ≤ (n + p - 1) / p :=
  (lt_ceilDiv n p 0 hp).2 (by rw [Nat.zero_mul]; exact hn)

theorem ceilDiv_mul_self (p m : Nat) (hp : 1 ≤ p) : (p * m + p - 1) / p = m := by
  have h1 := lt_ceilDiv (p * m) p m hp
  have h2 := lt_ceilDiv (p * m) p ((p * m + p - 1) / p) hp
  generalize (p * m + p - 1) / p = c at h1 h2 ⊢
  rw [Nat.mul_comm p m, Nat.mul_lt_mul_right hp] at h2
  rw [Nat.mul_comm p m] at h1
  omega

theorem tileLog2Aux_spec (blk t : Nat) (hb : 1 ≤ blk) :
    ∀ (fuel k : Nat), t ≤ fuel + k → (∀ j, j < k → blk * 2 ^ j < t) →
      t ≤ blk * 2 ^ tileLog2Aux blk t fuel k ∧ ∀ j, j < tileLog2Aux blk t fuel k → blk * 2 ^ j < t := by
  intro fuel
  induction fuel with
  | zero =>
    intro k hf hinv
    refine ⟨?_, hinv⟩
    have h1 : k < 2 ^ k := Nat.lt_two_pow_self
    have h2 : 1 * 2 ^ k ≤ blk * 2 ^ k := Nat.mul_le_mul_right _ hb
    show t ≤ blk * 2 ^ k
    omega
  | succ fuel ih =>
    intro k hf hinv
    simp only [tileLog2Aux]
    by_cases hlt : blk * 2 ^ k < t
    · rw [if_pos hlt]
      refine ih (k + 1) (by omega) fun j hj => ?_
      rcases Nat.lt_succ_iff_lt_or_eq.1 hj with hj | rfl
      · exact hinv j hj
      · exact hlt
    · rw [if_neg hlt]
      exact ⟨Nat.le_of_not_lt hlt, hinv⟩

theorem lt_tileLog2 (blk t j : Nat) (hb : 1 ≤ blk) : j < tileLog2 blk t ↔ blk * 2 ^ j < t := by
  have hs : t ≤ blk * 2 ^ tileLog2 blk t ∧ ∀ j, j < tileLog2 blk t → blk * 2 ^ j < t :=
    tileLog2Aux_spec blk t hb t 0 (Nat.le_refl t) (fun _ hj => absurd hj (Nat.not_lt_zero _))
  refine ⟨hs.2 j, fun h => Nat.lt_of_not_le fun hle => ?_⟩
  have h1 := hs.1
  have h2 := Nat.mul_le_mul_left blk (Nat.pow_le_pow_right (by decide : 0 < 2) hle)
  omega

theorem tileLog2_le_of_le (blk t k : Nat) (hb : 1 ≤ blk) (h : t ≤ blk * 2 ^ k) : tileLog2 blk t ≤ k :=
  Nat.le_of_not_lt fun hlt => Nat.not_le_of_lt ((lt_tileLog2 blk t k hb).1 hlt) h

theorem tileLog2_eq_zero_of_le (blk t : Nat) (h : t ≤ blk) : tileLog2 blk t = 0 := by
  unfold tileLog2
  cases t with
  | zero => rfl
  | succ t =>
    simp only [tileLog2Aux]
    rw [if_neg (by simp only [Nat.pow_zero, Nat.mul_one]; omega)]

theorem le_tileLog2_of_pow_le (m r : Nat) (h : 2 ^ r ≤ m) : r ≤ tileLog2 1 m := by
  cases r with
  | zero => exact Nat.zero_le _
  | succ r =>
    refine (lt_tileLog2 1 m r (Nat.le_refl 1)).2 ?_
    have := Nat.one_le_two_pow (n := r)
    rw [Nat.pow_succ] at h
    omega

theorem tileSizeSb_pos (n k : Nat) (hn : 1 ≤ n) : 1 ≤ tileSizeSb n k :=
  ceilDiv_pos n (2 ^ k) hn Nat.one_le_two_pow

theorem tileSizeSb_mul_ge (n k : Nat) : n ≤ tileSizeSb n k * 2 ^ k :=
  (ceilDiv_le n (2 ^ k) _ Nat.one_le_two_pow).1 (Nat.le_refl _)

theorem tileSizeSb_mul_lt (n k : Nat) : tileSizeSb n k * 2 ^ k < n + 2 ^ k := by
  have h1 := Nat.div_mul_le_self (n + 2 ^ k - 1) (2 ^ k)
  have h2 : 1 ≤ 2 ^ k := Nat.one_le_two_pow
  show (n + 2 ^ k - 1) / 2 ^ k * 2 ^ k < n + 2 ^ k
  omega

theorem sbCount_pos (mi l : Nat) (h : 1 ≤ mi) : 1 ≤ sbCount mi l :=
  ceilDiv_pos mi (2 ^ l) h Nat.one_le_two_pow

theorem sbCount_mono {a b : Nat} (l : Nat) (h : a ≤ b) : sbCount a l ≤ sbCount b l :=
  Nat.div_le_div_right (Nat.sub_le_sub_right (Nat.add_le_add_right h _) 1)

theorem miOf_mono {a b : Nat} (h : a ≤ b) : miOf a ≤ miOf b :=
  Nat.mul_le_mul_left 2 (Nat.div_le_div_right (Nat.add_le_add_right h 7))

/-! Below, `c` is `⌈(n - start) / size⌉`, given without division as `∀ m, m < c ↔ m * size < n - start`. -/

private theorem count_zero {n size c start : Nat} (hc : ∀ m, m < c ↔ m * size < n - start) (h : ¬ start < n) : c = 0 :=
  Nat.eq_zero_of_not_pos fun hpos => h (Nat.lt_of_sub_pos (Nat.zero_mul size ▸ (hc 0).1 hpos))

private theorem count_succ {n size c start : Nat} (hc : ∀ m, m < c + 1 ↔ m * size < n - start) (m : Nat) :
    m < c ↔ m * size < n - (start + size) := by
  rw [← Nat.succ_lt_succ_iff, hc (m + 1), Nat.succ_mul, ← Nat.sub_sub, Nat.lt_sub_iff_add_lt (b := size)]

theorem tileStartsAux_eq (n size : Nat) (hs : 1 ≤ size) :
    ∀ (fuel start c : Nat), n - start ≤ fuel → (∀ m, m < c ↔ m * size < n - start) →
      tileStartsAux n size fuel start = List.range' start c size := by
  intro fuel
  induction fuel with
  | zero =>
    intro start c hf hc
    rw [count_zero hc fun h => Nat.lt_irrefl _ (Nat.lt_of_lt_of_le (Nat.sub_pos_of_lt h) hf)]
    rfl
  | succ fuel ih =>
    intro start c hf hc
    simp only [tileStartsAux]
    by_cases hlt : start < n
    · cases c with
      | zero => exact absurd ((hc 0).2 (by rw [Nat.zero_mul]; exact Nat.sub_pos_of_lt hlt)) (Nat.lt_irrefl 0)
      | succ c =>
        have hf' : n - (start + size) ≤ fuel := by
          rw [← Nat.sub_sub]
          exact Nat.sub_le_of_le_add (Nat.le_trans hf (Nat.add_le_add_left hs fuel))
        rw [if_pos hlt, ih (start + size) c hf' (count_succ hc)]
        rfl
    · rw [if_neg hlt, count_zero hc hlt]
      rfl

theorem tileStarts_eq_range' (n k : Nat) (hn : 1 ≤ n) :
    tileStarts n k = List.range' 0 ((n + tileSizeSb n k - 1) / tileSizeSb n k) (tileSizeSb n k) :=
  tileStartsAux_eq n _ (tileSizeSb_pos n k hn) n 0 _ (Nat.le_refl n) fun m => lt_ceilDiv n _ m (tileSizeSb_pos n k hn)

theorem tileStarts_eq (n k : Nat) (hn : 1 ≤ n) :
    tileStarts n k = (List.range ((n + tileSizeSb n k - 1) / tileSizeSb n k)).map (· * tileSizeSb n k) := by
  rw [tileStarts_eq_range' n k hn]
  apply List.ext_getElem <;> simp [Nat.mul_comm]

theorem tileStarts_length (n k : Nat) (hn : 1 ≤ n) :
    (tileStarts n k).length = (n + tileSizeSb n k - 1) / tileSizeSb n k := by
  rw [tileStarts_eq_range' n k hn, List.length_range']

theorem tileCount_le (n k : Nat) (hn : 1 ≤ n) : (tileStarts n k).length ≤ 2 ^ k := by
  rw [tileStarts_length n k hn, ceilDiv_le n _ _ (tileSizeSb_pos n k hn), Nat.mul_comm]
  exact tileSizeSb_mul_ge n k

theorem tileCount_gt (n k : Nat) (h : 2 ^ k < n) : 2 ^ k < (tileStarts n (k + 1)).length := by
  have hp : 1 ≤ 2 ^ k := Nat.one_le_two_pow
  have hn : 1 ≤ n := Nat.le_trans hp (Nat.le_of_lt h)
  rw [tileStarts_length n _ hn, lt_ceilDiv n _ _ (tileSizeSb_pos n _ hn)]
  rcases Nat.lt_or_ge n (2 ^ (k + 1)) with hc | hc
  · -- fewer than 2^(k+1) superblocks: tiles of one superblock
    have hs : tileSizeSb n (k + 1) ≤ 1 := (ceilDiv_le n _ 1 Nat.one_le_two_pow).2 (by rw [Nat.one_mul]; exact Nat.le_of_lt hc)
    exact Nat.lt_of_le_of_lt (Nat.mul_le_mul_left _ hs) (by rw [Nat.mul_one]; exact h)
  · -- otherwise `2 * (2^k * size) < n + 2^(k+1) ≤ 2 * n`
    have hlt := tileSizeSb_mul_lt n (k + 1)
    rw [Nat.pow_succ, ← Nat.mul_assoc, Nat.mul_comm (tileSizeSb n (k + 1))] at hlt
    rw [Nat.pow_succ] at hc
    exact Nat.lt_of_mul_lt_mul_right (a := 2)
      (Nat.lt_of_lt_of_le hlt (by rw [Nat.mul_two n]; exact Nat.add_le_add_left hc n))

theorem tileCount_exact (n k : Nat) (hn : 1 ≤ n) (hd : 2 ^ k ∣ n) : (tileStarts n k).length = 2 ^ k := by
  rw [tileStarts_length n k hn]
  obtain ⟨m, rfl⟩ := hd
  have hm : 1 ≤ m := Nat.pos_of_ne_zero fun h0 => by rw [h0] at hn; omega
  have hsz : tileSizeSb (2 ^ k * m) k = m := ceilDiv_mul_self (2 ^ k) m Nat.one_le_two_pow
  rw [hsz, Nat.mul_comm]
  exact ceilDiv_mul_self m (2 ^ k) hm

theorem tileLog2_tileCount (n k : Nat) (hn : 1 ≤ n) (hk : k ≤ tileLog2 1 (min n 64)) :
    tileLog2 1 (tileStarts n k).length = k := by
  refine Nat.le_antisymm (tileLog2_le_of_le 1 _ k (Nat.le_refl 1) ?_) ?_
  · rw [Nat.one_mul]
    exact tileCount_le n k hn
  · cases k with
    | zero => exact Nat.zero_le _
    | succ k =>
      have h1 := (lt_tileLog2 1 (min n 64) k (Nat.le_refl 1)).1 hk
      have h2 := tileCount_gt n k (by omega)
      exact (lt_tileLog2 1 _ k (Nat.le_refl 1)).2 (by omega)

/-- Tile `i` covers superblocks `[start_i, min (start_i + size) n)` (svt_av1_calculate_tile_cols, EbEntropyCoding.c:3016-3025). -/
def tileWidths (n k : Nat) : List Nat := (tileStarts n k).map (fun s => min (tileSizeSb n k) (n - s))

theorem tileWidths_pos (n k : Nat) (hn : 1 ≤ n) : ∀ w ∈ tileWidths n k, 1 ≤ w ∧ w ≤ tileSizeSb n k := by
  intro w hw
  obtain ⟨s, hs, rfl⟩ := List.mem_map.1 hw
  rw [tileStarts_eq_range' n k hn] at hs
  obtain ⟨i, hi, rfl⟩ := List.mem_range'.1 hs
  have h1 := (lt_ceilDiv n _ i (tileSizeSb_pos n k hn)).1 hi
  have h2 := tileSizeSb_pos n k hn
  rw [Nat.mul_comm] at h1
  omega

private theorem min_add_sub (a b : Nat) : min a b + (b - a) = b := by
  rcases Nat.le_total a b with h | h
  · rw [Nat.min_eq_left h, Nat.add_sub_cancel' h]
  · rw [Nat.min_eq_right h, Nat.sub_eq_zero_of_le h, Nat.add_zero]

theorem range'_width_sum (n size : Nat) :
    ∀ (c start : Nat), (∀ m, m < c ↔ m * size < n - start) →
      ((List.range' start c size).map (fun s => min size (n - s))).sum = n - start := by
  intro c
  induction c with
  | zero =>
    intro start hc
    exact (Nat.eq_zero_of_not_pos fun hpos => Nat.lt_irrefl 0 ((hc 0).2 (by rw [Nat.zero_mul]; exact hpos))).symm
  | succ c ih =>
    intro start hc
    rw [List.range'_succ, List.map_cons, List.sum_cons, ih (start + size) (count_succ hc), ← Nat.sub_sub]
    exact min_add_sub size (n - start)

theorem tileWidths_sum (n k : Nat) (hn : 1 ≤ n) : (tileWidths n k).sum = n := by
  rw [tileWidths, tileStarts_eq_range' n k hn]
  exact range'_width_sum n _ _ 0 fun m => lt_ceilDiv n _ m (tileSizeSb_pos n k hn)

theorem uniform_layout (n k : Nat) (hn : 1 ≤ n) (hk : k ≤ tileLog2 1 (min n 64)) :
    (tileStarts n k).length ≤ 2 ^ k ∧ 1 ≤ (tileStarts n k).length ∧ tileLog2 1 (tileStarts n k).length = k ∧
    (∀ w ∈ tileWidths n k, 1 ≤ w ∧ w ≤ tileSizeSb n k) ∧ (tileWidths n k).sum = n ∧
    tileStarts n k = (List.range (tileStarts n k).length).map (· * tileSizeSb n k) :=
  ⟨tileCount_le n k hn, by rw [tileStarts_length n k hn]; exact ceilDiv_pos n _ hn (tileSizeSb_pos n k hn), tileLog2_tileCount n k hn hk, tileWidths_pos n k hn, tileWidths_sum n k hn,
    by rw [tileStarts_length n k hn]; exact tileStarts_eq n k hn⟩

theorem clampLog2_le_hi (r lo hi : Nat) : clampLog2 r lo hi ≤ hi := Nat.min_le_right _ _

theorem clampLog2_of_lo_le {r lo : Nat} (hi : Nat) (h : lo ≤ r) : clampLog2 r lo hi = min r hi := by
  rw [clampLog2, Nat.max_eq_left h]

theorem clampLog2_ge_lo (r lo hi : Nat) (h : lo ≤ hi) : lo ≤ clampLog2 r lo hi :=
  Nat.le_min.2 ⟨Nat.le_max_right _ _, h⟩

theorem minLog2Cols_zero (miCols miRows log2Sb : Nat)
    (h : (tileLimits miCols miRows log2Sb).sbCols ≤ (tileLimits miCols miRows log2Sb).maxTileWidthSb) :
    (tileLimits miCols miRows log2Sb).minLog2Cols = 0 :=
  tileLog2_eq_zero_of_le _ _ h

theorem requested_layout (n req lo : Nat) (hn : 1 ≤ n) (hlo : lo ≤ req) :
    let k := clampLog2 req lo (tileLog2 1 (min n 64))
    k = min req (tileLog2 1 (min n 64)) ∧ (2 ^ req ≤ min n 64 → k = req) ∧
    (2 ^ req ≤ min n 64 → 2 ^ req ∣ n → (tileStarts n k).length = 2 ^ req) := by
  intro k
  have e : k = min req (tileLog2 1 (min n 64)) := clampLog2_of_lo_le _ hlo
  have g : 2 ^ req ≤ min n 64 → k = req := fun h => e.trans (Nat.min_eq_left (le_tileLog2_of_pow_le _ _ h))
  exact ⟨e, g, fun h hd => by rw [g h]; exact tileCount_exact n req hn hd⟩

end ToolGate
