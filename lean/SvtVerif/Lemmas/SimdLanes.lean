/-
  C07 — facts about the register and memory model shared by all kernel proofs: little-endian lanes of a byte-list
  register (`leN` of consecutive bytes of a vector is a bit-field of it, `lanesN ∘ unlanesN = id`) and `storeL` algebra.
-/
import SvtVerif.Model.Simd

namespace Simd

theorem le16_extract {w : Nat} (v : BitVec w) (s : Nat) :
    le16 (v.extractLsb' s 8) (v.extractLsb' (s + 8) 8) = v.extractLsb' s 16 :=
  BitVec.extractLsb'_append_extractLsb'_eq_extractLsb' rfl

theorem le32_extract {w : Nat} (v : BitVec w) (s : Nat) :
    le32 (v.extractLsb' s 8) (v.extractLsb' (s + 8) 8) (v.extractLsb' (s + 16) 8) (v.extractLsb' (s + 24) 8)
      = v.extractLsb' s 32 := by
  unfold le32
  iterate 3 rw [BitVec.extractLsb'_append_extractLsb'_eq_extractLsb']
  all_goals rfl

theorem le64_extract {w : Nat} (v : BitVec w) (s : Nat) :
    le64 (v.extractLsb' s 8) (v.extractLsb' (s + 8) 8) (v.extractLsb' (s + 16) 8) (v.extractLsb' (s + 24) 8)
      (v.extractLsb' (s + 32) 8) (v.extractLsb' (s + 40) 8) (v.extractLsb' (s + 48) 8) (v.extractLsb' (s + 56) 8)
      = v.extractLsb' s 64 := by
  unfold le64
  iterate 7 rw [BitVec.extractLsb'_append_extractLsb'_eq_extractLsb']
  all_goals rfl

theorem le16_bytes16 (v : BitVec 16) : le16 (v.extractLsb' 0 8) (v.extractLsb' 8 8) = v :=
  (le16_extract v 0).trans BitVec.extractLsb'_eq_self

theorem le32_bytes32 (v : BitVec 32) :
    le32 (v.extractLsb' 0 8) (v.extractLsb' 8 8) (v.extractLsb' 16 8) (v.extractLsb' 24 8) = v :=
  (le32_extract v 0).trans BitVec.extractLsb'_eq_self

theorem le64_bytes64 (v : BitVec 64) :
    le64 (v.extractLsb' 0 8) (v.extractLsb' 8 8) (v.extractLsb' 16 8) (v.extractLsb' 24 8)
      (v.extractLsb' 32 8) (v.extractLsb' 40 8) (v.extractLsb' 48 8) (v.extractLsb' 56 8) = v :=
  (le64_extract v 0).trans BitVec.extractLsb'_eq_self

theorem bytes32_le32 (b0 b1 b2 b3 : BitVec 8) : bytes32 (le32 b0 b1 b2 b3) = [b0, b1, b2, b3] := by
  simp only [bytes32, le32, BitVec.extractLsb'_append_eq_of_le, BitVec.extractLsb'_append_eq_right,
    BitVec.extractLsb'_eq_self, Nat.reduceSub, Nat.reduceLeDiff, Nat.le_refl]

theorem bytes16_le16 (b0 b1 : BitVec 8) : bytes16 (le16 b0 b1) = [b0, b1] := by
  simp only [bytes16, le16, BitVec.extractLsb'_append_eq_right, BitVec.extractLsb'_append_eq_left]

theorem le16_toNat (b0 b1 : BitVec 8) : (le16 b0 b1).toNat = b1.toNat * 256 + b0.toNat := by
  show (b1 ++ b0 : BitVec (8+8)).toNat = _
  rw [BitVec.toNat_append, ← Nat.shiftLeft_add_eq_or_of_lt b0.isLt, Nat.shiftLeft_eq]

theorem lanes16_unlanes16 (l : List (BitVec 16)) : lanes16 (unlanes16 l) = l := by
  induction l with
  | nil => rfl
  | cons v t ih =>
    simp only [unlanes16, List.flatMap_cons] at ih ⊢
    simp only [bytes16, List.cons_append, List.nil_append, lanes16, le16_bytes16, ih]

theorem lanes32_unlanes32 (l : List (BitVec 32)) : lanes32 (unlanes32 l) = l := by
  induction l with
  | nil => rfl
  | cons v t ih =>
    simp only [unlanes32, List.flatMap_cons] at ih ⊢
    simp only [bytes32, List.cons_append, List.nil_append, lanes32, le32_bytes32, ih]

theorem lanes64_unlanes64 (l : List (BitVec 64)) : lanes64 (unlanes64 l) = l := by
  induction l with
  | nil => rfl
  | cons v t ih =>
    simp only [unlanes64, List.flatMap_cons] at ih ⊢
    simp only [bytes64, List.cons_append, List.nil_append, lanes64, le64_bytes64, ih]

theorem unlanes16_take : ∀ (l : List (BitVec 16)) (n : Nat), (unlanes16 l).take (2 * n) = unlanes16 (l.take n)
  | _, 0 => by simp [unlanes16]
  | [], n + 1 => by simp [unlanes16]
  | v :: t, n + 1 => by
    have ih := unlanes16_take t n
    simp only [unlanes16, List.flatMap_cons, bytes16, List.cons_append, List.nil_append, List.take_succ_cons,
      Nat.mul_succ] at ih ⊢
    rw [ih]

theorem unlanes16_drop : ∀ (l : List (BitVec 16)) (n : Nat), (unlanes16 l).drop (2 * n) = unlanes16 (l.drop n)
  | _, 0 => by simp [unlanes16]
  | [], n + 1 => by simp [unlanes16]
  | v :: t, n + 1 => by
    have ih := unlanes16_drop t n
    simp only [unlanes16, List.flatMap_cons, bytes16, List.cons_append, List.nil_append, List.drop_succ_cons,
      Nat.mul_succ] at ih ⊢
    rw [ih]

theorem storeL_nil {k : Nat} (m : Mem k) (a : Nat) : storeL m a [] = m := by
  funext x; simp [storeL]; omega

theorem store1_eq_storeL {k : Nat} (m : Mem k) (a : Nat) (v : BitVec k) : store1 m a v = storeL m a [v] := by
  funext x
  simp only [store1, storeL, List.length_cons, List.length_nil]
  by_cases h : x = a
  · subst h; simp
  · have : ¬ (a ≤ x ∧ x < a + (0 + 1)) := by omega
    simp [h, this]

theorem storeL_append {k : Nat} (m : Mem k) (a b : Nat) (xs ys : List (BitVec k)) (h : b = a + xs.length) :
    storeL (storeL m a xs) b ys = storeL m a (xs ++ ys) := by
  subst h
  funext x
  simp only [storeL, List.length_append]
  by_cases h1 : a + xs.length ≤ x ∧ x < a + xs.length + ys.length
  · have h2 : a ≤ x ∧ x < a + (xs.length + ys.length) := by omega
    have h3 : xs.length ≤ x - a := by omega
    have h4 : x - a - xs.length = x - (a + xs.length) := by omega
    simp [h1, h2, List.getD_eq_getElem?_getD, List.getElem?_append_right h3, h4]
  · by_cases h2 : a ≤ x ∧ x < a + xs.length
    · have h3 : a ≤ x ∧ x < a + (xs.length + ys.length) := by omega
      have h4 : x - a < xs.length := by omega
      simp [h1, h2, h3, List.getD_eq_getElem?_getD, List.getElem?_append_left h4]
    · have h3 : ¬ (a ≤ x ∧ x < a + (xs.length + ys.length)) := by omega
      simp [h1, h2, h3]

theorem storeL_comm {k : Nat} (m : Mem k) (a b : Nat) (xs ys : List (BitVec k))
    (h : a + xs.length ≤ b ∨ b + ys.length ≤ a) :
    storeL (storeL m a xs) b ys = storeL (storeL m b ys) a xs := by
  funext x
  simp only [storeL]
  by_cases h1 : b ≤ x ∧ x < b + ys.length
  · have h2 : ¬ (a ≤ x ∧ x < a + xs.length) := by omega
    simp [h1, h2]
  · simp [h1]

theorem loadL_length {k : Nat} (m : Mem k) (a n : Nat) : (loadL m a n).length = n := by
  simp [loadL]

theorem loadL_add {k : Nat} (m : Mem k) (a n j : Nat) : loadL m a (n + j) = loadL m a n ++ loadL m (a + n) j := by
  simp [loadL, List.range_add, Nat.add_assoc]

end Simd
