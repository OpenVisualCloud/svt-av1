/-
  The OBU framing walk (Model/ObuWalk.lean), for Props/C10.lean.  Core Lean + `omega` only.
  Reader functions keep the reader in good state and consume a known number of bits (`Bs.Step`), which bounds their
  loads.  Of one loop iteration: what holds whatever the input (`Frame`), and the arithmetic and load bound as long as no
  subtraction has wrapped (`Bound`).  Then the two loops by induction on their fuel.
-/
import SvtVerif.Model.ObuWalk

namespace ObuWalk

/-- bits consumed since `dec_bits_init` (what `get_position` computes) -/
def Bs.bits (bs : Bs) : Nat := (bs.bufOff - bs.base - 8) * 8 + bs.bitOfst

/-- Invariant of a reader under configuration `c`:
    `bit_ofst < 32`, `buf` is `base + 8 + 4k`; as is, everything below `buf` has been loaded (`touched = bufOff`);
    with `safeLoad`, nothing at or after `data + numbytes` has been. -/
structure Bs.Inv (c : Cfg) (bs : Bs) : Prop where
  ofs   : bs.bitOfst < 32
  ge    : bs.base + 8 ≤ bs.bufOff
  al    : (bs.bufOff - bs.base) % 4 = 0
  asis  : c.safeLoad = false → bs.touched = bs.bufOff
  safe  : c.safeLoad = true → bs.touched ≤ bs.endOff
  le    : bs.touched ≤ bs.bufOff

/-- bound on the loads of the framing layer for a call with `data + data_size = E`:
    as is, up to 23 bytes after the end; with `safeLoad`, nothing after the end -/
def rb (c : Cfg) (E : Nat) : Nat := if c.safeLoad then E else E + 23

theorem rb_asis {c : Cfg} (h : c.safeLoad = false) (E : Nat) : rb c E = E + 23 := by
  rw [rb, h]; rfl

theorem rb_safe {c : Cfg} (h : c.safeLoad = true) (E : Nat) : rb c E = E := by
  rw [rb, h]; rfl

/-- invariant at the head of `while (!frame_decoding_finished)` for a call with `data + data_size = E` -/
def Head (c : Cfg) (E : Nat) (st : St) : Prop :=
  st.dataSize < two64 ∧
  (st.wrapped = false → st.pos + st.dataSize = E ∧ 1 ≤ st.dataSize ∧ st.maxRead ≤ rb c E)

theorem eq_false_of_mono {a b : Bool} (h : a = true → b = true) (hb : b = false) : a = false := by
  cases a
  · rfl
  · exact absurd ((h rfl).symm.trans hb) nofun

theorem bitsInit_base (c : Cfg) (mem : List UInt8) (d nb : Nat) : (bitsInit c mem d nb).base = d := rfl

@[simp] theorem see_maxRead (st : St) (bs : Bs) : (st.see bs).maxRead = max st.maxRead bs.touched := rfl
@[simp] theorem see_pos (st : St) (bs : Bs) : (st.see bs).pos = st.pos := rfl
@[simp] theorem see_dataSize (st : St) (bs : Bs) : (st.see bs).dataSize = st.dataSize := rfl
@[simp] theorem see_wrapped (st : St) (bs : Bs) : (st.see bs).wrapped = st.wrapped := rfl
@[simp] theorem see_obus (st : St) (bs : Bs) : (st.see bs).obus = st.obus := rfl
@[simp] theorem see_idx (st : St) (bs : Bs) : (st.see bs).idx = st.idx := rfl
@[simp] theorem see_seen (st : St) (bs : Bs) : (st.see bs).seen = st.seen := rfl

variable (c : Cfg) (mem : List UInt8) (annexb : Bool) (oracle : Oracle)

/-- `bs'` is a reader in good state, obtained from `bs` by consuming `n` bits -/
structure Bs.Step (c : Cfg) (bs bs' : Bs) (n : Nat) : Prop where
  inv  : bs'.Inv c
  base : bs'.base = bs.base
  endO : bs'.endOff = bs.endOff
  bits : bs'.bits = bs.bits + n

theorem Bs.Step.refl {c : Cfg} {bs : Bs} (hi : bs.Inv c) : Bs.Step c bs bs 0 := ⟨hi, rfl, rfl, rfl⟩

theorem Bs.Step.trans {c : Cfg} {a b d : Bs} {m n : Nat} (h1 : Bs.Step c a b m) (h2 : Bs.Step c b d n) :
    Bs.Step c a d (m + n) :=
  ⟨h2.inv, h2.base.trans h1.base, h2.endO.trans h1.endO, by rw [h2.bits, h1.bits, Nat.add_assoc]⟩

theorem Bs.Step.cast {c : Cfg} {a b : Bs} {m n : Nat} (h : Bs.Step c a b m) (e : m = n) : Bs.Step c a b n := e ▸ h

theorem loadWord_extent (e off : Nat) :
    (loadWord c mem e off).2 ≤ off + 4 ∧ (c.safeLoad = false → (loadWord c mem e off).2 = off + 4) ∧
    (c.safeLoad = true → (loadWord c mem e off).2 ≤ e) := by
  unfold loadWord
  cases c.safeLoad
  · exact ⟨Nat.le_refl _, fun _ => rfl, nofun⟩
  · simp only [if_true]
    split <;> exact ⟨by omega, nofun, fun _ => by omega⟩

theorem bitsInit_endOff (d nb : Nat) : (bitsInit c mem d nb).endOff = d + nb := rfl
theorem bitsInit_bits (d nb : Nat) : (bitsInit c mem d nb).bits = 0 := by
  simp only [bitsInit, Bs.bits]; omega

theorem bitsInit_inv (data nb : Nat) : (bitsInit c mem data nb).Inv c := by
  obtain ⟨l0, a0, s0⟩ := loadWord_extent c mem (data + nb) data
  obtain ⟨l1, a1, s1⟩ := loadWord_extent c mem (data + nb) (data + 4)
  refine ⟨Nat.zero_lt_succ _, Nat.le_refl _, ?_, fun h => ?_, fun h => ?_, ?_⟩ <;> simp only [bitsInit]
  · omega
  · have := a0 h; have := a1 h; omega
  · have := s0 h; have := s1 h; omega
  · omega

theorem getBits_step (bs : Bs) (n : Nat) (hn : n ≤ 32) (hi : bs.Inv c) :
    Bs.Step c bs (getBits c mem bs n).2 n := by
  have ho := hi.ofs; have hg := hi.ge; have ha := hi.al
  unfold getBits
  by_cases h0 : n = 0
  · subst h0; rw [if_pos rfl]; exact ⟨hi, rfl, rfl, rfl⟩
  · by_cases h32 : bs.bitOfst + n ≥ 32
    · obtain ⟨l, a, s⟩ := loadWord_extent c mem bs.endOff bs.bufOff
      have key : bs.bitOfst + n - 32 < 32 ∧ bs.base + 8 ≤ bs.bufOff + 4 ∧ (bs.bufOff + 4 - bs.base) % 4 = 0 ∧
          (bs.bufOff + 4 - bs.base - 8) * 8 + (bs.bitOfst + n - 32) = (bs.bufOff - bs.base - 8) * 8 + bs.bitOfst + n := by
        omega
      simp only [h0, h32, if_true, if_false]
      refine ⟨⟨key.1, key.2.1, key.2.2.1, fun h => ?_, fun h => ?_, ?_⟩, rfl, rfl, key.2.2.2⟩ <;> simp only
      · rw [a h, hi.asis h]; exact Nat.max_eq_right (Nat.le_add_right _ _)
      · exact Nat.max_le.2 ⟨hi.safe h, s h⟩
      · exact Nat.max_le.2 ⟨Nat.le_trans hi.le (Nat.le_add_right _ _), l⟩
    · simp only [h0, h32, if_false]
      exact ⟨⟨by simp only; omega, hg, ha, hi.asis, hi.safe, hi.le⟩, rfl, rfl, by simp only [Bs.bits]; omega⟩

theorem Bs.Step.getBits {c : Cfg} {bs b : Bs} {m : Nat} (h : Bs.Step c bs b m) (n : Nat)
    (hn : n ≤ 32) : Bs.Step c bs (getBits c mem b n).2 (m + n) :=
  h.trans (getBits_step c mem b n hn h.inv)

/-- `buf` as a function of the bits consumed: one more word is loaded for every 32 bits -/
theorem Bs.Inv.bufOff_eq {c : Cfg} {bs : Bs} (hi : bs.Inv c) : bs.bufOff = bs.base + 8 + 4 * (bs.bits / 32) := by
  have ho := hi.ofs; have hg := hi.ge; have ha := hi.al
  simp only [Bs.bits]
  omega

theorem Bs.Inv.position_eq {c : Cfg} {bs : Bs} (hi : bs.Inv c) : bs.position = bs.bits := by
  have ho := hi.ofs; have hg := hi.ge
  simp only [Bs.position, Bs.bits]
  omega

/-- 144 bits = Annex-B length (8 bytes), header (2), size field (8); `buf` is then at most `8 + 4 · (144 / 32) = 24` bytes
    behind a start that lies at least one byte before the end: the 23 of `rb`. -/
theorem Bs.Step.touched_le {c : Cfg} {bs bs' : Bs} {n : Nat} (h : Bs.Step c bs bs' n) (E : Nat)
    (hn : bs.bits + n ≤ 144) (he : bs.endOff ≤ E) (hp : bs.base + 1 ≤ E) : bs'.touched ≤ rb c E := by
  have h1 := h.inv.bufOff_eq
  have h2 := h.inv.le
  have h3 := h.bits
  have h4 := h.base
  have h5 := h.endO
  simp only [rb]
  split
  · rename_i hs; have := h.inv.safe hs; omega
  · omega

theorem bitsInit_touched_le (d nb E : Nat) (hE : d + nb ≤ E) :
    (bitsInit c mem d nb).touched ≤ rb c E := by
  have hi := bitsInit_inv c mem d nb
  have h2 := hi.le
  have h3 : (bitsInit c mem d nb).bufOff = d + 8 := rfl
  simp only [rb]
  split
  · rename_i hs; have := hi.safe hs; rw [bitsInit_endOff] at this; omega
  · omega

/-- `ok a` after `n` bits with `good a n`, or `EB_Corrupt_Frame` (no other code) after at most `bad` bits -/
inductive Reads {α : Type} (c : Cfg) (bs : Bs) (good : α → Nat → Prop) (bad : Nat) : Ret α × Bs → Prop
  | ok (a : α) (bs' : Bs) (n : Nat) : Bs.Step c bs bs' n → good a n → Reads c bs good bad (.ok a, bs')
  | err (bs' : Bs) (n : Nat) : Bs.Step c bs bs' n → n ≤ bad → Reads c bs good bad (.err EB_Corrupt_Frame, bs')

theorem readObuHeader_spec (bs : Bs) (hi : bs.Inv c) :
    Reads c bs (fun h n => (h.size = 1 ∨ h.size = 2) ∧ n = 8 * h.size) 16 (readObuHeader c mem bs) := by
  unfold readObuHeader
  extract_lets f t e s r tid sid r3
  have h1 : Bs.Step c bs f.2 1 := getBits_step c mem bs 1 (by omega) hi
  have h2 : Bs.Step c bs t.2 5 := h1.getBits mem 4 (by omega)
  have h5 : Bs.Step c bs r.2 8 := ((h2.getBits mem 1 (by omega)).getBits mem 1 (by omega)).getBits mem 1 (by omega)
  have h8 : Bs.Step c bs r3.2 16 := ((h5.getBits mem 3 (by omega)).getBits mem 2 (by omega)).getBits mem 3 (by omega)
  by_cases hf : f.1 ≠ 0
  · rw [if_pos hf]; exact .err _ 1 h1 (by omega)
  rw [if_neg hf]
  by_cases ht : (!validObuType t.1) = true
  · rw [if_pos ht]; exact .err _ 5 h2 (by omega)
  rw [if_neg ht]
  by_cases hr : r.1 ≠ 0
  · rw [if_pos hr]; exact .err _ 8 h5 (by omega)
  rw [if_neg hr]
  by_cases he : e.1 ≠ 0
  · rw [if_pos he]
    by_cases h3 : r3.1 ≠ 0
    · rw [if_pos h3]; exact .err _ 16 h8 (by omega)
    · rw [if_neg h3]; exact .ok _ _ 16 h8 ⟨Or.inr rfl, rfl⟩
  · rw [if_neg he]; exact .ok _ _ 8 h5 ⟨Or.inl rfl, rfl⟩

theorem leb128Go_spec : ∀ (fuel i v len : Nat) (bs : Bs), bs.Inv c → 1 ≤ fuel →
    ∃ k, 1 ≤ k ∧ k ≤ fuel ∧ (leb128Go c mem fuel i v len bs).2.1 = len + k ∧
      Bs.Step c bs (leb128Go c mem fuel i v len bs).2.2 (8 * k) := by
  intro fuel
  induction fuel with
  | zero => intro i v len bs _ h; omega
  | succ f ih =>
    intro i v len bs hi _
    have hg := getBits_step c mem bs 8 (by omega) hi
    unfold leb128Go
    extract_lets r v'
    by_cases hz : r.1 &&& 0x80 = 0
    · rw [if_pos hz]; exact ⟨1, Nat.le_refl _, by omega, rfl, hg⟩
    · rw [if_neg hz]
      cases f with
      | zero => exact ⟨1, Nat.le_refl _, Nat.le_refl _, rfl, hg⟩
      | succ f =>
        obtain ⟨k, h1, h2, h3, h4⟩ := ih (i + 1) v' (len + 1) r.2 hg.inv (by omega)
        exact ⟨k + 1, by omega, by omega, by rw [h3]; omega, (hg.trans h4).cast (by omega)⟩

theorem leb128_spec (bs : Bs) (hi : bs.Inv c) :
    1 ≤ (leb128 c mem bs).2.1 ∧ (leb128 c mem bs).2.1 ≤ 8 ∧
    Bs.Step c bs (leb128 c mem bs).2.2 (8 * (leb128 c mem bs).2.1) := by
  obtain ⟨k, h1, h2, h3, h4⟩ := leb128Go_spec c mem 8 0 0 0 bs hi (by omega)
  unfold leb128
  rw [h3, Nat.zero_add]
  exact ⟨h1, h2, h4⟩

theorem readObuSize_spec (bs : Bs) (hi : bs.Inv c) :
    Reads c bs (fun vl n => vl.1 ≤ UINT32_MAX ∧ 1 ≤ vl.2 ∧ vl.2 ≤ 8 ∧ n = 8 * vl.2) 64 (readObuSize c mem bs) := by
  obtain ⟨h1, h2, h3⟩ := leb128_spec c mem bs hi
  unfold readObuSize
  extract_lets r
  by_cases hv : r.1 > UINT32_MAX
  · rw [if_pos hv]; exact .err _ _ h3 (by omega)
  · rw [if_neg hv]; exact .ok _ _ _ h3 ⟨Nat.le_of_not_lt hv, h1, h2, rfl⟩

theorem readObuHeaderSize_spec (bs : Bs) (hi : bs.Inv c) :
    Reads c bs (fun hv n => (hv.1.size = 1 ∨ hv.1.size = 2) ∧ lenOf hv.2 ≤ 8 ∧ n = 8 * (hv.1.size + lenOf hv.2)) 80
      (readObuHeaderSize c mem bs) := by
  have hh := readObuHeader_spec c mem bs hi
  unfold readObuHeaderSize
  generalize readObuHeader c mem bs = rh at hh ⊢
  cases hh with
  | err bs1 n h1 hn => exact .err _ n h1 (by omega)
  | ok h bs1 n h1 hg =>
    obtain ⟨hsz, rfl⟩ := hg
    by_cases hs : h.hasSize = true
    · have hl := readObuSize_spec c mem bs1 h1.inv
      simp only [hs, if_true]
      generalize readObuSize c mem bs1 = rl at hl ⊢
      cases hl with
      | err bs2 m h2 hm => exact .err _ _ (h1.trans h2) (by omega)
      | ok vl bs2 m h2 hg =>
        obtain ⟨_, _, hl8, rfl⟩ := hg
        exact .ok _ _ _ (h1.trans h2) ⟨hsz, hl8, by simp only [lenOf]; omega⟩
    · simp only [hs]
      exact .ok _ _ _ h1 ⟨hsz, Nat.zero_le _, rfl⟩

theorem subU64_eq {a b : Nat} (ha : a < two64) (hb : b ≤ a) : subU64 a b = a - b := by
  simp only [subU64, two64] at *
  omega

theorem subU64_lt (a b : Nat) : subU64 a b < two64 := by
  simp only [subU64, two64]; omega

structure Moved (st st' : St) (adv p : Nat) : Prop where
  entry    : st.wrapped = false
  fits     : adv ≤ st.dataSize
  pos      : st'.pos = st.pos + adv
  dataSize : st'.dataSize = st.dataSize - adv
  payload  : p ≤ st'.dataSize

structure Advanced (c : Cfg) (st st' : St) (adv p : Nat) : Prop where
  maxRead : st'.maxRead = st.maxRead
  uninit  : st'.uninit = st.uninit
  mono    : st.wrapped = true → st'.wrapped = true
  check   : c.checkSub = true → st'.wrapped = st.wrapped
  plain   : st.dataSize < two64 → st'.wrapped = false → Moved st st' adv p

theorem advance_spec (st : St) (h : Hdr) (vl : Option (Nat × Nat)) :
    (∀ e, advance c annexb st h vl = .err e → e = EB_Corrupt_Frame) ∧
    (∀ st' p, advance c annexb st h vl = .ok (st', p) → Advanced c st st' (h.size + lenOf vl) p) := by
  unfold advance
  extract_lets lengthSize hp hpv wrapA payloadSize adv wrapB st1
  have hB : wrapB = decide (st.dataSize < h.size + lenOf vl) := rfl
  have hw1 : st1.wrapped = (st.wrapped || wrapA || wrapB) := rfl
  clear_value wrapA wrapB payloadSize
  by_cases hck : (c.checkSub && (wrapA || wrapB)) = true
  · rw [if_pos hck]; exact ⟨fun e he => (Ret.err.inj he).symm, fun _ _ => nofun⟩
  rw [if_neg hck]
  by_cases hlt : st1.dataSize < payloadSize
  · rw [if_pos hlt]; exact ⟨fun e he => (Ret.err.inj he).symm, fun _ _ => nofun⟩
  rw [if_neg hlt]
  refine ⟨fun _ => nofun, fun st' p he => ?_⟩
  obtain ⟨rfl, rfl⟩ := Prod.mk.inj (Ret.ok.inj he)
  refine ⟨rfl, rfl, fun hw => by rw [hw1, hw]; rfl, fun hc => ?_, fun hds hw => ?_⟩
  · -- with `checkSub` the test above has excluded both wraps
    rw [hc, Bool.true_and, Bool.not_eq_true] at hck
    rw [hw1, Bool.or_assoc, hck, Bool.or_false]
  · rw [hw1, Bool.or_eq_false_iff, Bool.or_eq_false_iff] at hw
    have hle : h.size + lenOf vl ≤ st.dataSize := Nat.le_of_not_lt (of_decide_eq_false (hB ▸ hw.2))
    exact ⟨hw.1.1, hle, rfl, subU64_eq hds hle, Nat.le_of_not_lt hlt⟩

/-- `ha`: a header has at least one byte -/
theorem Moved.consume {st st' : St} {adv p E : Nat} (m : Moved st st' adv p) (ha : 1 ≤ adv)
    (hpe : st.pos + st.dataSize = E) (hE : E < two64) :
    st'.pos + p ≤ E ∧ st.pos < st'.pos + p ∧ st'.dataSize - p < st.dataSize ∧
    st'.pos + p + (st'.dataSize - p) = E ∧ st'.dataSize < two64 := by
  have h1 := m.fits; have h2 := m.pos; have h3 := m.dataSize; have h4 := m.payload
  omega

/-- the C code leaves the `switch` with `return status;` only when `status != EB_ErrorNone` -/
def OracleOk (oracle : Oracle) : Prop := ∀ k e, oracle k = .ret e → e ≠ 0

def EndOk (c : Cfg) (oracle : Oracle) (e : DmoEnd) : Prop :=
  e ≠ .fuel ∧ (c.ndebug = true → e ≠ .abort) ∧ (OracleOk oracle → e ≠ .ret 0)

theorem EndOk.corrupt {c : Cfg} {oracle : Oracle} : EndOk c oracle (.ret EB_Corrupt_Frame) :=
  ⟨nofun, fun _ => nofun, fun _ h => absurd (DmoEnd.ret.inj h) (by decide)⟩

def endSt : (DmoEnd × St) ⊕ (St × Bool) → St
  | .inl r => r.2
  | .inr r => r.1

/-- of the result `r` of (the rest of) a loop iteration entered in state `st`, whatever the input -/
structure Frame (c : Cfg) (oracle : Oracle) (st : St) (r : (DmoEnd × St) ⊕ (St × Bool)) : Prop where
  mono  : st.wrapped = true → (endSt r).wrapped = true
  check : c.checkSub = true → (endSt r).wrapped = st.wrapped ∧ (endSt r).uninit = st.uninit
  ret   : ∀ e st', r = .inl (e, st') → EndOk c oracle e
  size  : ∀ st' fin, r = .inr (st', fin) → st'.dataSize < two64

theorem Frame.inl {c : Cfg} {oracle : Oracle} {st : St} (e : DmoEnd) (st' : St) (he : EndOk c oracle e)
    (hw : st'.wrapped = st.wrapped) (hu : c.checkSub = true → st'.uninit = st.uninit) :
    Frame c oracle st (.inl (e, st')) :=
  ⟨fun h => hw.trans h, fun hc => ⟨hw, hu hc⟩, fun _ _ h => (Prod.mk.inj (Sum.inl.inj h)).1 ▸ he, fun _ _ => nofun⟩

theorem Frame.pre {c : Cfg} {oracle : Oracle} {st st1 : St} {r : (DmoEnd × St) ⊕ (St × Bool)}
    (h : Frame c oracle st1 r) (hm : st.wrapped = true → st1.wrapped = true)
    (hc : c.checkSub = true → st1.wrapped = st.wrapped ∧ st1.uninit = st.uninit) : Frame c oracle st r :=
  ⟨fun hw => h.mono (hm hw),
   fun hcs => ⟨(h.check hcs).1.trans (hc hcs).1, (h.check hcs).2.trans (hc hcs).2⟩, h.ret, h.size⟩

def PayOk (c : Cfg) (o : PayRes) : Option PayRes → Prop
  | none => c.ndebug = false
  | some (.ret e) => o = .ret e ∨ e = EB_Corrupt_Frame
  | some (.cont _ _) => True

theorem paySwitch_spec (t : Nat) (seen : Bool) (o : PayRes) : PayOk c o (paySwitch c t seen o).2 := by
  unfold paySwitch
  by_cases h2 : (t == 2) = true
  · rw [if_pos h2]; exact trivial
  rw [if_neg h2]
  by_cases h1 : (t == 1) = true
  · rw [if_pos h1]; cases o
    · exact trivial
    · exact Or.inl rfl
  rw [if_neg h1]
  by_cases h3 : (t == 3 || t == 7 || t == 6) = true
  · rw [if_pos h3]
    by_cases ha : (!c.ndebug && ((t == 3 && seen) || (t == 7 && !seen))) = true
    · rw [if_pos ha]
      show c.ndebug = false
      cases hn : c.ndebug
      · rfl
      · rw [hn] at ha; cases ha
    rw [if_neg ha]
    by_cases h6 : (t != 6) = true
    · rw [if_pos h6]; cases o <;> exact trivial
    · rw [if_neg h6]; cases o
      · exact trivial
      · exact Or.inl rfl
  rw [if_neg h3]
  by_cases h4 : (t == 4) = true
  · rw [if_pos h4]
    by_cases hs : (!seen) = true
    · rw [if_pos hs]; exact Or.inr rfl
    · rw [if_neg hs]; cases o
      · exact trivial
      · exact Or.inl rfl
  · rw [if_neg h4]; exact trivial

structure PayloadEnd (c : Cfg) (mem : List UInt8) (oracle : Oracle) (rec : ObuRec) (st : St)
    (r : (DmoEnd × St) ⊕ (St × Bool)) : Prop where
  frame   : Frame c oracle st r
  wrapped : (endSt r).wrapped = st.wrapped
  maxRead : ∀ m, st.maxRead ≤ m → (bitsInit c mem st.pos rec.payload).touched ≤ m →
    (bitsInit c mem (st.pos + rec.payload) 0).touched ≤ m → (endSt r).maxRead ≤ m
  cont    : ∀ st' fin, r = .inr (st', fin) → st'.pos = st.pos + rec.payload ∧
    st'.dataSize = subU64 st.dataSize rec.payload ∧ (fin = false → st'.dataSize ≠ 0)

theorem payload_spec (rec : ObuRec) (st : St) : PayloadEnd c mem oracle rec st (payload c mem oracle rec st) := by
  have hps := paySwitch_spec c rec.obuType st.seen (oracle st.idx)
  -- `payload` increments `idx` and then asks `oracle (idx - 1)`
  have hidx : st.idx + 1 - 1 = st.idx := Nat.add_sub_cancel ..
  simp only [payload, St.see, hidx]
  generalize paySwitch c rec.obuType st.seen (oracle st.idx) = ps at hps ⊢
  obtain ⟨seen, _ | (⟨status, fin⟩ | e)⟩ := ps <;> dsimp only
  ·    exact ⟨.inl _ _ ⟨nofun, fun hn => absurd (hn.symm.trans hps) nofun, fun _ => nofun⟩ rfl (fun _ => rfl), rfl,
      fun m h0 h1 _ => Nat.max_le.2 ⟨h0, h1⟩, fun _ _ => nofun⟩
  · -- the re-initialisation of the reader at the end of a tile group is the third load
    cases hb : (rec.obuType == 4 || rec.obuType == 6) <;>
      exact ⟨⟨fun h => h, fun _ => ⟨rfl, rfl⟩, fun _ _ => nofun,
          fun st' fin' he => (Prod.mk.inj (Sum.inr.inj he)).1 ▸ subU64_lt _ _⟩, rfl,
        fun m h0 h1 h2 => by simp only [endSt, Bool.false_eq_true, if_false, if_true]; omega,
        fun st' fin' he => by
          obtain ⟨rfl, rfl⟩ := Prod.mk.inj (Sum.inr.inj he)
          exact ⟨rfl, rfl, fun hf => beq_eq_false_iff_ne.1 (Bool.or_eq_false_iff.1 hf).2⟩⟩
  · -- what the payload parser returned (not 0, by `OracleOk`) or `EB_Corrupt_Frame`
    refine ⟨.inl _ _ ⟨nofun, fun _ => nofun, fun ho h0 => ?_⟩ rfl (fun _ => rfl), rfl,
      fun m h0 h1 _ => Nat.max_le.2 ⟨h0, h1⟩, fun _ _ => nofun⟩
    obtain rfl := DmoEnd.ret.inj h0
    exact hps.elim (fun h => ho _ _ h rfl) (fun h => absurd h (by decide))

theorem dmoBody_frame (start alen : Nat) (st : St) (bs1 : Bs) (hi : bs1.Inv c) :
    Frame c oracle st (dmoBody c mem annexb oracle start alen st bs1) := by
  have hr := readObuHeaderSize_spec c mem bs1 hi
  unfold dmoBody
  generalize readObuHeaderSize c mem bs1 = rh at hr ⊢
  cases hr with
  | err bs2 n h2 hn => exact .inl _ _ .corrupt rfl (fun _ => rfl)
  | ok hv bs2 n h2 hg =>
    obtain ⟨h, vl⟩ := hv
    dsimp -zeta only
    extract_lets src st1
    -- with `checkSub`, `obu_header` is zero-initialised: nothing uninitialised is read
    have hu : c.checkSub = true → st1.uninit = st.uninit := fun hc => by
      show (st.uninit || (vl.isNone && st.hdrPayload.isNone && !c.checkSub)) = st.uninit
      rw [hc, Bool.not_true, Bool.and_false, Bool.or_false]
    have ha := advance_spec c annexb st1 h vl
    generalize advance c annexb st1 h vl = ra at ha ⊢
    cases ra with
    | err e =>
      obtain rfl := ha.1 e rfl
      exact .inl _ _ .corrupt rfl hu
    | ok sp =>
      obtain ⟨st3, p⟩ := sp
      have a := ha.2 st3 p rfl
      exact (payload_spec c mem oracle _ st3).frame.pre a.mono (fun hc => ⟨a.check hc, a.uninit.trans (hu hc)⟩)

theorem dmoStep_frame (st : St) : Frame c oracle st (dmoStep c mem annexb oracle st) := by
  unfold dmoStep
  by_cases hs : st.status ≠ EB_ErrorNone
  · rw [if_pos hs]
    exact .inl _ _ ⟨nofun, fun _ => nofun, fun _ h => hs (DmoEnd.ret.inj h)⟩ rfl (fun _ => rfl)
  rw [if_neg hs]
  extract_lets bs0
  have i0 : bs0.Inv c := bitsInit_inv c mem st.pos st.dataSize
  cases annexb with
  | false =>
    rw [if_neg Bool.false_ne_true]
    exact (dmoBody_frame c mem false oracle _ _ (st.see bs0) bs0 i0).pre (fun h => h) (fun _ => ⟨rfl, rfl⟩)
  | true =>
    rw [if_pos rfl]
    have hr := readObuSize_spec c mem bs0 i0
    generalize readObuSize c mem bs0 = rl at hr ⊢
    cases hr with
    | err bs1 n h1 hn => exact .inl _ _ .corrupt rfl (fun _ => rfl)
    | ok vl bs1 n h1 hg =>
      obtain ⟨v, l⟩ := vl
      dsimp only
      by_cases hck : (c.checkSub && decide (st.dataSize < l)) = true
      · rw [if_pos hck]; exact .inl _ _ .corrupt rfl (fun _ => rfl)
      · rw [if_neg hck]
        refine (dmoBody_frame c mem true oracle _ _ _ bs1 h1.inv).pre (fun hw => ?_) (fun hc => ⟨?_, rfl⟩)
        · show (st.wrapped || decide (st.dataSize < l)) = true
          rw [hw]; rfl
        · show (st.wrapped || decide (st.dataSize < l)) = st.wrapped
          rw [hc, Bool.true_and, Bool.not_eq_true] at hck
          rw [hck, Bool.or_false]

/-- of the result `r` of (the rest of) a loop iteration that was at `*data = pos`, `data_size = ds`, when nothing wrapped -/
structure Bound (c : Cfg) (E pos ds : Nat) (r : (DmoEnd × St) ⊕ (St × Bool)) : Prop where
  maxRead : (endSt r).maxRead ≤ rb c E
  cont    : ∀ st' fin, r = .inr (st', fin) →
    pos < st'.pos ∧ st'.dataSize < ds ∧ st'.pos + st'.dataSize = E ∧ (fin = false → 1 ≤ st'.dataSize)

theorem Bound.inl {c : Cfg} {E pos ds : Nat} (e : DmoEnd) (st' : St) (h : st'.maxRead ≤ rb c E) :
    Bound c E pos ds (.inl (e, st')) := ⟨h, fun _ _ => nofun⟩

theorem Bound.weaken {c : Cfg} {E pos ds pos' ds' : Nat} {r : (DmoEnd × St) ⊕ (St × Bool)} (h : Bound c E pos ds r)
    (hp : pos' ≤ pos) (hd : ds ≤ ds') : Bound c E pos' ds' r :=
  ⟨h.maxRead, fun st' fin he =>
    have ⟨h1, h2, h3, h4⟩ := h.cont st' fin he
    ⟨Nat.lt_of_le_of_lt hp h1, Nat.lt_of_lt_of_le h2 hd, h3, h4⟩⟩

theorem dmoBody_bound {c : Cfg} {mem : List UInt8} {annexb : Bool} {oracle : Oracle} {start alen : Nat} {st : St}
    {bs1 : Bs} (E : Nat) (hw : (endSt (dmoBody c mem annexb oracle start alen st bs1)).wrapped = false)
    (hi : bs1.Inv c) (hn : bs1.bits ≤ 64) (he : bs1.endOff ≤ E) (hp : bs1.base + 1 ≤ E)
    (hE : E < two64) (hm : st.maxRead ≤ rb c E) (hpe : st.pos + st.dataSize = E) :
    Bound c E st.pos st.dataSize (dmoBody c mem annexb oracle start alen st bs1) := by
  have hr := readObuHeaderSize_spec c mem bs1 hi
  revert hw
  unfold dmoBody
  generalize readObuHeaderSize c mem bs1 = rh at hr ⊢
  cases hr with
  | err bs2 n h2 hn2 => exact fun _ => .inl _ _ (Nat.max_le.2 ⟨hm, h2.touched_le E (by omega) he hp⟩)
  | ok hv bs2 n h2 hg =>
    obtain ⟨h, vl⟩ := hv
    dsimp only at hg
    obtain ⟨hsz, hl8, rfl⟩ := hg
    have hm2 : (st.see bs2).maxRead ≤ rb c E := Nat.max_le.2 ⟨hm, h2.touched_le E (by omega) he hp⟩
    dsimp -zeta only
    extract_lets src st1
    have ha := advance_spec c annexb st1 h vl
    generalize advance c annexb st1 h vl = ra at ha ⊢
    cases ra with
    | err e => exact fun _ => .inl _ _ hm2
    | ok sp =>
      obtain ⟨st3, p⟩ := sp
      have a := ha.2 st3 p rfl
      have pe := payload_spec c mem oracle
        { pos := start, obuType := h.obuType, hdr := h.size, len := alen + lenOf vl, payload := p } st3
      intro hw
      have m := a.plain (by omega : st.dataSize < two64) (pe.wrapped.symm.trans hw)
      obtain ⟨k1, k2, k3, k4, k5⟩ := m.consume (by omega) hpe hE
      refine ⟨pe.maxRead _ (a.maxRead ▸ hm2) (bitsInit_touched_le c mem _ _ E k1) (bitsInit_touched_le c mem _ _ E k1),
        fun st' fin he => ?_⟩
      obtain ⟨c1, c2, c3⟩ := pe.cont st' fin he
      rw [show subU64 st3.dataSize p = st3.dataSize - p from subU64_eq k5 m.payload] at c2
      rw [c1, c2]
      exact ⟨k2, k3, k4, fun hf => Nat.pos_of_ne_zero (c2 ▸ c3 hf)⟩

theorem dmoStep_bound (st : St) (E : Nat) (hE : E < two64) (hh : Head c E st)
    (hw : (endSt (dmoStep c mem annexb oracle st)).wrapped = false) :
    Bound c E st.pos st.dataSize (dmoStep c mem annexb oracle st) := by
  obtain ⟨hlt, hhw⟩ := hh
  have hw0 := eq_false_of_mono (dmoStep_frame c mem annexb oracle st).mono hw
  obtain ⟨hpe, hd1, hmr⟩ := hhw hw0
  revert hw
  unfold dmoStep
  by_cases hs : st.status ≠ EB_ErrorNone
  · rw [if_pos hs]; exact fun _ => .inl _ _ hmr
  rw [if_neg hs]
  extract_lets bs0
  have i0 : bs0.Inv c := bitsInit_inv c mem st.pos st.dataSize
  have z0 : bs0.bits = 0 := bitsInit_bits c mem st.pos st.dataSize
  have e0 : bs0.endOff ≤ E := Nat.le_of_eq hpe
  have p0 : bs0.base + 1 ≤ E := by show st.pos + 1 ≤ E; omega
  have m0 : (st.see bs0).maxRead ≤ rb c E :=
    Nat.max_le.2 ⟨hmr, (Bs.Step.refl i0).touched_le E (by omega) e0 p0⟩
  cases annexb with
  | false =>
    rw [if_neg Bool.false_ne_true]
    exact fun hw => dmoBody_bound E hw i0 (by omega) e0 p0 hE m0 hpe
  | true =>
    rw [if_pos rfl]
    have hr := readObuSize_spec c mem bs0 i0
    generalize readObuSize c mem bs0 = rl at hr ⊢
    cases hr with
    | err bs1 n h1 hn => exact fun _ => .inl _ _ (Nat.max_le.2 ⟨m0, h1.touched_le E (by omega) e0 p0⟩)
    | ok vl bs1 n h1 hg =>
      obtain ⟨v, l⟩ := vl
      dsimp only at hg
      obtain ⟨_, hl1, hl8, rfl⟩ := hg
      have m1 : ((st.see bs0).see bs1).maxRead ≤ rb c E := Nat.max_le.2 ⟨m0, h1.touched_le E (by omega) e0 p0⟩
      dsimp -zeta only
      by_cases hck : (c.checkSub && decide (st.dataSize < l)) = true
      · rw [if_pos hck]; exact fun _ => .inl _ _ m1
      · rw [if_neg hck]
        intro hw
        -- the result is not wrapped, so `data_size -= length_size` did not wrap
        have hwl := eq_false_of_mono (dmoBody_frame c mem true oracle _ _ _ bs1 h1.inv).mono hw
        replace hwl : (st.wrapped || decide (st.dataSize < l)) = false := hwl
        rw [hw0, Bool.false_or] at hwl
        have hle : l ≤ st.dataSize := Nat.le_of_not_lt (of_decide_eq_false hwl)
        have hsub := subU64_eq hlt hle
        refine (dmoBody_bound E hw h1.inv (by rw [h1.bits]; omega) (h1.endO ▸ e0) (h1.base ▸ p0) hE m1 ?_).weaken
          (Nat.le_add_right st.pos l) ?_
        · show st.pos + l + subU64 st.dataSize l = E
          omega
        · show subU64 st.dataSize l ≤ st.dataSize
          omega

/-- The motive sees the state only: what concerns the end code, or needs a measure, has an induction of its own
    (likewise for `frameLoop`). -/
theorem dmoLoop_induct (P : St → Prop)
    (step : ∀ st, P st → P (endSt (dmoStep c mem annexb oracle st))) :
    ∀ (fuel : Nat) (st : St), P st → P (dmoLoop c mem annexb oracle fuel st).2 := by
  intro fuel
  induction fuel with
  | zero => exact fun st h => h
  | succ f ih =>
    intro st h
    have hs := step st h
    unfold dmoLoop
    generalize dmoStep c mem annexb oracle st = r at hs ⊢
    obtain (r | ⟨st', fin⟩) := r
    · exact hs
    · cases fin with
      | true => exact hs
      | false => exact ih st' hs

theorem dmoLoop_mono (fuel : Nat) (st : St) (h : st.wrapped = true) :
    (dmoLoop c mem annexb oracle fuel st).2.wrapped = true :=
  dmoLoop_induct c mem annexb oracle (·.wrapped = true) (fun s hs => (dmoStep_frame c mem annexb oracle s).mono hs)
    fuel st h

theorem dmoLoop_check (hc : c.checkSub = true) (fuel : Nat) (st : St) :
    (dmoLoop c mem annexb oracle fuel st).2.wrapped = st.wrapped ∧
    (dmoLoop c mem annexb oracle fuel st).2.uninit = st.uninit :=
  dmoLoop_induct c mem annexb oracle (fun s => s.wrapped = st.wrapped ∧ s.uninit = st.uninit)
    (fun s hs => have h := (dmoStep_frame c mem annexb oracle s).check hc; ⟨h.1.trans hs.1, h.2.trans hs.2⟩)
    fuel st ⟨rfl, rfl⟩

theorem dmoLoop_noabort (hn : c.ndebug = true) :
    ∀ (fuel : Nat) (st : St), (dmoLoop c mem annexb oracle fuel st).1 ≠ .abort := by
  intro fuel
  induction fuel with
  | zero => exact fun _ => nofun
  | succ f ih =>
    intro st
    have hf := dmoStep_frame c mem annexb oracle st
    unfold dmoLoop
    generalize dmoStep c mem annexb oracle st = r at hf ⊢
    obtain (⟨e, st'⟩ | ⟨st', fin⟩) := r
    · exact (hf.ret e st' rfl).2.1 hn
    · cases fin with
      | true => exact nofun
      | false => exact ih st'

structure LoopEnd (c : Cfg) (oracle : Oracle) (E pos : Nat) (r : DmoEnd × St) : Prop where
  maxRead  : r.2.maxRead ≤ rb c E
  nofuel   : r.1 ≠ .fuel
  progress : OracleOk oracle → r.1 = .ret 0 → pos < r.2.pos

/-- `data_size` decreases in every iteration that goes on, so it bounds their number. -/
theorem dmoLoop_spec (E : Nat) (hE : E < two64) :
    ∀ (fuel : Nat) (st : St), Head c E st → st.dataSize < fuel →
      (dmoLoop c mem annexb oracle fuel st).2.wrapped = false →
      LoopEnd c oracle E st.pos (dmoLoop c mem annexb oracle fuel st) := by
  intro fuel
  induction fuel with
  | zero => exact fun st _ h => absurd h (Nat.not_lt_zero _)
  | succ f ih =>
    intro st hh hfu
    have hf := dmoStep_frame c mem annexb oracle st
    have hb := dmoStep_bound c mem annexb oracle st E hE hh
    have hm := dmoLoop_mono c mem annexb oracle f
    unfold dmoLoop
    generalize dmoStep c mem annexb oracle st = r at hf hb ⊢
    obtain (⟨e, st'⟩ | ⟨st', fin⟩) := r
    · intro hw
      have hk := hf.ret e st' rfl
      exact ⟨(hb hw).maxRead, hk.1, fun ho he => absurd he (hk.2.2 ho)⟩
    · cases fin with
      | true => exact fun hw => ⟨(hb hw).maxRead, nofun, fun _ _ => ((hb hw).cont st' true rfl).1⟩
      | false =>
        intro (hw : (dmoLoop c mem annexb oracle f st').2.wrapped = false)
        have hw' : st'.wrapped = false := eq_false_of_mono (hm st') hw
        obtain ⟨k1, k2, k3, k4⟩ := (hb hw').cont st' false rfl
        have i := ih st' ⟨hf.size st' false rfl, fun _ => ⟨k3, k4 rfl, (hb hw').maxRead⟩⟩ (by omega) hw
        exact ⟨i.maxRead, i.nofuel, fun ho he => Nat.lt_trans k1 (i.progress ho he)⟩

/-- the state `decode_multiple_obu` starts from: `frame_size = data_end - data_start`, fresh locals -/
theorem head_of_call (E : Nat) (hE : E < two64) (st : St) (hp : ¬ st.pos ≥ E)
    (hm : st.wrapped = false → st.maxRead ≤ rb c E) :
    Head c E { st with dataSize := E - st.pos, status := 0, hdrPayload := none } :=
  ⟨by simp only; omega, fun hw => ⟨by simp only; omega, by simp only; omega, hm hw⟩⟩

theorem frameLoop_induct (E : Nat) (P : St → Prop)
    (call : ∀ st, P st → ¬ st.pos ≥ E → P (dmoLoop c mem annexb oracle (dmoFuel mem.length (E - st.pos))
      { st with dataSize := E - st.pos, status := 0, hdrPayload := none }).2) :
    ∀ (fuel calls lastErr : Nat) (st : St), P st → P (frameLoop c mem E annexb oracle fuel calls lastErr st).st := by
  intro fuel
  induction fuel with
  | zero => exact fun _ _ _ h => h
  | succ f ih =>
    intro calls lastErr st h
    unfold frameLoop
    by_cases hp : st.pos ≥ E
    · rw [if_pos hp]; exact h
    rw [if_neg hp]
    have hc := call st h hp
    extract_lets st0
    generalize dmoLoop c mem annexb oracle (dmoFuel mem.length st0.dataSize) st0 = res at hc ⊢
    obtain ⟨e1, st1⟩ := res
    cases e1 with
    | fuel => exact hc
    | abort => exact hc
    | ret e =>
      dsimp only
      by_cases he : e ≠ EB_ErrorNone
      · rw [if_pos he]
        by_cases her : c.errReturn = true
        · rw [if_pos her]; exact hc
        rw [if_neg her]
        by_cases hnd : (!c.ndebug) = true
        · rw [if_pos hnd]; exact hc
        rw [if_neg hnd]
        by_cases hh : (st1.pos == st.pos && st1.seen == st.seen && st1.idx == st.idx) = true
        · rw [if_pos hh]; exact hc
        · rw [if_neg hh]; exact ih _ _ st1 hc
      · rw [if_neg he]; exact ih _ _ st1 hc

theorem frameLoop_mono (E fuel calls lastErr : Nat) (st : St) (h : st.wrapped = true) :
    (frameLoop c mem E annexb oracle fuel calls lastErr st).st.wrapped = true :=
  frameLoop_induct c mem annexb oracle E (·.wrapped = true) (fun _ hs _ => dmoLoop_mono c mem annexb oracle _ _ hs)
    fuel calls lastErr st h

theorem frameLoop_check (hc : c.checkSub = true) (E fuel calls lastErr : Nat) (st : St) :
    (frameLoop c mem E annexb oracle fuel calls lastErr st).st.wrapped = st.wrapped ∧
    (frameLoop c mem E annexb oracle fuel calls lastErr st).st.uninit = st.uninit :=
  frameLoop_induct c mem annexb oracle E (fun s => s.wrapped = st.wrapped ∧ s.uninit = st.uninit)
    (fun _ hs _ => have h := dmoLoop_check c mem annexb oracle hc _ _; ⟨h.1.trans hs.1, h.2.trans hs.2⟩)
    fuel calls lastErr st ⟨rfl, rfl⟩

theorem frameLoop_bound (E : Nat) (hE : E < two64) (fuel calls lastErr : Nat) (st : St)
    (hm : st.wrapped = false → st.maxRead ≤ rb c E)
    (hw : (frameLoop c mem E annexb oracle fuel calls lastErr st).st.wrapped = false) :
    (frameLoop c mem E annexb oracle fuel calls lastErr st).st.maxRead ≤ rb c E := by
  refine frameLoop_induct c mem annexb oracle E (fun s => s.wrapped = false → s.maxRead ≤ rb c E)
    (fun s hs hp hw1 => ?_) fuel calls lastErr st hm hw
  exact (dmoLoop_spec c mem annexb oracle E hE _ _ (head_of_call c E hE s hp hs)
    (by simp only [dmoFuel]; omega) hw1).maxRead

theorem frameLoop_term (E : Nat) (hE : E < two64)
    (hcfg : c.errReturn = true ∨ c.ndebug = false) (ho : OracleOk oracle) :
    ∀ (fuel calls lastErr : Nat) (st : St), (st.wrapped = false → st.maxRead ≤ rb c E) → E - st.pos < fuel →
      (frameLoop c mem E annexb oracle fuel calls lastErr st).st.wrapped = false →
      (frameLoop c mem E annexb oracle fuel calls lastErr st).outcome ≠ .fuel ∧
      (frameLoop c mem E annexb oracle fuel calls lastErr st).outcome ≠ .hang := by
  intro fuel
  induction fuel with
  | zero => exact fun _ _ st _ h => absurd h (Nat.not_lt_zero _)
  | succ f ih =>
    intro calls lastErr st hm hfu
    have hrest := frameLoop_mono c mem annexb oracle E f
    unfold frameLoop
    by_cases hp : st.pos ≥ E
    · rw [if_pos hp]; exact fun _ => ⟨nofun, nofun⟩
    rw [if_neg hp]
    have dl := dmoLoop_spec c mem annexb oracle E hE (dmoFuel mem.length (E - st.pos)) _
      (head_of_call c E hE st hp hm) (by simp only [dmoFuel]; omega)
    extract_lets st0
    generalize dmoLoop c mem annexb oracle (dmoFuel mem.length st0.dataSize) st0 = res at dl ⊢
    obtain ⟨e1, st1⟩ := res
    cases e1 with
    | fuel => exact fun hw => absurd rfl (dl hw).nofuel
    | abort => exact fun _ => ⟨nofun, nofun⟩
    | ret e =>
      dsimp only
      by_cases he : e ≠ EB_ErrorNone
      · rw [if_pos he]
        by_cases her : c.errReturn = true
        · rw [if_pos her]; exact fun _ => ⟨nofun, nofun⟩
        rw [if_neg her]
        by_cases hnd : (!c.ndebug) = true
        · rw [if_pos hnd]; exact fun _ => ⟨nofun, nofun⟩
        · -- an error with neither `errReturn` nor `assert(0)`: excluded by `hcfg`
          rcases hcfg with h | h
          · exact absurd h her
          · rw [h] at hnd; exact absurd rfl hnd
      · rw [if_neg he]
        intro hw
        have hw1 : st1.wrapped = false := eq_false_of_mono (hrest _ _ st1) hw
        have hlt : st.pos < st1.pos := (dl hw1).progress ho (congrArg DmoEnd.ret (Decidable.of_not_not he))
        exact ih _ _ st1 (fun h => (dl h).maxRead) (by omega) hw

theorem frameLoop_noabort (he : c.errReturn = true) (hn : c.ndebug = true) (E : Nat) :
    ∀ (fuel calls lastErr : Nat) (st : St),
      (frameLoop c mem E annexb oracle fuel calls lastErr st).outcome ≠ .abort := by
  intro fuel
  induction fuel with
  | zero => exact fun _ _ _ => nofun
  | succ f ih =>
    intro calls lastErr st
    unfold frameLoop
    by_cases hp : st.pos ≥ E
    · rw [if_pos hp]; exact nofun
    rw [if_neg hp]
    extract_lets st0
    have dl := dmoLoop_noabort c mem annexb oracle hn (dmoFuel mem.length st0.dataSize) st0
    generalize dmoLoop c mem annexb oracle (dmoFuel mem.length st0.dataSize) st0 = res at dl ⊢
    obtain ⟨e1, st1⟩ := res
    cases e1 with
    | fuel => exact nofun
    | abort => exact absurd rfl dl
    | ret e =>
      dsimp only
      by_cases h0 : e ≠ EB_ErrorNone
      · rw [if_pos h0, if_pos he]; exact nofun
      · rw [if_neg h0]; exact ih _ _ st1

end ObuWalk
