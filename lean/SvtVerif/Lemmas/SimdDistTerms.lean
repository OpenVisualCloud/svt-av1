/-
  C07 part B — the per-element terms of the 32-bit full-distortion kernels as `Nat`/`Int` expressions of the inputs.
  The two Mathlib imports are not needed to compile.  They fix the term `2 ^ n` stands for in the definitions and
  statements from here to Props/C07b: `Monoid.npow` of `Nat.instMonoid`/`Int.instMonoid` with them, `instPowNat`/`Int.pow`
  without.  No Mathlib tactic or lemma is used.
-/
import SvtVerif.Lemmas.SimdDistAvx2
import Mathlib.Algebra.Group.Nat.Defs
import Mathlib.Algebra.Group.Int.Defs

namespace Simd

/-- `(coeff - recon)^2` as a mathematical integer (what the C reference adds, before the mod 2^64 of the accumulator) -/
def sqDiff (c r : BitVec 32) : Nat := (c.toInt - r.toInt).natAbs ^ 2
/-- what the AVX2 kernel squares: only the LOW dword of `coeff - recon`, sign-extended (`_mm256_mul_epi32`) -/
def sqDiffLow (c r : BitVec 32) : Nat := ((c.toInt - r.toInt).bmod (2 ^ 32)).natAbs ^ 2
def sqCoef (c : BitVec 32) : Nat := c.toInt.natAbs ^ 2

def dsqC (c r : BitVec 32) : BitVec 64 := (sext64 c - sext64 r) * (sext64 c - sext64 r)
def sqC (c : BitVec 32) : BitVec 64 := sext64 c * sext64 c

theorem toInt32_bounds (c : BitVec 32) : -2 ^ 31 ≤ c.toInt ∧ c.toInt < 2 ^ 31 := by
  have := c.isLt
  rw [BitVec.toInt_eq_toNat_cond]
  split <;> omega

theorem sext64_toInt (c : BitVec 32) : (sext64 c).toInt = c.toInt :=
  BitVec.toInt_signExtend_of_le (by omega)

/-- the 64-bit difference of two sign-extended int32 is exact -/
theorem subV_toInt (c r : BitVec 32) : (sext64 c - sext64 r).toInt = c.toInt - r.toInt := by
  have hc := toInt32_bounds c
  have hr := toInt32_bounds r
  rw [BitVec.toInt_sub, sext64_toInt, sext64_toInt, Int.bmod_eq_of_le_mul_two (by omega) (by omega)]

theorem toNat_eq_toInt_emod (x : BitVec 64) : (x.toNat : Int) = x.toInt % (2 ^ 64 : Nat) := by
  rw [BitVec.toInt_eq_toNat_bmod, Int.bmod_emod, Int.emod_eq_of_lt (Int.natCast_nonneg _) (Int.ofNat_lt.mpr x.isLt)]

theorem mul_self_toNat (x : BitVec 64) : (x * x).toNat = (x.toInt.natAbs ^ 2) % 2 ^ 64 := by
  have e1 : ((x * x).toNat : Int) = x.toInt * x.toInt % (2 ^ 64 : Nat) := by
    rw [toNat_eq_toInt_emod, BitVec.toInt_mul, Int.bmod_emod]
  have e2 : ((x.toInt.natAbs ^ 2 % 2 ^ 64 : Nat) : Int) = x.toInt * x.toInt % (2 ^ 64 : Nat) := by
    rw [Int.natCast_emod, Nat.pow_two, Int.natCast_mul, Int.natAbs_mul_self']
  exact Int.natCast_inj.mp (e1.trans e2.symm)

/-- `_mm256_mul_epi32(x, x)` on one lane is exact: a 32-bit value squared does not wrap 64 bits -/
theorem mulLo32_self_toNat (x : BitVec 64) : (mulLo32 x x).toNat = (x.toInt.bmod (2 ^ 32)).natAbs ^ 2 := by
  have hy : ((x.truncate 32).signExtend 64).toInt = x.toInt.bmod (2 ^ 32) := by
    rw [BitVec.toInt_signExtend_of_le (by omega), BitVec.truncate, BitVec.toInt_setWidth, BitVec.toInt_eq_toNat_bmod x,
      Int.bmod_bmod_of_dvd (Nat.pow_dvd_pow 2 (by omega))]
  have h1 := Int.le_bmod (x := x.toInt) (m := 2 ^ 32) (by omega)
  have h2 := Int.bmod_lt (x := x.toInt) (m := 2 ^ 32) (by omega)
  have := Nat.pow_le_pow_left (show (x.toInt.bmod (2 ^ 32)).natAbs ≤ 2 ^ 31 by omega) 2
  rw [mulLo32, mul_self_toNat, hy, Nat.mod_eq_of_lt (by omega)]

theorem prodV_toNat (c r : BitVec 32) : (prodV c r).toNat = sqDiffLow c r := by
  rw [prodV, mulLo32_self_toNat, subV_toInt, sqDiffLow]

theorem dsqC_toNat (c r : BitVec 32) : (dsqC c r).toNat = sqDiff c r % 2 ^ 64 := by
  rw [dsqC, mul_self_toNat, subV_toInt, sqDiff]

theorem sqCoef_le (c : BitVec 32) : sqCoef c ≤ 2 ^ 62 := by
  have hc := toInt32_bounds c
  have : c.toInt.natAbs ≤ 2 ^ 31 := by omega
  have := Nat.pow_le_pow_left this 2
  rw [sqCoef]; omega

theorem sqC_toNat (c : BitVec 32) : (sqC c).toNat = sqCoef c := by
  have := sqCoef_le c
  rw [sqC, mul_self_toNat, sext64_toInt]
  rw [sqCoef] at this ⊢
  omega

theorem sqV_toNat (c : BitVec 32) : (sqV c).toNat = sqCoef c := by
  have hc := toInt32_bounds c
  rw [sqV, mulLo32_self_toNat, sext64_toInt, sqCoef, Int.bmod_eq_of_le_mul_two (by omega) (by omega)]

theorem sqV_eq_sqC (c : BitVec 32) : sqV c = sqC c :=
  BitVec.eq_of_toNat_eq (by rw [sqV_toNat, sqC_toNat])

theorem sqDiffLow_eq_of_fits {c r : BitVec 32} (h1 : -2 ^ 31 ≤ c.toInt - r.toInt) (h2 : c.toInt - r.toInt < 2 ^ 31) :
    sqDiffLow c r = sqDiff c r := by
  rw [sqDiffLow, sqDiff, Int.bmod_eq_of_le_mul_two (by omega) (by omega)]

theorem sqDiff_lt_of_fits {c r : BitVec 32} (h1 : -2 ^ 31 ≤ c.toInt - r.toInt) (h2 : c.toInt - r.toInt < 2 ^ 31) :
    sqDiff c r ≤ 2 ^ 62 := by
  have : (c.toInt - r.toInt).natAbs ≤ 2 ^ 31 := by omega
  have := Nat.pow_le_pow_left this 2
  rw [sqDiff]; omega

/-- a square below 2^32 comes from a difference below 2^16 -/
theorem fits_of_sqDiff_lt {c r : BitVec 32} (h : sqDiff c r < 2 ^ 32) :
    -2 ^ 31 ≤ c.toInt - r.toInt ∧ c.toInt - r.toInt < 2 ^ 31 := by
  rw [sqDiff] at h
  have : (c.toInt - r.toInt).natAbs < 2 ^ 16 := Nat.lt_of_not_le fun hc => by
    have := Nat.pow_le_pow_left hc 2
    omega
  omega

end Simd
