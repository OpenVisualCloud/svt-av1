/-
  C04 (part A) — proofs for `Model/CondVar.lean` (svt_set_cond_var / svt_wait_cond_var,
  EbThreads.c:449-495): mutual exclusion, the no-lost-wake-up invariant, deadlock characterisation, and
  the me_ready handshake (`handshake_no_lost_wakeup`).  Everything is proved for an arbitrary `role`
  assignment, any number of threads and every interleaving (induction over `Reachable`).
-/
import SvtVerif.Model.CondVar

namespace CondVar

variable {role : Nat → Role} {s s' : State} {t : Nat}

/-- Effect of a broadcast on the threads other than the broadcaster. -/
def wakePc (f : Nat → Pc) : Nat → Pc := fun u => if f u = .sleeping then .woken else f u

theorem bcastPc_eq (f : Nat → Pc) (t : Nat) : bcastPc f t = setPc (wakePc f) t .bcast := rfl

/-- One action of the system, as a relation (`act_sound` ties it to the executable `act`): the eight
primitives of the two C functions plus the spurious wake-up. -/
inductive Trans (role : Nat → Role) (s : State) : State → Prop
  | setLock {t : Nat} {v : Int} : role t = .setter v → s.pc t = .idle → s.owner = none →
      Trans role s { s with owner := some t, pc := setPc s.pc t .locked }
  | setWrite {t : Nat} {v : Int} : role t = .setter v → s.pc t = .locked →
      Trans role s { s with val := v, pc := setPc s.pc t .wrote }
  | setBcast {t : Nat} {v : Int} : role t = .setter v → s.pc t = .wrote →
      Trans role s { s with pc := setPc (wakePc s.pc) t .bcast }
  | setUnlock {t : Nat} {v : Int} : role t = .setter v → s.pc t = .bcast →
      Trans role s { s with owner := none, pc := setPc s.pc t .done }
  | waitLock {t : Nat} {i : Int} : role t = .waiter i → s.pc t = .idle → s.owner = none →
      Trans role s { s with owner := some t, pc := setPc s.pc t .testing }
  | waitSleep {t : Nat} {i : Int} : role t = .waiter i → s.pc t = .testing → s.val = i →
      Trans role s { s with owner := none, pc := setPc s.pc t .sleeping }
  | waitExit {t : Nat} {i : Int} : role t = .waiter i → s.pc t = .testing → ¬ s.val = i →
      Trans role s { s with owner := none, pc := setPc s.pc t .done }
  | waitReacq {t : Nat} {i : Int} : role t = .waiter i → s.pc t = .woken → s.owner = none →
      Trans role s { s with owner := some t, pc := setPc s.pc t .testing }
  | spur {t : Nat} {i : Int} : role t = .waiter i → s.pc t = .sleeping →
      Trans role s { s with pc := setPc s.pc t .woken }

theorem step_sound (h : step role s t = some s') : Trans role s s' := by
  unfold step at h
  split at h
  · split at h
    · cases h; exact .setLock ‹_› ‹_› ‹_›
    · cases h
  · cases h; exact .setWrite ‹_› ‹_›
  · cases h; rw [bcastPc_eq]; exact .setBcast ‹_› ‹_›
  · cases h; exact .setUnlock ‹_› ‹_›
  · split at h
    · cases h; exact .waitLock ‹_› ‹_› ‹_›
    · cases h
  · split at h
    · cases h; exact .waitSleep ‹_› ‹_› ‹_›
    · cases h; exact .waitExit ‹_› ‹_› ‹_›
  · split at h
    · cases h; exact .waitReacq ‹_› ‹_› ‹_›
    · cases h
  · cases h

theorem act_sound {a : Act} (h : act role s a = some s') : Trans role s s' := by
  cases a with
  | run t => exact step_sound h
  | spur t =>
    change spurious role s t = some s' at h
    unfold spurious at h
    split at h
    · cases h; exact .spur ‹_› ‹_›
    · cases h

/-! Every action moves the acting thread `t` with `setPc`; only the broadcast first wakes the others.  So
each invariant has a `move` lemma (the conditions on the old and new pc of `t` under which it survives
`setPc`) and a `wake` lemma (for `NoLost`: nobody sleeps after it); the nine actions supply the conditions. -/

theorem wakePc_ne_sleeping (f : Nat → Pc) (u : Nat) : wakePc f u ≠ .sleeping := by
  unfold wakePc
  split
  · decide
  · assumption

theorem wakePc_wrote {f : Nat → Pc} {t : Nat} (h : f t = .wrote) : wakePc f t = .wrote :=
  (if_neg (by rw [h]; decide) : wakePc f t = f t).trans h

theorem wakePc_of_ne {f : Nat → Pc} {u : Nat} {p : Pc} (hp : p ≠ .woken) (h : wakePc f u = p) : f u = p := by
  unfold wakePc at h
  split at h
  · exact absurd h.symm hp
  · exact h

/-- pcs at which the thread holds `m_mutex`. -/
@[reducible] def InCS (p : Pc) : Prop := p = .locked ∨ p = .wrote ∨ p = .bcast ∨ p = .testing

@[reducible] def SetterPc (p : Pc) : Prop :=
  p = .idle ∨ p = .locked ∨ p = .wrote ∨ p = .bcast ∨ p = .done

@[reducible] def WaiterPc (p : Pc) : Prop :=
  p = .idle ∨ p = .testing ∨ p = .sleeping ∨ p = .woken ∨ p = .done

@[reducible] def RolePc : Role → Pc → Prop
  | .setter _, p => SetterPc p
  | .waiter _, p => WaiterPc p
  | .none, p => p = .idle

theorem RolePc.setter {v : Int} (hr : role t = .setter v) {p : Pc} (h : SetterPc p) :
    RolePc (role t) p := by
  rw [hr]; exact h

theorem RolePc.waiter {i : Int} (hr : role t = .waiter i) {p : Pc} (h : WaiterPc p) :
    RolePc (role t) p := by
  rw [hr]; exact h

structure Inv1 (role : Nat → Role) (s : State) : Prop where
  excl : ∀ t, InCS (s.pc t) ↔ s.owner = some t
  rolePc : ∀ t, RolePc (role t) (s.pc t)

theorem Inv1.setterPc (hi : Inv1 role s) {v : Int} (hr : role t = .setter v) : SetterPc (s.pc t) := by
  have h := hi.rolePc t
  rwa [hr] at h

theorem Inv1.waiterPc (hi : Inv1 role s) {i : Int} (hr : role t = .waiter i) : WaiterPc (s.pc t) := by
  have h := hi.rolePc t
  rwa [hr] at h

theorem inv1_init (v0 : Int) : Inv1 role (init v0) :=
  ⟨fun u => ⟨fun h => absurd (show InCS .idle from h) (by decide), nofun⟩, fun u => by
    cases role u
    · exact Or.inl rfl
    · exact Or.inl rfl
    · exact rfl⟩

theorem Inv1.move (hi : Inv1 role s) {p' : Pc} {o' : Option Nat} (v' : Int)
    (hrole : RolePc (role t) p') (hcs : InCS p' ↔ o' = some t)
    (hoth : ∀ u, u ≠ t → (o' = some u ↔ s.owner = some u)) :
    Inv1 role ⟨v', o', setPc s.pc t p'⟩ := by
  constructor <;> intro u <;> dsimp only [setPc] <;> split
  · subst u; exact hcs
  · exact (hi.excl u).trans (hoth u ‹_›).symm
  · subst u; exact hrole
  · exact hi.rolePc u

/-- `pthread_mutex_lock` succeeds (also inside `pthread_cond_wait`). -/
theorem Inv1.acquire (hi : Inv1 role s) (ho : s.owner = none) {p' : Pc}
    (hrole : RolePc (role t) p') (hcs : InCS p') : Inv1 role ⟨s.val, some t, setPc s.pc t p'⟩ :=
  hi.move _ hrole ⟨fun _ => rfl, fun _ => hcs⟩ fun u hu => by
    rw [ho]
    exact ⟨fun h => absurd (Option.some.inj h).symm hu, nofun⟩

/-- `pthread_mutex_unlock`, or the release inside `pthread_cond_wait`. -/
theorem Inv1.release (hi : Inv1 role s) (hp : InCS (s.pc t)) {p' : Pc}
    (hrole : RolePc (role t) p') (hcs : ¬ InCS p') : Inv1 role ⟨s.val, none, setPc s.pc t p'⟩ :=
  hi.move _ hrole ⟨fun h => absurd h hcs, nofun⟩ fun u hu => by
    rw [(hi.excl t).1 hp]
    exact ⟨nofun, fun h => absurd (Option.some.inj h).symm hu⟩

theorem Inv1.keep (hi : Inv1 role s) {p' : Pc} (v' : Int)
    (hrole : RolePc (role t) p') (hcs : InCS p' ↔ InCS (s.pc t)) :
    Inv1 role ⟨v', s.owner, setPc s.pc t p'⟩ :=
  hi.move _ hrole (hcs.trans (hi.excl t)) fun _ _ => Iff.rfl

theorem Inv1.wake (hi : Inv1 role s) : Inv1 role ⟨s.val, s.owner, wakePc s.pc⟩ := by
  constructor <;> intro u <;> dsimp only [wakePc] <;> split
  · rw [← hi.excl u, ‹s.pc u = .sleeping›]; decide
  · exact hi.excl u
  · have hr := hi.rolePc u
    rw [‹s.pc u = .sleeping›] at hr
    cases hru : role u <;> rw [hru] at hr
    · exact absurd (show SetterPc .sleeping from hr) (by decide)
    · exact Or.inr (Or.inr (Or.inr (Or.inl rfl)))
    · exact absurd (show Pc.sleeping = .idle from hr) (by decide)
  · exact hi.rolePc u

theorem inv1_trans (hi : Inv1 role s) (h : Trans role s s') : Inv1 role s' := by
  cases h with
  | setLock hr hp ho => exact hi.acquire ho (.setter hr (by decide)) (by decide)
  | waitLock hr hp ho | waitReacq hr hp ho => exact hi.acquire ho (.waiter hr (by decide)) (by decide)
  | setUnlock hr hp => exact hi.release (by rw [hp]; decide) (.setter hr (by decide)) (by decide)
  | waitSleep hr hp | waitExit hr hp =>
    exact hi.release (by rw [hp]; decide) (.waiter hr (by decide)) (by decide)
  | setWrite hr hp => exact hi.keep _ (.setter hr (by decide)) (by rw [hp]; decide)
  | spur hr hp => exact hi.keep _ (.waiter hr (by decide)) (by rw [hp]; decide)
  | setBcast hr hp =>
    refine hi.wake.keep _ (.setter hr (by decide)) ?_
    show _ ↔ InCS (wakePc s.pc _)
    rw [wakePc_wrote hp]
    decide

/-- If a waiter sleeps although `val` already differs from its `input`, a setter is between its write
(EbThreads.c:463) and its broadcast (:464) — the wake-up is still to come. -/
def NoLost (role : Nat → Role) (s : State) : Prop :=
  ∀ w i, role w = .waiter i → s.pc w = .sleeping → s.val ≠ i →
    ∃ t v, role t = .setter v ∧ s.pc t = .wrote

theorem NoLost.move (hn : NoLost role s) {p' : Pc} (o' : Option Nat) (hp : s.pc t ≠ .wrote)
    (hsl : p' = .sleeping → ∀ i, role t = .waiter i → s.val = i) :
    NoLost role ⟨s.val, o', setPc s.pc t p'⟩ := by
  intro w i hw hs hv
  dsimp only [setPc] at hs
  split at hs
  · subst w; exact absurd (hsl hs i hw) hv
  · obtain ⟨t0, v, hr0, hp0⟩ := hn w i hw hs hv
    exact ⟨t0, v, hr0, (if_neg fun (e : t0 = t) => hp (e ▸ hp0)).trans hp0⟩

theorem noLost_trans (hn : NoLost role s) (h : Trans role s s') : NoLost role s' := by
  cases h with
  | @setWrite t v hr hp => exact fun w i hw hs hv => ⟨t, v, hr, if_pos rfl⟩
  | setBcast hr hp =>
    intro w i _ hs
    dsimp only [setPc] at hs
    split at hs
    · cases hs
    · exact absurd hs (wakePc_ne_sleeping _ _)
  | waitSleep hr hp hv =>
    exact hn.move _ (by rw [hp]; decide) fun _ i hr' => hv.trans (Role.waiter.inj (hr.symm.trans hr'))
  | setLock hr hp | setUnlock hr hp | waitLock hr hp | waitExit hr hp | waitReacq hr hp | spur hr hp =>
    exact hn.move _ (by rw [hp]; decide) nofun

theorem inv_of_reachable {v0 : Int} (h : Reachable role v0 s) : Inv1 role s ∧ NoLost role s := by
  induction h with
  | init => exact ⟨inv1_init v0, fun w i _ hs _ => nomatch hs⟩
  | step _ ha ih => exact ⟨inv1_trans ih.1 (act_sound ha), noLost_trans ih.2 (act_sound ha)⟩

/-- C: in every reachable state a thread is between `pthread_mutex_lock` and the
matching unlock / `pthread_cond_wait` release (pcs `locked|wrote|bcast|testing`) iff it is the holder of
`m_mutex`; so at most one thread is inside a critical section of `svt_set_cond_var` /
`svt_wait_cond_var`. -/
theorem mutex_excl {v0 : Int} (h : Reachable role v0 s) :
    (∀ t, InCS (s.pc t) ↔ s.owner = some t) ∧
    (∀ t u, InCS (s.pc t) → InCS (s.pc u) → t = u) := by
  have hex := (inv_of_reachable h).1.excl
  exact ⟨hex, fun t u ht hu => Option.some.inj (((hex t).1 ht).symm.trans ((hex u).1 hu))⟩

/-- C: in every interleaving, whenever a waiter is blocked in
`pthread_cond_wait` while `cond_var->val != input`, some setter has written `val` and has not yet
executed `pthread_cond_broadcast` (and holds the mutex): the wake-up cannot have been lost. -/
theorem no_lost_wakeup_inv {v0 : Int} (h : Reachable role v0 s) {w : Nat} {i : Int}
    (hw : role w = .waiter i) (hs : s.pc w = .sleeping) (hv : s.val ≠ i) :
    ∃ t v, role t = .setter v ∧ s.pc t = .wrote ∧ s.owner = some t := by
  obtain ⟨hi, hn⟩ := inv_of_reachable h
  obtain ⟨t0, v, hr0, hp0⟩ := hn w i hw hs hv
  exact ⟨t0, v, hr0, hp0, (hi.excl t0).1 (Or.inr (Or.inl hp0))⟩

/-- C: when no setter sits between its write and its broadcast (in particular once every
setter has returned), a waiter whose condition `val != input` holds is not asleep: it is `idle`,
`testing`, `woken` or `done`. -/
theorem no_sleeper_when_no_pending_broadcast {v0 : Int} (h : Reachable role v0 s)
    (hnw : ∀ t v, role t = .setter v → s.pc t ≠ .wrote) {w : Nat} {i : Int}
    (hw : role w = .waiter i) (hv : s.val ≠ i) :
    s.pc w = .idle ∨ s.pc w = .testing ∨ s.pc w = .woken ∨ s.pc w = .done := by
  obtain ⟨hi, hn⟩ := inv_of_reachable h
  rcases hi.waiterPc hw with hp | hp | hp | hp | hp
  · exact Or.inl hp
  · exact Or.inr (Or.inl hp)
  · obtain ⟨t0, v, hr0, hp0⟩ := hn w i hw hp hv
    exact absurd hp0 (hnw t0 v hr0)
  · exact Or.inr (Or.inr (Or.inl hp))
  · exact Or.inr (Or.inr (Or.inr hp))

theorem inCS_cases {p : Pc} (h : InCS p) :
    (SetterPc p → p = .locked ∨ p = .wrote ∨ p = .bcast) ∧ (WaiterPc p → p = .testing) ∧ p ≠ .idle := by
  cases p <;> revert h <;> decide

theorem free_cases {p : Pc} (hcs : ¬ InCS p) (hs : p ≠ .sleeping) (hd : p ≠ .done) :
    p = .idle ∨ p = .woken ∧ ¬ SetterPc p := by
  cases p <;> revert hcs hs hd <;> decide

theorem enabled_of_inCS (hi : Inv1 role s) (h : InCS (s.pc t)) : step role s t ≠ none := by
  obtain ⟨hS, hW, hI⟩ := inCS_cases h
  cases hr : role t with
  | setter v => rcases hS (hi.setterPc hr) with p | p | p <;> simp [step, hr, p]
  | waiter i =>
    have p := hW (hi.waiterPc hr)
    by_cases hv : s.val = i <;> simp [step, hr, p, hv]
  | none =>
    have h := hi.rolePc t
    rw [hr] at h
    exact absurd h hI

theorem enabled_of_free (hi : Inv1 role s) (ho : s.owner = none) (hr : role t ≠ .none)
    (hs : s.pc t ≠ .sleeping) (hd : s.pc t ≠ .done) : step role s t ≠ none := by
  have hf := free_cases (fun h => nomatch ho ▸ (hi.excl t).1 h) hs hd
  cases hr' : role t with
  | setter v => simp [step, hr', hf.resolve_right fun h => h.2 (hi.setterPc hr'), ho]
  | waiter i => rcases hf with p | ⟨p, _⟩ <;> simp [step, hr', p, ho]
  | none => exact absurd hr' hr

/-- C: in every reachable state in which no thread can execute its next primitive,
the mutex is free, every `svt_set_cond_var` call has returned, and every `svt_wait_cond_var` call has
either returned or sleeps with `cond_var->val == input` — i.e. the only way to be stuck is to wait for
a value that nobody is going to set.  (Spurious wake-ups are not used to get unstuck.) -/
theorem stuck_shape {v0 : Int} (h : Reachable role v0 s) (hst : Stuck role s) :
    s.owner = none ∧ (∀ t v, role t = .setter v → s.pc t = .done) ∧
    (∀ t i, role t = .waiter i → s.pc t = .done ∨ (s.pc t = .sleeping ∧ s.val = i)) := by
  obtain ⟨hi, hn⟩ := inv_of_reachable h
  have hown : s.owner = none := by
    cases ho : s.owner with
    | none => rfl
    | some o => exact absurd (hst o) (enabled_of_inCS hi ((hi.excl o).2 ho))
  have key : ∀ t, role t ≠ .none → s.pc t = .sleeping ∨ s.pc t = .done := fun t hr =>
    Decidable.or_iff_not_not_and_not.2 fun h => enabled_of_free hi hown hr h.1 h.2 (hst t)
  refine ⟨hown, fun t v hr => ?_, fun t i hr => ?_⟩
  · rcases key t (by rw [hr]; nofun) with h | h
    · exact absurd (show SetterPc .sleeping from h ▸ hi.setterPc hr) (by decide)
    · exact h
  · rcases key t (by rw [hr]; nofun) with h | h
    · refine Or.inr ⟨h, Decidable.byContradiction fun hne => ?_⟩
      obtain ⟨t0, _, _, hp0⟩ := hn t i hr h hne
      exact nomatch hown ▸ (hi.excl t0).1 (Or.inr (Or.inl hp0))
    · exact Or.inl h

/-- `stuck_shape` as a disjunction. -/
theorem no_deadlock' {v0 : Int} (h : Reachable role v0 s) :
    (∃ t, step role s t ≠ none) ∨
    (s.owner = none ∧ (∀ t v, role t = .setter v → s.pc t = .done) ∧
      (∀ t i, role t = .waiter i → s.pc t = .done ∨ (s.pc t = .sleeping ∧ s.val = i))) :=
  Classical.or_iff_not_imp_left.2 fun hst =>
    stuck_shape h fun t => Classical.byContradiction fun hne => hst ⟨t, hne⟩

/-- C: the mutex holder can always execute its next primitive (nobody blocks while holding `m_mutex`,
`pthread_cond_wait` releases it). -/
theorem holder_enabled {v0 : Int} (h : Reachable role v0 s) {o : Nat} (ho : s.owner = some o) :
    step role s o ≠ none :=
  have hi := (inv_of_reachable h).1
  enabled_of_inCS hi ((hi.excl o).2 ho)

theorem MeReady.user {n : Nat} {v0 v1 : Int} (hm : MeReady role n v0 v1) (hr : role t ≠ .none) :
    t < n ∧ (role t = .setter v1 ∨ role t = .waiter v0) :=
  have hlt : t < n := Nat.lt_of_not_le fun h => hr ((hm.roles t).2 h)
  ⟨hlt, (hm.roles t).1 hlt⟩

theorem MeReady.setter_val {n : Nat} {v0 v1 : Int} (hm : MeReady role n v0 v1) {v : Int}
    (hr : role t = .setter v) : v = v1 ∧ t < n := by
  obtain ⟨hlt, h | h⟩ := hm.user (t := t) (by rw [hr]; nofun) <;> rw [hr] at h
  · exact ⟨Role.setter.inj h, hlt⟩
  · cases h

theorem MeReady.waiter_inp {n : Nat} {v0 v1 : Int} (hm : MeReady role n v0 v1) {i : Int}
    (hr : role t = .waiter i) : i = v0 ∧ t < n := by
  obtain ⟨hlt, h | h⟩ := hm.user (t := t) (by rw [hr]; nofun) <;> rw [hr] at h
  · cases h
  · exact ⟨Role.waiter.inj h, hlt⟩

/-- pcs of a setter after its write (EbThreads.c:463). -/
@[reducible] def Past (p : Pc) : Prop := p = .wrote ∨ p = .bcast ∨ p = .done

structure ValInv (role : Nat → Role) (v0 v1 : Int) (s : State) : Prop where
  range : s.val = v0 ∨ s.val = v1
  after : ∀ t v, role t = .setter v → Past (s.pc t) → s.val = v1

theorem ValInv.mono {v0 v1 : Int} (hv : ValInv role v0 v1 s) (hval : s'.val = s.val)
    (h : ∀ u v, role u = .setter v → Past (s'.pc u) → Past (s.pc u)) : ValInv role v0 v1 s' :=
  ⟨hval ▸ hv.range, fun u v hu hp => hval ▸ hv.after u v hu (h u v hu hp)⟩

theorem ValInv.wake {v0 v1 : Int} (hv : ValInv role v0 v1 s) :
    ValInv role v0 v1 ⟨s.val, s.owner, wakePc s.pc⟩ :=
  hv.mono rfl fun _ _ _ =>
    Or.imp (wakePc_of_ne (by decide)) (Or.imp (wakePc_of_ne (by decide)) (wakePc_of_ne (by decide)))

theorem ValInv.move {v0 v1 : Int} (hv : ValInv role v0 v1 s) {p' : Pc} (o' : Option Nat)
    (h : ∀ v, role t = .setter v → Past p' → Past (s.pc t)) :
    ValInv role v0 v1 ⟨s.val, o', setPc s.pc t p'⟩ := by
  refine hv.mono rfl fun u v hu hp => ?_
  dsimp only [setPc] at hp
  split at hp
  · subst u; exact h v hu hp
  · exact hp

theorem valInv_trans {n : Nat} {v0 v1 : Int} (hm : MeReady role n v0 v1)
    (hv : ValInv role v0 v1 s) (h : Trans role s s') : ValInv role v0 v1 s' := by
  cases h with
  | setWrite hr hp =>
    have e := (hm.setter_val hr).1
    exact ⟨Or.inr e, fun _ _ _ _ => e⟩
  | setBcast hr hp =>
    exact hv.wake.move _ fun _ _ _ => Or.inl (wakePc_wrote hp)
  | setUnlock hr hp => exact hv.move _ fun _ _ _ => Or.inr (Or.inl hp)
  | waitExit hr hp hval => exact hv.move _ fun _ hr' => nomatch hr.symm.trans hr'
  | setLock | waitLock | waitSleep | waitReacq | spur => exact hv.move _ fun _ _ h => absurd h (by decide)

theorem valInv_of_reachable {n : Nat} {v0 v1 : Int} (hm : MeReady role n v0 v1)
    (h : Reachable role v0 s) : ValInv role v0 v1 s := by
  induction h with
  | init => exact ⟨Or.inl rfl, fun t v _ hp => absurd (show Past .idle from hp) (by decide)⟩
  | step _ ha ih => exact valInv_trans hm ih (act_sound ha)

theorem mu_le_bound (s : State) : ∀ n, mu s n ≤ 4 * n
  | 0 => Nat.le_refl _
  | n + 1 => by
    have h1 := mu_le_bound s n
    have h2 : weight (s.pc n) ≤ 4 := by cases s.pc n <;> decide
    show mu s n + weight (s.pc n) ≤ 4 * (n + 1)
    omega

theorem mu_le_of_le (h : ∀ u, weight (s'.pc u) ≤ weight (s.pc u)) : ∀ n, mu s' n ≤ mu s n
  | 0 => Nat.le_refl _
  | n + 1 => Nat.add_le_add (mu_le_of_le h n) (h n)

theorem mu_lt_of_lt (h : ∀ u, weight (s'.pc u) ≤ weight (s.pc u))
    (ht : weight (s'.pc t) < weight (s.pc t)) : ∀ n, t < n → mu s' n < mu s n
  | n + 1, hlt => by
    show mu s' n + weight (s'.pc n) < mu s n + weight (s.pc n)
    rcases Nat.lt_succ_iff_lt_or_eq.1 hlt with hlt | e
    · exact Nat.add_lt_add_of_lt_of_le (mu_lt_of_lt h ht n hlt) (h n)
    · exact Nat.add_lt_add_of_le_of_lt (mu_le_of_le h n) (e ▸ ht)

theorem mu_move_lt {n : Nat} {p' : Pc} (v' : Int) (o' : Option Nat) (ht : t < n)
    (h : weight p' < weight (s.pc t)) : mu ⟨v', o', setPc s.pc t p'⟩ n < mu s n := by
  refine mu_lt_of_lt (t := t) (fun u => ?_) ?_ n ht <;> dsimp only [setPc]
  · split
    · subst u; exact Nat.le_of_lt h
    · exact Nat.le_refl _
  · rwa [if_pos rfl]

theorem mu_wake_le (s : State) (n : Nat) : mu ⟨s.val, s.owner, wakePc s.pc⟩ n ≤ mu s n := by
  refine mu_le_of_le (fun u => ?_) n
  dsimp only [wakePc]
  split
  · rw [‹s.pc u = .sleeping›]; decide
  · exact Nat.le_refl _

/-- Once `val = v1` a waiter cannot go (back) to sleep, so every action moves its thread to a pc of smaller
weight; a broadcast lowers the weight of the sleepers too. -/
theorem trans_decreases {n : Nat} {v0 v1 : Int} (hm : MeReady role n v0 v1) (hv : s.val = v1)
    (h : Trans role s s') : mu s' n < mu s n := by
  cases h with
  | setLock hr hp | setWrite hr hp | setUnlock hr hp =>
    exact mu_move_lt _ _ (hm.setter_val hr).2 (by rw [hp]; decide)
  | waitLock hr hp | waitExit hr hp | waitReacq hr hp | spur hr hp =>
    exact mu_move_lt _ _ (hm.waiter_inp hr).2 (by rw [hp]; decide)
  | setBcast hr hp =>
    refine Nat.lt_of_lt_of_le
      (mu_move_lt (s := ⟨s.val, s.owner, wakePc s.pc⟩) _ _ (hm.setter_val hr).2 ?_) (mu_wake_le s n)
    show _ < weight (wakePc s.pc _)
    rw [wakePc_wrote hp]
    decide
  | waitSleep hr hp hval =>
    exact absurd ((hm.waiter_inp hr).1.symm.trans (hval.symm.trans hv)) hm.ne

theorem act_decreases {n : Nat} {v0 v1 : Int} (hm : MeReady role n v0 v1) (hv : s.val = v1)
    {a : Act} (ha : act role s a = some s') : s'.val = v1 ∧ mu s' n < mu s n := by
  refine ⟨?_, trans_decreases hm hv (act_sound ha)⟩
  cases act_sound ha with
  | setWrite hr hp => exact (hm.setter_val hr).1
  | _ => exact hv

theorem runActs_cons {a : Act} {as : List Act} (h : runActs role s (a :: as) = some s') :
    ∃ s1, act role s a = some s1 ∧ runActs role s1 as = some s' := by
  unfold runActs at h
  split at h
  · exact ⟨_, ‹_›, h⟩
  · cases h

theorem runActs_bounded {n : Nat} {v0 v1 : Int} (hm : MeReady role n v0 v1) :
    ∀ (acts : List Act) {s s' : State}, s.val = v1 → runActs role s acts = some s' →
      s'.val = v1 ∧ acts.length + mu s' n ≤ mu s n
  | [], s, s', hv, h => by
    cases h
    exact ⟨hv, Nat.le_of_eq (Nat.zero_add _)⟩
  | a :: as, s, s', hv, h => by
    obtain ⟨s1, ha, h⟩ := runActs_cons h
    obtain ⟨hv1, hdec⟩ := act_decreases hm hv ha
    obtain ⟨hv', hb⟩ := runActs_bounded hm as hv1 h
    refine ⟨hv', ?_⟩
    rw [List.length_cons]
    omega

theorem reachable_runActs {v0 : Int} : ∀ (acts : List Act) {s s' : State},
    Reachable role v0 s → runActs role s acts = some s' → Reachable role v0 s'
  | [], s, s', hr, h => by
    cases h
    exact hr
  | a :: as, s, s', hr, h => by
    obtain ⟨s1, ha, h⟩ := runActs_cons h
    exact reachable_runActs as (Reachable.step hr ha) h

theorem stuck_all_done {n : Nat} {v0 v1 : Int} (hm : MeReady role n v0 v1)
    (hr : Reachable role v0 s) (hv : s.val = v1) (hst : Stuck role s) :
    ∀ t, t < n → s.pc t = .done := by
  obtain ⟨_, hs, hw⟩ := stuck_shape hr hst
  intro t ht
  rcases (hm.roles t).1 ht with h | h
  · exact hs t v1 h
  · rcases hw t v0 h with h1 | ⟨_, h2⟩
    · exact h1
    · exact absurd (h2.symm.trans hv) hm.ne

/-- Before a setter has run the system is never stuck: its `lock` is enabled when the mutex is free, and the
mutex holder always has an enabled step. -/
theorem stuck_all_done_of_setter {n : Nat} {v0 v1 : Int} (hm : MeReady role n v0 v1)
    (hr : Reachable role v0 s) (hset : ∃ t v, role t = .setter v) (hst : Stuck role s) :
    ∀ t, t < n → s.pc t = .done := by
  obtain ⟨t0, v, hr0⟩ := hset
  have hd : s.pc t0 = .done := (stuck_shape hr hst).2.1 t0 v hr0
  have hv : s.val = v1 := (valInv_of_reachable hm hr).after t0 v hr0 (Or.inr (Or.inr hd))
  exact stuck_all_done hm hr hv hst

/-- `stuck_all_done_of_setter`, contrapositive. -/
theorem progress {n : Nat} {v0 v1 : Int} (hm : MeReady role n v0 v1)
    (hr : Reachable role v0 s) (hset : ∃ t v, role t = .setter v)
    (hnd : ∃ t, t < n ∧ s.pc t ≠ .done) : ∃ t, step role s t ≠ none := by
  apply Classical.byContradiction
  intro hno
  obtain ⟨t, htn, hp⟩ := hnd
  exact hp (stuck_all_done_of_setter hm hr hset
    (fun u => Classical.byContradiction fun hne => hno ⟨u, hne⟩) t htn)

/-- The me_ready handshake (EbResourceCoordinationProcess.c:495,
EbInitialRateControlProcess.c:357, EbRateControlProcess.c:1139) for any number `n` of setter/waiter
threads, every interleaving, with spurious wake-ups, and no fairness assumption other than "some enabled
thread eventually runs":
 (a) `val ∈ {v0, v1}`, and `val = v1` as soon as (and for ever after) some setter is past its write;
 (b) from any reachable state with `val = v1` (in particular once some setter is `done`), every action of
     every thread strictly decreases `mu · n`, so every executable schedule has at most
     `mu s n ≤ 4 * n` actions;
 (c) every state reachable from there in which no thread has an enabled step has all `n` threads `done`
     — every waiter has returned, no wake-up was lost;
 (d) if there is at least one setter, no reachable state at all is stuck unless all threads are `done`. -/
theorem handshake_no_lost_wakeup {n : Nat} {v0 v1 : Int} (hm : MeReady role n v0 v1)
    (hr : Reachable role v0 s) :
    ((s.val = v0 ∨ s.val = v1) ∧
      (∀ t v, role t = .setter v → (s.pc t = .wrote ∨ s.pc t = .bcast ∨ s.pc t = .done) →
        s.val = v1)) ∧
    (s.val = v1 →
      (∀ a s', act role s a = some s' → s'.val = v1 ∧ mu s' n < mu s n) ∧
      (∀ acts s', runActs role s acts = some s' →
        s'.val = v1 ∧ acts.length + mu s' n ≤ mu s n ∧ acts.length ≤ 4 * n ∧
        (Stuck role s' → ∀ t, t < n → s'.pc t = .done))) ∧
    (s.val = v1 → Stuck role s → ∀ t, t < n → s.pc t = .done) ∧
    ((∃ t v, role t = .setter v) → Stuck role s → ∀ t, t < n → s.pc t = .done) := by
  have hvi := valInv_of_reachable hm hr
  refine ⟨⟨hvi.range, hvi.after⟩, fun hv => ⟨fun a s' ha => act_decreases hm hv ha, ?_⟩,
    fun hv hst => stuck_all_done hm hr hv hst,
    fun hset hst => stuck_all_done_of_setter hm hr hset hst⟩
  intro acts s' hrun
  obtain ⟨hv', hb⟩ := runActs_bounded hm acts hv hrun
  have hbound := mu_le_bound s n
  refine ⟨hv', hb, by omega, fun hst => ?_⟩
  exact stuck_all_done hm (reachable_runActs acts hr hrun) hv' hst

/-- Once some setter has returned, every waiter's wait terminates —
every schedule is finite (≤ `4 * n` actions) and can only end with all threads `done`. -/
theorem waiters_terminate_after_set {n : Nat} {v0 v1 : Int} (hm : MeReady role n v0 v1)
    (hr : Reachable role v0 s) {t0 : Nat} {v : Int} (hr0 : role t0 = .setter v)
    (hd : s.pc t0 = .done) {acts : List Act} {s' : State} (hrun : runActs role s acts = some s') :
    acts.length ≤ 4 * n ∧ (Stuck role s' → ∀ t, t < n → s'.pc t = .done) := by
  have hv : s.val = v1 := (valInv_of_reachable hm hr).after t0 v hr0 (Or.inr (Or.inr hd))
  have h := ((handshake_no_lost_wakeup hm hr).2.1 hv).2 acts s' hrun
  exact ⟨h.2.2.1, h.2.2.2⟩

theorem exRole_meReady : MeReady exRole 3 0 1 := by
  refine ⟨by decide, fun t => ?_⟩
  match t with
  | 0 => exact ⟨fun _ => Or.inr rfl, fun h => by omega⟩
  | 1 => exact ⟨fun _ => Or.inl rfl, fun h => by omega⟩
  | 2 => exact ⟨fun _ => Or.inr rfl, fun h => by omega⟩
  | t + 3 => exact ⟨fun h => by omega, fun _ => rfl⟩

/-- Both waiters go to sleep (`val == 0`), the mutex is free again. -/
example : (runActs exRole (init 0) [.run 0, .run 0, .run 2, .run 2]).map (view · 3)
    = some (0, none, [.sleeping, .idle, .sleeping]) := by decide

/-- ... and in that state neither waiter has an enabled step, the setter has. -/
example : ((runActs exRole (init 0) [.run 0, .run 0, .run 2, .run 2]).bind
    (fun s => step exRole s 0)).isNone = true := by decide
example : ((runActs exRole (init 0) [.run 0, .run 0, .run 2, .run 2]).bind
    (fun s => step exRole s 1)).isSome = true := by decide

/-- The witness state of `no_lost_wakeup_inv`. -/
example : (runActs exRole (init 0) [.run 0, .run 0, .run 2, .run 2, .run 1, .run 1]).map (view · 3)
    = some (1, some 1, [.sleeping, .wrote, .sleeping]) := by decide

/-- The waiters sleep, the setter runs, both waiters are woken by the broadcast and finish. -/
example : (runActs exRole (init 0)
    [.run 0, .run 0, .run 2, .run 2, .run 1, .run 1, .run 1, .run 1,
     .run 0, .run 0, .run 2, .run 2]).map (view · 3)
    = some (1, none, [.done, .done, .done]) := by decide

/-- A spurious wake-up before the set: the waiter re-tests `val == 0` and sleeps again. -/
example : (runActs exRole (init 0) [.run 0, .run 0, .spur 0, .run 0, .run 0]).map (view · 3)
    = some (0, none, [.sleeping, .idle, .idle]) := by decide

/-- Setter first: the waiter never sleeps. -/
example : (runActs exRole (init 0) [.run 1, .run 1, .run 1, .run 1, .run 0, .run 0]).map (view · 3)
    = some (1, none, [.done, .done, .idle]) := by decide

/-- While the setter holds the mutex a waiter cannot lock (schedule not executable). -/
example : (runActs exRole (init 0) [.run 1, .run 0]).isNone = true := by decide

/-- A sleeping waiter that was not woken cannot proceed; a thread without role never moves. -/
example : (runActs exRole (init 0) [.run 0, .run 0, .run 0]).isNone = true := by decide
example : (runActs exRole (init 0) [.run 7]).isNone = true := by decide

end CondVar
