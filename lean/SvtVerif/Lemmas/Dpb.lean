/- The decoder machine `runDec` over a list of headers: append, shown key frames, which headers produce output. -/
import SvtVerif.Model.Dpb

namespace Dpb

variable {P S : Type}

theorem runDec_append (R : P → List S → S) (d : State S) (a b : List (Frame P)) :
    runDec R d (a ++ b) =
      ((runDec R (runDec R d a).1 b).1, (runDec R d a).2 ++ (runDec R (runDec R d a).1 b).2) := by
  induction a generalizing d with
  | nil => simp [runDec]
  | cons f fs ih => simp [runDec, ih]

theorem outputs_append (a b : List (Option S)) : outputs (a ++ b) = outputs a ++ outputs b := by
  simp [outputs, List.filterMap_append]

theorem decStep_shownKey (R : P → List S → S) (d : State S) (f : Frame P) (h : IsShownKey f) :
    decStep R d f =
      (fun _ => { pic := R f.payload [], frameType := .key, showable := f.showableFrame }, some (R f.payload [])) := by
  obtain ⟨h1, h2, h3⟩ := h
  unfold decStep
  rw [h1]
  have h255 : ∀ j : Fin 8, Nat.testBit 0xFF j.val = true := by decide
  simp only [refsOf, effRefresh, h2, h3, and_self, if_true, h255]

theorem runDec_shownKey_indep (R : P → List S → S) (d d' : State S) (f : Frame P) (fs : List (Frame P))
    (h : IsShownKey f) : runDec R d (f :: fs) = runDec R d' (f :: fs) := by
  simp only [runDec, decStep_shownKey R d f h, decStep_shownKey R d' f h]

def producesOutput (f : Frame P) : Bool := f.showExisting.isSome || f.showFrame

theorem decStep_output_isSome (R : P → List S → S) (d : State S) (f : Frame P) :
    (decStep R d f).2.isSome = producesOutput f := by
  unfold decStep producesOutput
  cases h : f.showExisting with
  | some i => simp only; split <;> simp
  | none => simp only; cases f.showFrame <;> simp

theorem runDec_isSome (R : P → List S → S) (d : State S) (fs : List (Frame P)) :
    (runDec R d fs).2.map Option.isSome = fs.map producesOutput := by
  induction fs generalizing d with
  | nil => rfl
  | cons f fs ih => simp [runDec, ih, decStep_output_isSome]

theorem outputs_length (R : P → List S → S) (d : State S) (fs : List (Frame P)) :
    (outputs (runDec R d fs).2).length = (fs.filter producesOutput).length := by
  -- outputs are counted by the `isSome` flags, which `runDec_isSome` knows
  have hlen : ∀ os : List (Option S), (outputs os).length = ((os.map Option.isSome).filter id).length := by
    intro os
    induction os with
    | nil => rfl
    | cons o os ih => cases o <;> simp [outputs] at ih ⊢ <;> exact ih
  rw [hlen, runDec_isSome, List.filter_map, List.length_map]
  rfl

end Dpb
