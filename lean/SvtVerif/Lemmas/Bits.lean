/-
  32-bit `int` as bit patterns: masks with `CSem.and32`; `CSem.shlRaw` under the wrap that follows it.
-/
import SvtVerif.Lemmas.CSem
import Mathlib.Tactic.Positivity

namespace Bits
open CSem

theorem nat_and_two_pow (X k : Nat) : X &&& 2 ^ k = 2 ^ k * (X / 2 ^ k % 2) := by
  apply Nat.eq_of_testBit_eq
  intro i
  rw [Nat.testBit_and, Nat.testBit_two_pow, Nat.testBit_two_pow_mul, show X / 2 ^ k % 2 = X / 2 ^ k % 2 ^ 1 from rfl,
    Nat.testBit_mod_two_pow, Nat.testBit_div_two_pow]
  by_cases h : k = i
  · subst h; simp
  · simp only [h, decide_false, Bool.and_false]
    by_cases h2 : k ≤ i
    · simp [h2, show ¬ i - k < 1 by omega]
    · simp [h2]

/-- the 32-bit pattern of an `Int`, as a natural number -/
def pat (x : Int) : Nat := (BitVec.ofInt 32 x).toNat

theorem pat_cast (x : Int) : ((pat x : Nat) : Int) = x % 2 ^ 32 := by
  unfold pat
  rw [BitVec.toNat_ofInt]
  have : (0 : Int) ≤ x % 2 ^ 32 := Int.emod_nonneg _ (by decide)
  omega

theorem pat_of_nonneg (x : Int) (h0 : 0 ≤ x) (h1 : x < 2 ^ 32) : pat x = x.toNat := by
  have := pat_cast x
  rw [Int.emod_eq_of_lt h0 h1] at this
  omega

theorem two_pow_dvd (n m : Nat) (h : n ≤ m) : (2 ^ n : Int) ∣ 2 ^ m :=
  ⟨2 ^ (m - n), by rw [← Int.pow_add]; congr 1; omega⟩

theorem pat_mod (x : Int) (k : Nat) (hk : k ≤ 32) : ((pat x % 2 ^ k : Nat) : Int) = x % 2 ^ k := by
  rw [Int.natCast_emod, pat_cast]
  rw [Int.natCast_pow]
  exact Int.emod_emod_of_dvd _ (two_pow_dvd k 32 hk)

theorem emod_mul_div (x P Q : Int) (hP : 0 < P) : x % (P * Q) / P = (x / P) % Q := by
  rw [Int.emod_def, Int.emod_def (x / P), ← Int.ediv_ediv_of_nonneg (Int.le_of_lt hP), Int.mul_assoc, Int.sub_eq_add_neg,
    ← Int.mul_neg, Int.add_mul_ediv_left _ _ (Int.ne_of_gt hP), Int.sub_eq_add_neg]

theorem pat_bit (x : Int) (k : Nat) (hk : k < 32) : ((pat x / 2 ^ k % 2 : Nat) : Int) = (x / 2 ^ k) % 2 := by
  rw [Int.natCast_emod, Int.natCast_ediv, pat_cast]
  rw [Int.natCast_pow, show ((2 : Nat) : Int) = 2 from rfl]
  have hs : (2 : Int) ^ 32 = 2 ^ k * 2 ^ (32 - k) := by rw [← Int.pow_add]; congr 1; omega
  rw [hs, emod_mul_div _ _ _ (Int.pow_pos (by decide))]
  have h2 : (2 : Int) ^ (32 - k) = 2 * 2 ^ (32 - k - 1) := by
    rw [← Int.pow_succ']; congr 1; omega
  rw [h2]
  rw [Int.emod_emod_of_dvd _ (Int.dvd_mul_right 2 _)]

/-- for a mask `0 ≤ m < 2^31` the sign bit of `x & m` is clear -/
theorem and32_of_nonneg (x m : Int) (h0 : 0 ≤ m) (h1 : m < 2 ^ 31) : and32 x m = ((pat x &&& m.toNat : Nat) : Int) := by
  unfold and32
  have hnat : (BitVec.ofInt 32 x &&& BitVec.ofInt 32 m).toNat = pat x &&& m.toNat := by
    rw [BitVec.toNat_and]
    show pat x &&& pat m = _
    rw [pat_of_nonneg m h0 (by omega)]
  have hle : pat x &&& m.toNat ≤ m.toNat := Nat.and_le_right
  rw [BitVec.toInt_eq_toNat_of_lt (by rw [hnat]; omega), hnat]

theorem and32_low_mask (x : Int) (k : Nat) (hk : k ≤ 31) :
    and32 x (2 ^ k - 1) = x % 2 ^ k := by
  have e : ((2 ^ k : Nat) : Int) = (2 : Int) ^ k := Int.natCast_pow 2 k
  have hpos : 0 < 2 ^ k := Nat.two_pow_pos k
  have hle : 2 ^ k ≤ 2 ^ 31 := Nat.pow_le_pow_right (by decide) hk
  rw [and32_of_nonneg _ _ (by omega) (by omega), show ((2 : Int) ^ k - 1).toNat = 2 ^ k - 1 by omega,
    Nat.and_two_pow_sub_one_eq_mod, pat_mod x k (by omega)]

theorem and32_bit (x : Int) (k : Nat) (hk : k ≤ 30) :
    and32 x (2 ^ k) = 2 ^ k * ((x / 2 ^ k) % 2) := by
  have e : ((2 ^ k : Nat) : Int) = (2 : Int) ^ k := Int.natCast_pow 2 k
  have hpos : 0 < 2 ^ k := Nat.two_pow_pos k
  have hle : 2 ^ k ≤ 2 ^ 30 := Nat.pow_le_pow_right (by decide) hk
  rw [and32_of_nonneg _ _ (by omega) (by omega), show ((2 : Int) ^ k).toNat = 2 ^ k by omega, nat_and_two_pow,
    Int.natCast_mul, pat_bit x k (by omega), e]

theorem wrapS32_id (x : Int) (h0 : -(2 ^ 31) ≤ x) (h1 : x < 2 ^ 31) : wrapS 32 x = x :=
  wrapS_of_range h0 h1 (by decide)

/-- `CSem.shlRaw` (variable-count shift with the exponent capped at 64) agrees with the uncapped product after every wrap of at
    most 64 bits. -/
theorem shlRaw_emod (n : Nat) (hn : n ≤ 64) (a k : Int) :
    shlRaw a k % (2 ^ n : Int) = (a * 2 ^ k.toNat) % (2 ^ n : Int) := by
  unfold shlRaw
  by_cases h : k.toNat ≤ 64
  · rw [Nat.min_eq_left h]
  · have h64 : 64 < k.toNat := by omega
    rw [Nat.min_eq_right (by omega)]
    have d1 : (2 ^ n : Int) ∣ a * 2 ^ 64 := (Int.dvd_trans (two_pow_dvd _ _ hn) (Int.dvd_mul_left a _))
    have d2 : (2 ^ n : Int) ∣ a * 2 ^ k.toNat := (Int.dvd_trans (two_pow_dvd _ _ (by omega)) (Int.dvd_mul_left a _))
    rw [Int.emod_eq_zero_of_dvd d1, Int.emod_eq_zero_of_dvd d2]

theorem shlRaw_wrapU (n : Nat) (hn : n ≤ 64) (a k : Int) :
    wrapU n (shlRaw a k) = wrapU n (a * 2 ^ k.toNat) := shlRaw_emod n hn a k

theorem shlRaw_wrapS (n : Nat) (hn : n ≤ 64) (a k : Int) :
    wrapS n (shlRaw a k) = wrapS n (a * 2 ^ k.toNat) := by
  unfold wrapS
  rw [BitVec.toInt_ofInt, BitVec.toInt_ofInt]
  unfold Int.bmod
  have := shlRaw_emod n hn a k
  simp only [Int.natCast_pow, Int.cast_ofNat_Int] at *
  rw [this]

end Bits
