/-
  The order-hint distance helper `get_relative_dist` (`Gen/RelDist.lean`): with `m = 2^k` the C expression
  `(x & (m − 1)) − (x & m)` is the representative of `x` modulo `2m` in `[−m, m)`.  The arithmetic holds for every
  modulus `m > 0`; only the step from the C operators to it needs `m = 2^k` and 32-bit ranges.
-/
import SvtVerif.Gen.RelDist
import SvtVerif.Lemmas.Bits
import SvtVerif.Lemmas.Reorder
import Mathlib.Tactic.Ring

namespace RelDist
open CSem Bits Gen.RelDist

/-- `x mod m − m·bit`, `bit = ⌊x/m⌋ mod 2`: the signed residue of `x` modulo `2m`. -/
def sres (m x : Int) : Int := x % m - m * (x / m % 2)

theorem sres_bounds {m : Int} (hm : 0 < m) (x : Int) : -m ≤ sres m x ∧ sres m x < m := by
  unfold sres
  have r0 := Int.emod_nonneg x (ne_of_gt hm)
  have r1 := Int.emod_lt_of_pos x hm
  rcases Int.emod_two_eq (x / m) with h | h <;> rw [h] <;> omega

theorem sres_emod (m x : Int) : sres m x % (2 * m) = x % (2 * m) := by
  -- `sres m x − x = 2m · (−⌊q/2⌋ − q % 2)` with `q = ⌊x/m⌋`
  have e : sres m x - x = 2 * m * (-(x / m / 2) - x / m % 2) := by
    unfold sres
    have e1 := Int.emod_add_mul_ediv x m
    have e2 := Int.emod_add_mul_ediv (x / m) 2
    generalize x / m = q at *
    generalize q % 2 = t at *
    generalize q / 2 = q2 at *
    generalize x % m = r at *
    subst e2 e1
    ring
  exact Int.emod_eq_emod_iff_emod_sub_eq_zero.2 (by rw [e]; exact Int.mul_emod_right _ _)

theorem sres_eq_of_window {m x y : Int} (hm : 0 < m) (h0 : -m ≤ y) (h1 : y < m)
    (hc : x % (2 * m) = y % (2 * m)) : sres m x = y := by
  have hb := sres_bounds hm x
  exact Reorder.eq_of_emod_eq_of_window (h := -m) hb.1 (by omega) h0 (by omega) ((sres_emod m x).trans hc)

theorem relDistInterPred_eq_sres (en a b : Int) (k : Nat) (hen : en ≠ 0) (hk : k ≤ 30)
    (hx0 : -(2 ^ 31) ≤ a - b) (hx1 : a - b < 2 ^ 31) :
    relDistInterPred en (k + 1) a b = sres (2 ^ k) (a - b) := by
  have hm : (2 : Int) ^ k ≤ 2 ^ 30 := pow_le_pow_right₀ (by decide) hk
  have hmpos : (0 : Int) < 2 ^ k := Int.pow_pos (by decide)
  have hk1 : wrapS 32 ((k : Int) + 1 - 1) = k := by
    rw [Int.add_sub_cancel]; exact wrapS32_id _ (by omega) (by omega)
  have hb := sres_bounds hmpos (a - b)
  unfold relDistInterPred
  rw [if_neg (by simpa using hen)]
  simp only [wrapS32_id (a - b) hx0 hx1, hk1, Int.toNat_natCast, Int.one_mul,
    wrapS32_id (2 ^ k) (by omega) (by omega), wrapS32_id (2 ^ k - 1) (by omega) (by omega),
    and32_low_mask _ k (by omega), and32_bit _ k hk]
  exact wrapS32_id (sres (2 ^ k) (a - b)) (by omega) (by omega)

end RelDist
