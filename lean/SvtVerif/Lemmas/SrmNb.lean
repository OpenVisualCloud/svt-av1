/-
  C27 — `svt_get_full_object_non_blocking` (EbSystemResourceManager.c:679-704) on top of the C23 model
  `Model/Srm.lean` and its invariant (`Lemmas/Srm.lean`).  The call is the op sequence
      nbReg f  (684: svt_release_process)        → pc nbPeek
      peek f   (687-696: peek under the lockout mutex) → `.null` (701: *wrapper = NULL, pc idle)   or `.nonEmpty` (pc nbCall)
      then, only after `.nonEmpty` (699: svt_get_full_object): reg .full f ; semWait .full f ; pop .full f
  interleaved arbitrarily with the steps of all other threads.
-/
import SvtVerif.Lemmas.Srm

namespace Srm

theorem assign_pc (sd : Side) (s : State) : (assign sd s).pc = s.pc :=
  (congrArg State.pc (assign_frame sd s) :)

theorem assign_quit (sd : Side) (s : State) : (assign sd s).quit = s.quit :=
  (congrArg State.quit (assign_frame sd s) :)

theorem assign_posted (sd : Side) (s : State) : (assign sd s).posted = s.posted :=
  (congrArg State.posted (assign_frame sd s) :)

theorem assign_taken (sd : Side) (s : State) : (assign sd s).taken = s.taken :=
  (congrArg State.taken (assign_frame sd s) :)

theorem assignN_items_ne (sd d : Side) (f n : Nat) (s : State) (h : s.items d f ≠ []) :
    (assignN sd n s).items d f ≠ [] := by
  apply assignN_preserves (fun t => t.items d f ≠ []) sd _ n s h
  intro a b hab he
  obtain ⟨o, os, p, ps, _, _, rfl⟩ := assignStep_some he
  show upd2 a.items sd p (a.items sd p ++ [o]) d f ≠ []
  unfold upd2
  split
  · exact List.append_ne_nil_of_right_ne_nil _ (List.cons_ne_nil _ _)
  · exact hab

theorem assign_procQ_len (sd d : Side) (s : State) : ((assign sd s).procQ d).length ≤ (s.procQ d).length := by
  apply assign_preserves (fun t => (t.procQ d).length ≤ (s.procQ d).length) sd _ s (Nat.le_refl _)
  intro a b hab he
  obtain ⟨o, os, p, ps, _, hp, rfl⟩ := assignStep_some he
  show (upd1 a.procQ sd ps d).length ≤ _
  by_cases hd : d = sd
  · subst hd
    rw [hp, List.length_cons] at hab
    rw [upd1_same]; omega
  · rw [upd1_ne hd]; exact hab

theorem pushProc_length {q : List Nat} {n f : Nat} {pq : List Nat} (h : pushProc q n f = some pq) : pq.length ≤ n := by
  unfold pushProc at h
  split at h
  · cases h; exact Nat.succ_le_of_lt ‹_›
  · split at h
    · cases h; exact Nat.le_of_eq (Eq.symm ‹_›)
    · cases h

/-- `idempotent_registration` (invariant form): in every reachable state — whatever mixture of blocking gets and
    non-blocking polls, however many polls in a row found the fifo empty — each process ring holds at most
    `process_total_count` entries. -/
theorem procQ_le_nProc {s : State} (h : Reachable s) : ∀ sd, (s.procQ sd).length ≤ s.nProc sd := by
  induction h with
  | init n p c => intro sd; simp [init]
  | step hr hw hs ih =>
    rename_i s s' op r
    -- a step changes a process ring by a registration at most, and then runs the loop, which only pops
    have key : ∀ (sd d : Side) (t : State), t.nProc = s.nProc → (t.procQ d).length ≤ s.nProc d →
        ((assign sd t).procQ d).length ≤ (assign sd t).nProc d := by
      intro sd d t htn hl
      rw [(congrArg State.nProc (assign_frame sd t) :), htn]
      exact Nat.le_trans (assign_procQ_len sd d t) hl
    have hreg : ∀ (sd d : Side) (f : Nat) (pq : List Nat), pushProc (s.procQ sd) (s.nProc sd) f = some pq →
        (upd1 s.procQ sd pq d).length ≤ s.nProc d := by
      intro sd d f pq hp
      by_cases hd : d = sd
      · subst hd; rw [upd1_same]; exact pushProc_length hp
      · rw [upd1_ne hd]; exact ih d
    intro d
    cases step_Tr hs
    case reg sd f pq hf hpc hp => exact key sd d _ rfl (hreg sd d f pq hp)
    case nbReg f pq hf hpc hp => exact key .full d _ rfl (hreg .full d f pq hp)
    case post => exact key .full d _ rfl (ih d)
    case relPush => exact key .empty d _ rfl (ih d)
    all_goals exact ih d

/-- the registration step of a poll (line 684) never blocks: it contains no semaphore wait -/
theorem nbReg_not_blocked (s : State) (f : Nat) : step s (.nbReg f) ≠ .blocked := by
  simp only [step, register]
  repeat' split
  all_goals simp

/-- the peek step of a poll (lines 687-701) never blocks -/
theorem peek_not_blocked (s : State) (f : Nat) : step s (.peek f) ≠ .blocked := by
  simp only [step]
  repeat' split
  all_goals simp

theorem semWait_blocked_iff (s : State) (sd : Side) (f : Nat) :
    step s (.semWait sd f) = .blocked ↔ (s.pc sd f = .waiting ∧ s.sem sd f = 0) := by
  by_cases hp : s.pc sd f = .waiting
  · by_cases h0 : s.sem sd f = 0
    · simp [step, hp, h0]
    · simp [step, hp, h0]
  · simp [step, hp]

/-- steps of OTHER threads never empty fifo `f` of side `d`: only `pop d f` removes an item -/
theorem Tr_items_ne {s s' : State} {op : Op} {r : Ret} (ht : Tr s op s' r) (d : Side) (f : Nat)
    (hop : op ≠ .pop d f) (h : s.items d f ≠ []) : s'.items d f ≠ [] := by
  cases ht
  case reg | nbReg | post | relPush => exact assignN_items_ne _ _ _ _ _ h
  case pop sd g o rest _ _ _ =>
    show upd2 s.items sd g rest d f ≠ []
    rw [upd2_ne fun hc => hop (by rw [hc.1, hc.2])]
    exact h
  all_goals exact h

/-- steps of other threads do not move the program counter of fifo `f`'s thread -/
theorem Tr_pc_other {s s' : State} {op : Op} {r : Ret} (ht : Tr s op s' r) (d : Side) (f : Nat)
    (h1 : op ≠ .reg d f) (h2 : op ≠ .nbReg f ∨ d ≠ .full) (h3 : op ≠ .peek f ∨ d ≠ .full)
    (h4 : op ≠ .semWait d f) (h5 : op ≠ .pop d f) : s'.pc d f = s.pc d f := by
  cases ht
  case reg => rw [assign_pc]; exact upd2_ne fun hc => h1 (by rw [hc.1, hc.2])
  case nbReg =>
    rw [assign_pc]; exact upd2_ne fun hc => h2.elim (fun h => h (by rw [hc.2])) (fun h => h hc.1)
  case peekSome | peekNone => exact upd2_ne fun hc => h3.elim (fun h => h (by rw [hc.2])) (fun h => h hc.1)
  case semWait => exact upd2_ne fun hc => h4 (by rw [hc.1, hc.2])
  case popShut | pop => exact upd2_ne fun hc => h5 (by rw [hc.1, hc.2])
  case post | relPush => rw [assign_pc]
  all_goals rfl

/-- The blocking get issued by a poll that saw a non-empty fifo (line 699) finds a semaphore token: after its
    `svt_release_process` step the semaphore wait is enabled. -/
theorem nb_call_token {s s1 : State} {f : Nat} {r1 : Ret} (h : Reachable s)
    (hi : s.items .full f ≠ []) (hq : s.quit .full f = false) (h1 : step s (.reg .full f) = .ok s1 r1) :
    s1.pc .full f = .waiting ∧ s1.items .full f ≠ [] ∧ ∃ s2, step s1 (.semWait .full f) = .ok s2 .ok := by
  have hv := reachable_Inv (Reachable.step h (by trivial) h1)
  have ht := step_Tr h1
  have hit : s1.items .full f ≠ [] := Tr_items_ne ht .full f (fun e => nomatch e) hi
  obtain ⟨hpc, hqt⟩ : s1.pc .full f = .waiting ∧ s1.quit .full f = false := by
    cases ht
    rw [assign_pc, assign_quit]
    exact ⟨upd2_same .., hq⟩
  exact ⟨hpc, hit, _, Tr_step (.semWait .full f hpc (hv.sem_pos hpc hit hqt))⟩

/-- `svt_release_process` puts the caller at the FRONT of the process ring (push_front, line 519; on a full
    one-slot ring the re-registration lands on the only slot), so the assignation loop serves it first: after the
    registration step of a poll the caller's fifo is non-empty iff it already was, or a posted object was waiting
    in the full ring. -/
theorem register_items {s : State} {f : Nat} {pq rest : List Nat} (hpq : pq = f :: rest) (pc' : Pc) (nb : Bool) :
    (assign .full { s with nbUsed := nb, procQ := upd1 s.procQ .full pq, pc := upd2 s.pc .full f pc' }).items .full f ≠ [] ↔
      (s.items .full f ≠ [] ∨ s.objQ .full ≠ []) := by
  subst hpq
  cases ho : s.objQ .full with
  | nil =>
    simp [assign, ho, assignN]
  | cons o os =>
    refine ⟨fun _ => Or.inr (List.cons_ne_nil _ _), fun _ => ?_⟩
    -- the first iteration of the loop serves `f`; the others only append
    unfold assign
    simp only [ho, List.length_cons]
    unfold assignN
    simp only [assignStep, ho, upd1_same]
    apply assignN_items_ne
    simp [upd2]

end Srm
