/-
  C24 — lemmas about the segment tables built by `enc_dec_segments_init` and the segment SB loop.
-/
import SvtVerif.Lemmas.SegmentsFold
import SvtVerif.Lemmas.SegmentsArith
import Mathlib.Data.List.Sort

namespace Seg

theorem size_foldl_count_u16 {α : Type} (l : List α) (f : α → Nat) (a0 : Array Nat) :
    (l.foldl (fun a p => amod a (f p) (fun v => u16 (v + 1))) a0).size = a0.size :=
  size_foldl_amod l f (fun _ v => u16 (v + 1)) a0

theorem size_foldl_first {α : Type} (l : List α) (f k : α → Nat) (a0 : Array Nat) :
    (l.foldl (fun a p => amod a (f p) (fun v => if v == 65535 then u16 (k p) else v)) a0).size
      = a0.size :=
  size_foldl_amod l f (fun p v => if v == 65535 then u16 (k p) else v) a0

/-- First-occurrence fold: a slot still holding the marker `0xFFFF` receives `k p` (which fits
    `uint16_t` and is not the marker) from the first `p` that maps to it, and keeps it. -/
theorem aget_foldl_first {α : Type} (l : List α) (f k : α → Nat) (a0 : Array Nat) (i : Nat)
    (hi : i < a0.size) (hk : ∀ p ∈ l, k p < 65535) :
    aget (l.foldl (fun a p => amod a (f p) (fun v => if v == 65535 then u16 (k p) else v)) a0) i
      = if aget a0 i = 65535 then
          ((l.find? (fun p => f p = i)).map k).getD 65535
        else aget a0 i := by
  induction l generalizing a0 with
  | nil => simp
  | cons p l ih =>
    rw [List.foldl_cons, ih _ (by rw [size_amod]; exact hi) (fun q hq => hk q (List.mem_cons_of_mem _ hq)),
      aget_amod, List.find?_cons]
    have hkp : k p < 65535 := hk p List.mem_cons_self
    rw [u16_small (by omega)]
    by_cases hp : f p = i
    · subst hp
      simp only [hi, and_self, if_true, decide_true, beq_iff_eq]
      by_cases h1 : aget a0 (f p) = 65535
      · rw [if_pos h1, if_neg (by omega), if_pos h1]; rfl
      · rw [if_neg h1, if_neg h1, if_neg h1]
    · simp [hp]

/-- raster order: `y` major, `x` minor -/
def rasterLt (p q : Nat × Nat) : Prop := p.2 < q.2 ∨ (p.2 = q.2 ∧ p.1 < q.1)

theorem pairwise_allSbs (W H : Nat) : (allSbs W H).Pairwise rasterLt := by
  unfold allSbs
  rw [List.pairwise_flatMap]
  constructor
  · intro y _
    rw [List.pairwise_map]
    exact List.Pairwise.imp (fun h => Or.inr ⟨rfl, h⟩) List.pairwise_lt_range
  · refine List.Pairwise.imp ?_ List.pairwise_lt_range
    intro y1 y2 h p hp q hq
    simp only [List.mem_map] at hp hq
    obtain ⟨_, _, rfl⟩ := hp
    obtain ⟨_, _, rfl⟩ := hq
    exact Or.inl h

theorem nodup_allSbs (W H : Nat) : (allSbs W H).Nodup := by
  refine List.Pairwise.imp ?_ (pairwise_allSbs W H)
  intro p q h e
  subst e
  unfold rasterLt at h
  omega

theorem initSeg_sbRowCount (W H C R MC MR : Nat) : (initSeg W H C R MC MR).sbRowCount = H := rfl

theorem initSeg_sbBandCount (W H C R MC MR : Nat) :
    (initSeg W H C R MC MR).sbBandCount = bandTotalCount H W := rfl

theorem initSeg_segRowCount (W H C R MC MR : Nat) :
    (initSeg W H C R MC MR).segRowCount
      = (if W = 1 then 1
         else if (if R < H then R else H) < MR then (if R < H then R else H) else MR) := rfl

theorem initSeg_segBandCount (W H C R MC MR : Nat) :
    (initSeg W H C R MC MR).segBandCount
      = bandTotalCount (initSeg W H C R MC MR).segRowCount (if C < W then C else W) := rfl

theorem initSeg_segTtlCount (W H C R MC MR : Nat) :
    (initSeg W H C R MC MR).segTtlCount
      = u32 ((initSeg W H C R MC MR).segRowCount * (initSeg W H C R MC MR).segBandCount) := rfl

/-- the segment-index function `init` applies to every SB, in terms of the resulting control block -/
def segOf (g : SegCtl) (p : Nat × Nat) : Nat :=
  sbSeg g.segBandCount g.sbBandCount g.segRowCount g.sbRowCount p

theorem initSeg_validSb_eq (W H C R MC MR : Nat) :
    (initSeg W H C R MC MR).validSb
      = (allSbs W H).foldl (fun a p => amod a (segOf (initSeg W H C R MC MR) p) (fun v => u16 (v + 1)))
          (Array.replicate (initSeg W H C R MC MR).segTtlCount 0) := rfl

theorem initSeg_xStart_eq (W H C R MC MR : Nat) :
    (initSeg W H C R MC MR).xStart
      = (allSbs W H).foldl (fun a p => amod a (segOf (initSeg W H C R MC MR) p)
            (fun v => if v == 65535 then u16 p.1 else v))
          (Array.replicate (initSeg W H C R MC MR).segTtlCount 65535) := rfl

theorem initSeg_yStart_eq (W H C R MC MR : Nat) :
    (initSeg W H C R MC MR).yStart
      = (allSbs W H).foldl (fun a p => amod a (segOf (initSeg W H C R MC MR) p)
            (fun v => if v == 65535 then u16 p.2 else v))
          (Array.replicate (initSeg W H C R MC MR).segTtlCount 65535) := rfl

theorem initSeg_validSb_size (W H C R MC MR : Nat) :
    (initSeg W H C R MC MR).validSb.size = (initSeg W H C R MC MR).segTtlCount := by
  rw [initSeg_validSb_eq, size_foldl_amod]; simp

theorem initSeg_xStart_size (W H C R MC MR : Nat) :
    (initSeg W H C R MC MR).xStart.size = (initSeg W H C R MC MR).segTtlCount := by
  rw [initSeg_xStart_eq, size_foldl_amod]; simp

theorem initSeg_yStart_size (W H C R MC MR : Nat) :
    (initSeg W H C R MC MR).yStart.size = (initSeg W H C R MC MR).segTtlCount := by
  rw [initSeg_yStart_eq, size_foldl_amod]; simp

/-- `valid_sb_count_array[i]` = number of SBs whose segment index is `i` (as `uint16_t`). -/
theorem initSeg_validSb (W H C R MC MR i : Nat) (hi : i < (initSeg W H C R MC MR).segTtlCount) :
    aget (initSeg W H C R MC MR).validSb i
      = u16 ((allSbs W H).countP (fun p => segOf (initSeg W H C R MC MR) p = i)) := by
  rw [initSeg_validSb_eq]
  refine (aget_foldl_count_mod 65536 _ _ _ i (by simpa using hi) (by rw [aget_replicate]; split <;> omega)).trans ?_
  rw [aget_replicate, if_pos hi, Nat.zero_add]
  rfl

/-- `x_start_array[i]` = x of the first SB (raster order) with segment index `i`, `0xFFFF` if none. -/
theorem initSeg_xStart (W H C R MC MR i : Nat) (hW : W ≤ 65535)
    (hi : i < (initSeg W H C R MC MR).segTtlCount) :
    aget (initSeg W H C R MC MR).xStart i
      = (((allSbs W H).find? (fun p => segOf (initSeg W H C R MC MR) p = i)).map (·.1)).getD 65535 := by
  rw [initSeg_xStart_eq, aget_foldl_first (allSbs W H) _ (fun p => p.1) _ i (by simpa using hi)
    (fun p hp => by have := ((mem_allSbs W H p).1 hp).1; omega), aget_replicate, if_pos hi, if_pos rfl]

/-- `y_start_array[i]` = y of the first SB (raster order) with segment index `i`, `0xFFFF` if none. -/
theorem initSeg_yStart (W H C R MC MR i : Nat) (hH : H ≤ 65535)
    (hi : i < (initSeg W H C R MC MR).segTtlCount) :
    aget (initSeg W H C R MC MR).yStart i
      = (((allSbs W H).find? (fun p => segOf (initSeg W H C R MC MR) p = i)).map (·.2)).getD 65535 := by
  rw [initSeg_yStart_eq, aget_foldl_first (allSbs W H) _ (fun p => p.2) _ i (by simpa using hi)
    (fun p hp => by have := ((mem_allSbs W H p).1 hp).2; omega), aget_replicate, if_pos hi, if_pos rfl]

theorem initSeg_dep_size (W H C R MC MR : Nat) :
    (initSeg W H C R MC MR).dep.size = (initSeg W H C R MC MR).segTtlCount := by
  rw [initSeg_dep_eq, dep_fold_eq_pairs, size_foldl_twoInc]; simp

/-- `dependency_map[t]` = (number of visited `(row, s)` with a right edge `s+1 = t`)
    + (number with a bottom-left edge `s+B = t`), as `uint8_t`. -/
theorem initSeg_dep (W H C R MC MR t : Nat) (ht : t < (initSeg W H C R MC MR).segTtlCount) :
    let g := initSeg W H C R MC MR
    aget g.dep t
      = u8 ((depPairs g.rows g.segRowCount).countP
              (fun e => depC1 g.validSb g.rows e ∧ u32 (e.2 + 1) = t)
          + (depPairs g.rows g.segRowCount).countP
              (fun e => depC2 g.validSb g.rows g.segRowCount g.segBandCount e
                ∧ u32 (e.2 + g.segBandCount) = t)) := by
  intro g
  show aget (initSeg W H C R MC MR).dep t = _
  rw [initSeg_dep_eq, dep_fold_eq_pairs,
    aget_foldl_twoInc 256 _ _ _ _ _ _ t (by simpa using ht) (by rw [aget_replicate]; split <;> omega)]
  rw [aget_replicate, if_pos ht, Nat.zero_add]
  rfl

def rowIv (x n y : Nat) : List (Nat × Nat) := (List.range' x n).map fun x => (x, y)

theorem rowIv_succ (x n y : Nat) : rowIv x (n + 1) y = (x, y) :: rowIv (x + 1) n y := rfl

theorem length_rowIv (x n y : Nat) : (rowIv x n y).length = n := by simp [rowIv]

theorem mem_rowIv (x n y : Nat) (p : Nat × Nat) : p ∈ rowIv x n y ↔ p.2 = y ∧ x ≤ p.1 ∧ p.1 < x + n := by
  obtain ⟨a, b⟩ := p
  simp only [rowIv, List.mem_map, List.mem_range'_1, Prod.mk.injEq]
  constructor
  · rintro ⟨x', hx, rfl, rfl⟩; exact ⟨rfl, hx⟩
  · rintro ⟨rfl, hx⟩; exact ⟨a, hx, rfl, rfl⟩

theorem pairwise_rowIv (x n y : Nat) : (rowIv x n y).Pairwise rasterLt :=
  List.pairwise_map.2 (List.Pairwise.imp (fun h => Or.inr ⟨rfl, h⟩) List.pairwise_lt_range')

/-- The inner loop runs for exactly `n` iterations if its three bounds allow `n` and one of them is
    reached after `n`. -/
theorem sbInner_run (W bs iEnd y : Nat) (hy : W + y < 4294967296) (hE : iEnd < 4294967296) :
    ∀ (n fuel x i : Nat) (acc : List (Nat × Nat)), n ≤ fuel →
      (0 < n → x + n ≤ W ∧ x + y + n ≤ bs ∧ i + n ≤ iEnd) →
      (W ≤ x + n ∨ bs ≤ x + y + n ∨ iEnd ≤ i + n) →
      sbInner W bs iEnd y fuel x i acc = ((rowIv x n y).reverse ++ acc, i + n) := by
  intro n
  induction n with
  | zero =>
    intro fuel x i acc _ _ hstop
    cases fuel with
    | zero => rfl
    | succ fuel =>
      rw [sbInner, if_neg]
      · rfl
      · rintro ⟨h1, h2, h3⟩
        rw [u32_small (by omega)] at h2
        omega
  | succ n ih =>
    intro fuel x i acc hf hgo hstop
    obtain ⟨g1, g2, g3⟩ := hgo (Nat.succ_pos n)
    obtain ⟨fuel, rfl⟩ : ∃ f, fuel = f + 1 := ⟨fuel - 1, by omega⟩
    rw [sbInner, if_pos ⟨by omega, by rw [u32_small (by omega)]; omega, by omega⟩,
      u32_small (n := x + 1) (by omega), u32_small (n := i + 1) (by omega),
      ih fuel (x + 1) (i + 1) _ (by omega) (fun _ => by omega) (by omega),
      rowIv_succ, List.reverse_cons, List.append_assoc, Nat.add_right_comm i 1 n]
    rfl

/-- the SBs `(x, y')` with `y ≤ y' < y + n`, `x < W` and `lo ≤ x + y' < hi`, row by row: a run of `n`
    SB rows of the diagonal band `[lo, hi)` -/
def segRows (W lo hi y n : Nat) : List (Nat × Nat) :=
  (List.range' y n).flatMap fun y => rowIv (lo - y) (min W (hi - y) - (lo - y)) y

theorem segRows_succ (W lo hi y n : Nat) :
    segRows W lo hi y (n + 1)
      = rowIv (lo - y) (min W (hi - y) - (lo - y)) y ++ segRows W lo hi (y + 1) n := by
  rw [segRows, List.range'_succ, List.flatMap_cons]; rfl

/-- row `y` of the band `[lo, hi)`: `x` runs from `lo - y` for `min W (hi - y) - (lo - y)` steps -/
theorem bandRow_mem (W lo hi y x : Nat) :
    (lo - y ≤ x ∧ x < lo - y + (min W (hi - y) - (lo - y))) ↔ lo ≤ x + y ∧ x < W ∧ x + y < hi := by
  omega

theorem bandRow_run (W lo hi y : Nat) :
    min W (hi - y) - (lo - y) ≤ W ∧
    (0 < min W (hi - y) - (lo - y) →
      lo - y + (min W (hi - y) - (lo - y)) ≤ W ∧ lo - y + y + (min W (hi - y) - (lo - y)) ≤ hi) ∧
    (W ≤ lo - y + (min W (hi - y) - (lo - y)) ∨ hi ≤ lo - y + y + (min W (hi - y) - (lo - y))) := by
  omega

theorem mem_segRows (W lo hi y n : Nat) (p : Nat × Nat) :
    p ∈ segRows W lo hi y n ↔ y ≤ p.2 ∧ p.2 < y + n ∧ lo ≤ p.1 + p.2 ∧ p.1 < W ∧ p.1 + p.2 < hi := by
  simp only [segRows, List.mem_flatMap, List.mem_range'_1, mem_rowIv, bandRow_mem]
  constructor
  · rintro ⟨y', hy', rfl, h⟩; exact ⟨hy'.1, hy'.2, h⟩
  · intro h; exact ⟨p.2, ⟨h.1, h.2.1⟩, rfl, h.2.2⟩

theorem pairwise_segRows (W lo hi y n : Nat) : (segRows W lo hi y n).Pairwise rasterLt := by
  rw [segRows, List.pairwise_flatMap]
  refine ⟨fun _ _ => pairwise_rowIv _ _ _, List.Pairwise.imp (fun h p hp q hq => Or.inl ?_) List.pairwise_lt_range'⟩
  rw [mem_rowIv] at hp hq
  omega

theorem xStart_pred (lo y : Nat) : (if lo - y > 0 then lo - y - 1 else 0) = lo - (y + 1) := by
  rw [← Nat.sub_sub]
  split
  · rfl
  · rename_i h; rw [Nat.eq_zero_of_not_pos h]

/-- The outer loop, started on row `y` with `x_start = lo - y` and exactly the SBs of the next `n`
    rows of the band left to emit, emits exactly those (in raster order) and terminates normally. -/
theorem sbOuter_run (W lo hi iEnd : Nat) (hE : iEnd < 4294967296) :
    ∀ (n fuel y i : Nat) (acc : List (Nat × Nat)), n < fuel → W + y + n < 4294967296 →
      i + (segRows W lo hi y n).length = iEnd →
      sbOuter W hi iEnd fuel y (lo - y) i acc = ((segRows W lo hi y n).reverse ++ acc, false) := by
  intro n
  induction n with
  | zero =>
    intro fuel y i acc hf _ hlen
    obtain ⟨fuel, rfl⟩ : ∃ f, fuel = f + 1 := ⟨fuel - 1, by omega⟩
    have hi : i = iEnd := hlen
    rw [sbOuter, if_neg (by omega)]
    rfl
  | succ n ih =>
    intro fuel y i acc hf hy hlen
    obtain ⟨fuel, rfl⟩ : ∃ f, fuel = f + 1 := ⟨fuel - 1, by omega⟩
    rw [segRows_succ] at hlen ⊢
    rw [List.length_append, length_rowIv] at hlen
    obtain ⟨hw1, hw2, hw3⟩ := bandRow_run W lo hi y
    generalize min W (hi - y) - (lo - y) = w at hlen hw1 hw2 hw3 ⊢
    by_cases hlt : i < iEnd
    · rw [sbOuter, if_pos hlt, sbInner_run W hi iEnd y (by omega) hE w W (lo - y) i acc hw1
        (fun h => ⟨(hw2 h).1, (hw2 h).2, by omega⟩) (by omega)]
      simp only []
      rw [if_neg (by omega), u32_small (n := y + 1) (by omega),
        xStart_pred,
        ih fuel (y + 1) _ _ (by omega) (by omega) (by omega), List.reverse_append, List.append_assoc]
    · -- the count is used up: the remaining rows of the band are empty
      rw [sbOuter, if_neg hlt, List.eq_nil_of_length_eq_zero (l := rowIv _ _ y) (by rw [length_rowIv]; omega),
        List.eq_nil_of_length_eq_zero (l := segRows W lo hi (y + 1) n) (by omega)]
      rfl

instance : Std.Irrefl rasterLt := ⟨fun p h => by unfold rasterLt at h; omega⟩
instance : Std.Antisymm rasterLt := ⟨fun p q h1 h2 => by unfold rasterLt at h1 h2; omega⟩

/-- A raster-ordered list holding exactly the SBs of the rows `[ylo, yhi)` of the band `[lo, hi)` is
    the run of band rows from its first SB on, and that first SB is the leftmost of its row. -/
theorem eq_segRows_of_head {W ylo yhi lo hi xs ys : Nat} {F : List (Nat × Nat)}
    (hpw : F.Pairwise rasterLt)
    (hmem : ∀ p : Nat × Nat, p ∈ F ↔
      p.1 < W ∧ ylo ≤ p.2 ∧ p.2 < yhi ∧ lo ≤ p.1 + p.2 ∧ p.1 + p.2 < hi)
    (hhead : F.head? = some (xs, ys)) :
    xs = lo - ys ∧ ys < yhi ∧ F = segRows W lo hi ys (yhi - ys) := by
  obtain ⟨rest, hF⟩ := List.head?_eq_some_iff.1 hhead
  have h0 := (hmem (xs, ys)).1 (by rw [hF]; exact List.mem_cons_self)
  have hmin : ∀ p ∈ F, ys ≤ p.2 ∧ (p.2 = ys → xs ≤ p.1) := by
    intro p hp
    rw [hF] at hp hpw
    rcases List.mem_cons.1 hp with rfl | hp
    · exact ⟨Nat.le_refl _, fun _ => Nat.le_refl _⟩
    · have := (List.pairwise_cons.1 hpw).1 p hp
      unfold rasterLt at this
      omega
  have hx := (hmin (lo - ys, ys) ((hmem _).2 (by omega))).2 rfl
  refine ⟨by omega, by omega, hpw.eq_of_mem_iff (pairwise_segRows _ _ _ _ _) fun p => ?_⟩
  rw [mem_segRows, hmem]
  constructor
  · intro h
    have := (hmin p ((hmem p).2 h)).1
    omega
  · intro h; omega

/-- **The segment SB loop emits exactly the SBs of the segment**: for a raster-ordered list `F` holding
    the SBs of rows `[ylo, yhi)` of the band `[lo, hi)`, the loop started at the first SB of `F` (`0xFFFF`
    markers if there is none) with `valid_sb_count = F.length` emits `F` and stops. -/
theorem sbOuter_segment {W ylo yhi lo hi : Nat} {F : List (Nat × Nat)}
    (hpw : F.Pairwise rasterLt)
    (hmem : ∀ p : Nat × Nat, p ∈ F ↔
      p.1 < W ∧ ylo ≤ p.2 ∧ p.2 < yhi ∧ lo ≤ p.1 + p.2 ∧ p.1 + p.2 < hi)
    (fuel i0 : Nat) (hf : yhi < fuel) (hy : W + yhi < 4294967296) (hE : i0 + F.length < 4294967296) :
    sbOuter W hi (i0 + F.length) fuel ((F.head?.map (·.2)).getD 65535) ((F.head?.map (·.1)).getD 65535)
      i0 [] = (F.reverse, false) := by
  cases hh : F.head? with
  | none =>
    obtain ⟨fuel, rfl⟩ : ∃ f, fuel = f + 1 := ⟨fuel - 1, by omega⟩
    rw [List.head?_eq_none_iff.1 hh, List.length_nil, Nat.add_zero, sbOuter, if_neg (Nat.lt_irrefl _)]
    rfl
  | some p0 =>
    obtain ⟨hx, hys, hF⟩ := eq_segRows_of_head hpw hmem hh
    rw [Option.map_some, Option.map_some, Option.getD_some, Option.getD_some, hx,
      sbOuter_run W lo hi _ hE (yhi - p0.2) fuel p0.2 i0 [] (by omega) (by omega) (by rw [← hF]),
      ← hF, List.append_nil]

def cdiv (a d : Nat) : Nat := (a + d - 1) / d

theorem cdiv_le_iff {d : Nat} (hd : 0 < d) (a n : Nat) : cdiv a d ≤ n ↔ a ≤ n * d := by
  unfold cdiv
  rw [← Nat.lt_succ_iff, Nat.div_lt_iff_lt_mul hd, Nat.succ_mul]
  omega

theorem lt_cdiv_iff {d : Nat} (hd : 0 < d) (a n : Nat) : n < cdiv a d ↔ n * d < a := by
  have := cdiv_le_iff hd a n
  omega

theorem mulDiv_eq_iff {d t : Nat} (hd : 0 < d) (ht : 0 < t) (n q : Nat) :
    n * d / t = q ↔ cdiv (q * t) d ≤ n ∧ n < cdiv ((q + 1) * t) d := by
  rw [cdiv_le_iff hd, lt_cdiv_iff hd]
  have h1 := Nat.le_div_iff_mul_le ht (x := q) (y := n * d)
  have h2 := Nat.div_lt_iff_lt_mul ht (x := n * d) (y := q + 1)
  omega

theorem segIndex_eq_iff {B row band s : Nat} (hband : band < B) :
    row * B + band = s ↔ row = s / B ∧ band = s % B := by
  have hB : 0 < B := by omega
  have := Nat.div_mod_unique (b := B) (a := s) (d := row) (c := band) hB
  rw [Nat.mul_comm B row, Nat.add_comm band] at this
  constructor
  · intro h; have := this.2 ⟨h, hband⟩; omega
  · rintro ⟨h1, h2⟩; exact (this.1 ⟨h1.symm, h2.symm⟩).1

/-- **Geometry of a segment.**  SB `(x, y)` of the picture belongs to segment `s = r*B + b` iff
    `y` is in the SB-row interval of segment row `r` and `x + y` is in the diagonal interval of band `b`. -/
theorem sbSeg_eq_iff {B T r2 H x y s : Nat} (hH : 0 < H) (hT : 0 < T) (hr20 : 0 < r2) (hB0 : 0 < B)
    (hy : y < H) (hxy : x + y < T) (hr2 : r2 ≤ 4096) (hH' : H ≤ 4096) (hT' : T ≤ 8192) (hB : B ≤ 8192)
    (httl : r2 * B < 65536) :
    sbSeg B T r2 H (x, y) = s ↔
      cdiv (s / B * H) r2 ≤ y ∧ y < cdiv ((s / B + 1) * H) r2 ∧
      cdiv (s % B * T) B ≤ x + y ∧ x + y < cdiv ((s % B + 1) * T) B := by
  rw [sbSeg_closed hr20 hB0 hy hxy hr2 hH' hT' (Nat.lt_of_le_of_lt hB (by decide)) httl, segIndex_eq_iff (bandOf_lt hB0 hxy),
    rowOf, bandOf, mulDiv_eq_iff hr20 hH, mulDiv_eq_iff hB0 hT, and_assoc]

theorem segSbs_def (g : SegCtl) (W seg : Nat) :
    segSbs g W seg =
      let xs := aget g.xStart seg
      let ys := aget g.yStart seg
      let sbStart := u32 (u32 (ys * W) + xs)
      let cnt := aget g.validSb seg
      let rowIdx := seg / g.segBandCount
      let bandIdx := sub32 seg (u32 (rowIdx * g.segBandCount))
      let bandSize := u32 (u32 (u32 (g.sbBandCount * u32 (bandIdx + 1)) + g.segBandCount) + 4294967295) / g.segBandCount
      let res := sbOuter W bandSize (u32 (sbStart + cnt)) (g.sbRowCount + 2) ys xs sbStart []
      (res.1.reverse, res.2) := by
  unfold segSbs
  rfl

/-- `segment_band_size` (line 4413) is `ceil (T * (b+1) / B)` with `b = seg % B`. -/
theorem bandSize_eq {B T s : Nat} (hB0 : 0 < B) (hB : B ≤ 8192) (hT : T ≤ 8192) (hs : s < 65536) :
    u32 (u32 (u32 (T * u32 (sub32 s (u32 (s / B * B)) + 1)) + B) + 4294967295) / B
      = cdiv ((s % B + 1) * T) B := by
  have h1 : s / B * B ≤ s := Nat.div_mul_le_self s B
  have h2 : s - s / B * B = s % B := by rw [Nat.mul_comm]; exact (Nat.mod_def s B).symm
  have h3 : s % B < B := Nat.mod_lt _ hB0
  have h4 : T * (s % B + 1) ≤ 8192 * 8192 := Nat.mul_le_mul hT (by omega)
  rw [u32_small (n := s / B * B) (by omega), sub32_of_le h1 (by omega), h2,
    u32_small (n := s % B + 1) (by omega), u32_small (n := T * (s % B + 1)) (by omega),
    u32_small (n := T * (s % B + 1) + B) (by omega),
    show u32 (T * (s % B + 1) + B + 4294967295) = T * (s % B + 1) + B - 1 by unfold u32; omega,
    Nat.mul_comm T]
  rfl

/-- Assembling `segSbs` from its tables: the loop output for segment `s` is the raster-ordered list
    of SBs whose segment index is `s`, provided the three table entries are what `init` is meant to store. -/
theorem segSbs_of_tables (g : SegCtl) (W s : Nat)
    (hW1 : 1 ≤ W) (hW : W ≤ 4096) (hH1 : 1 ≤ g.sbRowCount) (hH : g.sbRowCount ≤ 4096)
    (hT : g.sbBandCount = g.sbRowCount + W - 1)
    (hB0 : 0 < g.segBandCount) (hB : g.segBandCount ≤ 8192)
    (hr20 : 0 < g.segRowCount) (hr2 : g.segRowCount ≤ g.sbRowCount)
    (httl : g.segRowCount * g.segBandCount < 65536) (hs : s < g.segRowCount * g.segBandCount)
    (hWH : W * g.sbRowCount < 65536)
    (hx : aget g.xStart s
      = ((((allSbs W g.sbRowCount).filter (fun p => segOf g p = s)).head?).map (·.1)).getD 65535)
    (hy : aget g.yStart s
      = ((((allSbs W g.sbRowCount).filter (fun p => segOf g p = s)).head?).map (·.2)).getD 65535)
    (hc : aget g.validSb s = ((allSbs W g.sbRowCount).filter (fun p => segOf g p = s)).length) :
    segSbs g W s = ((allSbs W g.sbRowCount).filter (fun p => segOf g p = s), false) := by
  have hyhi : cdiv ((s / g.segBandCount + 1) * g.sbRowCount) g.segRowCount ≤ g.sbRowCount := by
    rw [cdiv_le_iff hr20, Nat.mul_comm g.sbRowCount]
    exact Nat.mul_le_mul_right _ ((Nat.div_lt_iff_lt_mul hB0).2 hs)
  have hmem : ∀ p : Nat × Nat, p ∈ (allSbs W g.sbRowCount).filter (fun p => segOf g p = s) ↔
      p.1 < W ∧ cdiv (s / g.segBandCount * g.sbRowCount) g.segRowCount ≤ p.2 ∧
      p.2 < cdiv ((s / g.segBandCount + 1) * g.sbRowCount) g.segRowCount ∧
      cdiv (s % g.segBandCount * g.sbBandCount) g.segBandCount ≤ p.1 + p.2 ∧
      p.1 + p.2 < cdiv ((s % g.segBandCount + 1) * g.sbBandCount) g.segBandCount := by
    intro p
    have hgeo : p.1 < W → p.2 < g.sbRowCount → (segOf g p = s ↔ _) := fun h1 h2 =>
      sbSeg_eq_iff (s := s) (by omega) (by omega) hr20 hB0 h2 (by omega) (by omega) hH (by omega) hB httl
    rw [List.mem_filter, mem_allSbs, decide_eq_true_eq]
    constructor
    · rintro ⟨⟨h1, h2⟩, h⟩; exact ⟨h1, (hgeo h1 h2).1 h⟩
    · rintro ⟨h1, h⟩; exact ⟨⟨h1, by omega⟩, (hgeo h1 (by omega)).2 h⟩
  have hpw := (pairwise_allSbs W g.sbRowCount).filter (fun p => decide (segOf g p = s))
  have hlen : ((allSbs W g.sbRowCount).filter (fun p => segOf g p = s)).length ≤ W * g.sbRowCount :=
    (List.length_filter_le _ _).trans (length_allSbs _ _).le
  rw [segSbs_def]
  simp only []
  rw [hx, hy, hc]
  generalize (allSbs W g.sbRowCount).filter (fun p => segOf g p = s) = F at *
  -- both start entries are `uint16_t` values (a coordinate of the picture or the marker)
  have hxs : ((F.head?).map (·.1)).getD 65535 ≤ 65535 := by
    cases hh : F.head? with
    | none => exact Nat.le_refl _
    | some p => have := ((hmem p).1 (List.mem_of_mem_head? hh)).1; simp only [Option.map_some, Option.getD_some]; omega
  have hys : ((F.head?).map (·.2)).getD 65535 ≤ 65535 := by
    cases hh : F.head? with
    | none => exact Nat.le_refl _
    | some p => have := ((hmem p).1 (List.mem_of_mem_head? hh)).2.2.1; simp only [Option.map_some, Option.getD_some]; omega
  have e1 := Nat.mul_le_mul hys hW
  rw [bandSize_eq hB0 hB (by omega) (by omega), u32_small (n := _ * W) (by omega),
    u32_small (n := _ * W + _) (by omega), u32_small (n := _ * W + _ + _) (by omega),
    sbOuter_segment hpw hmem _ _ (by omega) (by omega) (by omega), List.reverse_reverse]

/-- Grouping a list by a key with values `< n` and concatenating the groups is a permutation. -/
theorem perm_flatMap_filter {α : Type} (l : List α) (f : α → Nat) (n : Nat) (h : ∀ p ∈ l, f p < n) :
    ((List.range n).flatMap fun s => l.filter (fun p => f p = s)).Perm l := by
  suffices hn : ∀ n, ((List.range n).flatMap fun s => l.filter (fun p => f p = s)).Perm
      (l.filter (fun p => f p < n)) by
    have := hn n
    rwa [List.filter_eq_self.2 (by intro p hp; simpa using h p hp)] at this
  intro n
  induction n with
  | zero => simp
  | succ n ih =>
    -- the keys `< n + 1` split into the keys `< n` and the key `n`
    have hsplit := List.filter_append_perm (fun p => decide (f p < n)) (l.filter (fun p => f p < n + 1))
    rw [List.filter_filter, List.filter_filter] at hsplit
    have e1 : l.filter (fun a => decide (f a < n) && decide (f a < n + 1)) = l.filter (fun p => f p < n) :=
      List.filter_congr fun p _ => by
        rw [← Bool.decide_and, decide_eq_decide]; omega
    have e2 : l.filter (fun a => (!decide (f a < n)) && decide (f a < n + 1)) = l.filter (fun p => f p = n) :=
      List.filter_congr fun p _ => by
        rw [← decide_not, ← Bool.decide_and, decide_eq_decide]; omega
    rw [e1, e2] at hsplit
    rw [List.range_succ, List.flatMap_append, List.flatMap_singleton]
    exact (List.Perm.append_right _ ih).trans hsplit

section
variable {W H C R MC MR : Nat}

theorem initSeg_scalars (hW1 : 1 ≤ W) (hW : W ≤ 4096) (hH1 : 1 ≤ H) (hH : H ≤ 4096)
    (hC : 1 ≤ C) (hR : 1 ≤ R) (hMR : 1 ≤ MR) :
    let g := initSeg W H C R MC MR
    g.sbBandCount = H + W - 1 ∧ 0 < g.segRowCount ∧ g.segRowCount ≤ H ∧
      0 < g.segBandCount ∧ g.segBandCount ≤ 8192 := by
  intro g
  have hE1 := effR_pos (W := W) hH1 hR hMR
  have hE2 := effR_le_H (W := W) (R := R) (MR := MR) hH1
  have h1 : g.segRowCount = effR W H R MR := initSeg_segRowCount_min W H C R MC MR
  have h2 : g.segBandCount = effR W H R MR + min C W - 1 := initSeg_segBandCount_closed hW1 hW hH hC MC
  refine ⟨initSeg_sbBandCount_closed hW1 hW hH MC, ?_, ?_, ?_, ?_⟩ <;> omega

theorem initSeg_segTtlCount_mul
    (hN : (initSeg W H C R MC MR).segRowCount * (initSeg W H C R MC MR).segBandCount < 65536) :
    (initSeg W H C R MC MR).segTtlCount
      = (initSeg W H C R MC MR).segRowCount * (initSeg W H C R MC MR).segBandCount := by
  rw [initSeg_segTtlCount, u32_small (by omega)]

/-- **C24 seg_cover, per segment.**  For the tables built by `enc_dec_segments_init`, the SB loop of
    `mode_decision_kernel` run on segment `s` visits exactly the SBs whose segment index is `s`,
    in raster order, and terminates (no runaway `y`). -/
theorem segSbs_initSeg (hW1 : 1 ≤ W) (hW : W ≤ 4096) (hH1 : 1 ≤ H) (hH : H ≤ 4096)
    (hC : 1 ≤ C) (hR : 1 ≤ R) (hMR : 1 ≤ MR)
    (hN : (initSeg W H C R MC MR).segRowCount * (initSeg W H C R MC MR).segBandCount < 65536)
    (hWH : W * H < 65536) {s : Nat} (hs : s < (initSeg W H C R MC MR).segTtlCount) :
    segSbs (initSeg W H C R MC MR) W s
      = ((allSbs W H).filter (fun p => segOf (initSeg W H C R MC MR) p = s), false) := by
  obtain ⟨g2, g3, g4, g5, g6⟩ := initSeg_scalars (MC := MC) hW1 hW hH1 hH hC hR hMR
  have hlen : ((allSbs W H).filter (fun p => segOf (initSeg W H C R MC MR) p = s)).length ≤ W * H :=
    (List.length_filter_le _ _).trans (length_allSbs _ _).le
  exact segSbs_of_tables (initSeg W H C R MC MR) W s hW1 hW hH1 hH g2 g5 g6 g3 g4 hN
    (by rw [← initSeg_segTtlCount_mul hN]; exact hs) hWH
    (by rw [List.head?_filter]; exact initSeg_xStart W H C R MC MR s (by omega) hs)
    (by rw [List.head?_filter]; exact initSeg_yStart W H C R MC MR s (by omega) hs)
    (by rw [initSeg_validSb W H C R MC MR s hs, List.countP_eq_length_filter]; exact u16_small (by omega))

theorem segOf_initSeg_lt (hW1 : 1 ≤ W) (hW : W ≤ 4096) (hH1 : 1 ≤ H) (hH : H ≤ 4096)
    (hC : 1 ≤ C) (hR : 1 ≤ R) (hMR : 1 ≤ MR)
    (hN : (initSeg W H C R MC MR).segRowCount * (initSeg W H C R MC MR).segBandCount < 65536)
    {p : Nat × Nat} (hp : p ∈ allSbs W H) :
    segOf (initSeg W H C R MC MR) p < (initSeg W H C R MC MR).segTtlCount := by
  obtain ⟨g2, g3, g4, g5, g6⟩ := initSeg_scalars (MC := MC) hW1 hW hH1 hH hC hR hMR
  obtain ⟨hx, hy⟩ := (mem_allSbs W H p).1 hp
  have hxy : p.1 + p.2 < (initSeg W H C R MC MR).sbBandCount := by omega
  rw [initSeg_segTtlCount_mul hN]
  show sbSeg _ _ _ H (p.1, p.2) < _
  rw [sbSeg_closed g3 g5 hy hxy (by omega) hH (by omega) (Nat.lt_of_le_of_lt g6 (by decide)) hN]
  exact row_band_lt (rowOf_lt g3 hy) (bandOf_lt g5 hxy)

/-- **C24 seg_cover.**  Running the SB loop over all segments visits every SB of the picture exactly once. -/
theorem seg_cover (hW1 : 1 ≤ W) (hW : W ≤ 4096) (hH1 : 1 ≤ H) (hH : H ≤ 4096)
    (hC : 1 ≤ C) (hR : 1 ≤ R) (hMR : 1 ≤ MR)
    (hN : (initSeg W H C R MC MR).segRowCount * (initSeg W H C R MC MR).segBandCount < 65536)
    (hWH : W * H < 65536) :
    ((List.range (initSeg W H C R MC MR).segTtlCount).flatMap
        fun s => (segSbs (initSeg W H C R MC MR) W s).1).Perm (allSbs W H) := by
  have e : (List.range (initSeg W H C R MC MR).segTtlCount).flatMap
        (fun s => (segSbs (initSeg W H C R MC MR) W s).1)
      = (List.range (initSeg W H C R MC MR).segTtlCount).flatMap
        (fun s => (allSbs W H).filter (fun p => segOf (initSeg W H C R MC MR) p = s)) := by
    apply List.flatMap_congr
    intro s hs
    rw [segSbs_initSeg hW1 hW hH1 hH hC hR hMR hN hWH (List.mem_range.1 hs)]
  rw [e]
  exact perm_flatMap_filter _ _ _ (fun p hp => segOf_initSeg_lt hW1 hW hH1 hH hC hR hMR hN hp)

theorem seg_no_runaway (hW1 : 1 ≤ W) (hW : W ≤ 4096) (hH1 : 1 ≤ H) (hH : H ≤ 4096)
    (hC : 1 ≤ C) (hR : 1 ≤ R) (hMR : 1 ≤ MR)
    (hN : (initSeg W H C R MC MR).segRowCount * (initSeg W H C R MC MR).segBandCount < 65536)
    (hWH : W * H < 65536) {s : Nat} (hs : s < (initSeg W H C R MC MR).segTtlCount) :
    (segSbs (initSeg W H C R MC MR) W s).2 = false := by
  rw [segSbs_initSeg hW1 hW hH1 hH hC hR hMR hN hWH hs]

end

end Seg
