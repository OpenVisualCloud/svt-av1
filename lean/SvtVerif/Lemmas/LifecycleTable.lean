/-
  The facts about the generated class table `Lifecycle.table` that C15 and C16 share: which classes fail an
  obligation, and `goodClasses` / `reportingClasses` of the table in terms of the translator's lists and the `news` edges.
-/
import SvtVerif.Lemmas.Unwind
import SvtVerif.Gen.Lifecycle

namespace Unwind

/-- `refine` that stops at the first pruning step that removes nothing -/
def prune (T : Table) : Nat → List Nat → List Nat
  | 0, S => S
  | n + 1, S =>
    let S' := S.filter (fun c => (T.cls c).news.all (fun d => S.contains d))
    if S'.length == S.length then S else prune T n S'

theorem prune_eq_refine {T : Table} : ∀ (n : Nat) (S : List Nat), prune T n S = refine T n S
  | 0, _ => rfl
  | n + 1, S => by
    rw [prune, refine]
    split
    · next h =>
      have h := List.length_filter_eq_length_iff.mp (beq_iff_eq.mp h)
      rw [List.filter_eq_self.mpr h, refine_fixed h]
    · exact prune_eq_refine n _

theorem contains_filter_range {n c : Nat} (p : Nat → Bool) (hc : c ∈ List.range n) :
    ((List.range n).filter p).contains c = p c := by
  rw [Bool.eq_iff_iff, List.contains_iff_mem, List.mem_filter]
  exact and_iff_right hc

end Unwind

namespace Lifecycle
open Unwind

theorem bad_eq : (List.range table.length).filter (fun c => !(table.cls c).good) = expectedBad := by
  decide +kernel

theorem swallowers_eq :
    (List.range table.length).filter (fun c => (table.cls c).swallow != 0) = expectedSwallowers := by
  decide +kernel

theorem good_eq {c : Nat} (hc : c ∈ List.range table.length) : (table.cls c).good = !expectedBad.contains c := by
  rw [← bad_eq, contains_filter_range _ hc, Bool.not_not]

theorem swallow_eq {c : Nat} (hc : c ∈ List.range table.length) :
    ((table.cls c).swallow == 0) = !expectedSwallowers.contains c := by
  rw [← swallowers_eq, contains_filter_range _ hc, bne, Bool.not_not]

theorem goodClasses_eq : goodClasses table =
    prune table table.length ((List.range table.length).filter fun c => !expectedBad.contains c) := by
  rw [goodClasses, prune_eq_refine, List.filter_congr fun c hc => good_eq hc]

theorem reportingClasses_eq : reportingClasses table =
    prune table table.length ((List.range table.length).filter fun c =>
      !expectedBad.contains c && !expectedSwallowers.contains c) := by
  rw [reportingClasses, prune_eq_refine, List.filter_congr fun c hc => by rw [good_eq hc, swallow_eq hc]]

theorem kernels_shutdown :
    (∀ k ∈ kernels, k.getFullFirst = true ∧ k.input ∈ shutdownList) ∧
    (kernels.map (·.input)).Nodup ∧ ∀ r ∈ shutdownList, r ∈ kernels.map (·.input) := by
  decide +kernel

end Lifecycle
