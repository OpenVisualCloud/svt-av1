/-
  C07 part B — the kernels on a block `Blk`: closed forms of what the C and the AVX2 full-distortion kernels write, the
  exact difference between the two (proof bodies of the Props/C07b theorems), and the cbf_zero kernels as the prediction
  halves of the full ones.
-/
import SvtVerif.Lemmas.SimdDistTerms

namespace Simd

/-- the arguments of `svt_full_distortion_kernel32_bits(coeff, coeff_stride, recon_coeff, recon_coeff_stride, .., area_width,
    area_height)`: two int32 buffers with base element index and stride, and the area -/
structure Blk where
  coeff : Mem 32
  cp : Nat
  cs : Nat
  recon : Mem 32
  rp : Nat
  rs : Nat
  w : Nat
  h : Nat

namespace Blk
/-- `coeff[j * coeff_stride + i]` -/
def c (b : Blk) (j i : Nat) : BitVec 32 := b.coeff (b.cp + j * b.cs + i)
/-- `recon_coeff[j * recon_coeff_stride + i]` -/
def r (b : Blk) (j i : Nat) : BitVec 32 := b.recon (b.rp + j * b.rs + i)
def d (b : Blk) (j i : Nat) : Int := (b.c j i).toInt - (b.r j i).toInt
/-- the domain of the kernels: `area_width` a positive multiple of 4, `area_height ≥ 1` (both `uint32_t`) -/
def InDomain (b : Blk) : Prop := 0 < b.w ∧ b.w % 4 = 0 ∧ b.w < 2 ^ 32 ∧ 0 < b.h ∧ b.h < 2 ^ 32
def blockSum (b : Blk) (F : Nat → Nat → Nat) : Nat := sumN b.h fun j => sumN b.w fun i => F j i
/-- the columns `4 g + l` are the elements that go through qword lane `l` of the AVX2 accumulators -/
def laneSum (b : Blk) (l : Nat) (F : Nat → Nat → Nat) : Nat := sumN b.h fun j => sumN (b.w / 4) fun g => F j (4 * g + l)
def sq (b : Blk) (j i : Nat) : Nat := sqDiff (b.c j i) (b.r j i)
def sqLow (b : Blk) (j i : Nat) : Nat := sqDiffLow (b.c j i) (b.r j i)
def sqc (b : Blk) (j i : Nat) : Nat := sqCoef (b.c j i)
/-- final value of qword lane `l` of `sum1`: each dword is the sum of that dword of the products, mod 2^32 -/
def laneVal (b : Blk) (l : Nat) : Nat :=
  b.laneSum l (fun j i => b.sqLow j i % 2 ^ 32) % 2 ^ 32 + 2 ^ 32 * (b.laneSum l (fun j i => b.sqLow j i / 2 ^ 32) % 2 ^ 32)

def runC (b : Blk) : BitVec 64 × BitVec 64 := fullDist32_c b.coeff b.cp b.cs b.recon b.rp b.rs b.w b.h
def runAvx2 (b : Blk) : Option (BitVec 64 × BitVec 64) := fullDist32_avx2 b.coeff b.cp b.cs b.recon b.rp b.rs b.w b.h
def runZC (b : Blk) : BitVec 64 × BitVec 64 := fullDistCbfZero32_c b.coeff b.cp b.cs b.w b.h
def runZAvx2 (b : Blk) : Option (BitVec 64 × BitVec 64) := fullDistCbfZero32_avx2 b.coeff b.cp b.cs b.w b.h
end Blk

theorem sumN_mod_congr {n M : Nat} {f g : Nat → Nat} (h : ∀ i, i < n → f i % M = g i % M) :
    sumN n f % M = sumN n g % M := by
  induction n with
  | zero => rfl
  | succ n ih => rw [sumN, sumN, Nat.add_mod, ih fun i hi => h i (by omega), h n (by omega), ← Nat.add_mod]

theorem sumN_mod (n M : Nat) (f : Nat → Nat) : sumN n (fun i => f i % M) % M = sumN n f % M :=
  sumN_mod_congr fun _ _ => Nat.mod_mod _ _

theorem blockSum_lanes (b : Blk) (hw : b.w % 4 = 0) (F : Nat → Nat → Nat) :
    b.blockSum F = sumN 4 fun l => b.laneSum l F := by
  have hw' : b.w = 4 * (b.w / 4) := by omega
  simp only [Blk.blockSum, Blk.laneSum, sumN, Nat.zero_add, ← sumN_add]
  apply sumN_congr
  intro j _
  conv => lhs; rw [hw']
  rw [sumN_four]
  simp only [sumN_add, Nat.add_zero]

theorem laneSum_split (b : Blk) (l : Nat) (F : Nat → Nat → Nat) :
    b.laneSum l F = b.laneSum l (fun j i => F j i % 2 ^ 32) + 2 ^ 32 * b.laneSum l (fun j i => F j i / 2 ^ 32) := by
  simp only [Blk.laneSum, ← sumN_mul, ← sumN_add]
  apply sumN_congr; intro j _
  apply sumN_congr; intro g _
  omega

theorem laneSum_le (b : Blk) (l : Nat) (hl : l < 4) (hw : b.w % 4 = 0) {F G : Nat → Nat → Nat}
    (h : ∀ j i, j < b.h → i < b.w → F j i ≤ G j i) : b.laneSum l F ≤ b.laneSum l G := by
  simp only [Blk.laneSum]
  apply sumN_le; intro j hj
  apply sumN_le; intro g hg
  exact h j _ hj (by omega)

theorem laneSum_congr (b : Blk) (l : Nat) (hl : l < 4) (hw : b.w % 4 = 0) {F G : Nat → Nat → Nat}
    (h : ∀ j i, j < b.h → i < b.w → F j i = G j i) : b.laneSum l F = b.laneSum l G :=
  Nat.le_antisymm (laneSum_le b l hl hw fun j i hj hi => Nat.le_of_eq (h j i hj hi))
    (laneSum_le b l hl hw fun j i hj hi => Nat.le_of_eq (h j i hj hi).symm)

theorem laneSum_const (b : Blk) (l k : Nat) : b.laneSum l (fun _ _ => k) = b.h * (b.w / 4 * k) := by
  simp only [Blk.laneSum, sumN_const]

theorem le_laneSum (b : Blk) (hw : b.w % 4 = 0) (F : Nat → Nat → Nat) {j i : Nat} (hj : j < b.h) (hi : i < b.w) :
    F j i ≤ b.laneSum (i % 4) F := by
  have h1 : F j i ≤ sumN (b.w / 4) fun g => F j (4 * g + i % 4) := by
    have := le_sumN (fun g => F j (4 * g + i % 4)) (i := i / 4) (n := b.w / 4) (by omega)
    have e : 4 * (i / 4) + i % 4 = i := by omega
    simp only [e] at this
    exact this
  exact Nat.le_trans h1 (le_sumN (fun j => sumN (b.w / 4) fun g => F j (4 * g + i % 4)) hj)

theorem fd32cRow_eq (coeff recon : Mem 32) (w : Nat) (s : Fd32C) :
    fd32cRow coeff recon w s =
      { s with residual := foldN (· + ·) w (fun i => dsqC (coeff (s.coeff + i)) (recon (s.recon + i))) s.residual,
               prediction := foldN (· + ·) w (fun i => sqC (coeff (s.coeff + i))) s.prediction } := by
  induction w with
  | zero => rfl
  | succ w ih =>
    simp only [fd32cRow, List.range_succ, List.foldl_append, List.foldl_cons, List.foldl_nil] at ih ⊢
    rw [ih]; rfl

theorem fd32cRows_eq (coeff recon : Mem 32) (cs rs w h : Nat) (s : Fd32C) :
    fd32cRows coeff recon cs rs w h s =
      ⟨fold2 (· + ·) h w (fun j i => dsqC (coeff (s.coeff + j * cs + i)) (recon (s.recon + j * rs + i))) s.residual,
       fold2 (· + ·) h w (fun j i => sqC (coeff (s.coeff + j * cs + i))) s.prediction,
       s.coeff + h * cs, s.recon + h * rs⟩ := by
  induction h with
  | zero => simp only [Nat.zero_mul, Nat.add_zero]; rfl
  | succ h ih =>
    simp only [fd32cRows, List.range_succ, List.foldl_append, List.foldl_cons, List.foldl_nil] at ih ⊢
    rw [ih, fd32cRow_eq, Nat.add_one_mul, Nat.add_one_mul, ← Nat.add_assoc, ← Nat.add_assoc]
    rfl

theorem runC_toNat (b : Blk) :
    b.runC.1.toNat = b.blockSum b.sq % 2 ^ 64 ∧ b.runC.2.toNat = b.blockSum b.sqc % 2 ^ 64 := by
  have e : b.runC = ((fd32cRows b.coeff b.recon b.cs b.rs b.w b.h ⟨0, 0, b.cp, b.rp⟩).residual,
      (fd32cRows b.coeff b.recon b.cs b.rs b.w b.h ⟨0, 0, b.cp, b.rp⟩).prediction) := rfl
  rw [e, fd32cRows_eq]
  exact ⟨fold2_add_toNat _ _ _ b.sq fun j i => by rw [dsqC_toNat, Nat.mod_mod]; rfl,
    fold2_add_toNat _ _ _ b.sqc fun j i => by rw [sqC_toNat]; rfl⟩

theorem runAvx2_rows (b : Blk) :
    b.runAvx2 = (fd32vRows b.coeff b.recon b.cs b.rs b.w b.h (BitVec.ofNat 32 b.h) b.cp b.rp
        ⟨mm256_setzero_si256, mm256_setzero_si256⟩).map fun s =>
      let m := storeU64 (fun _ => 0) 0 (mm_unpacklo_epi64 (hsum s.sum1) (hsum s.sum2)) 2
      (m 0, m 1) := by
  simp only [Blk.runAvx2, fullDist32_avx2, fullDist32_avx2_mem, hsum]
  cases fd32vRows b.coeff b.recon b.cs b.rs b.w b.h (BitVec.ofNat 32 b.h) b.cp b.rp
      ⟨mm256_setzero_si256, mm256_setzero_si256⟩ <;> rfl

def accA (b : Blk) (l : Nat) : BitVec 64 :=
  fold2 add32x2 b.h (b.w / 4) (fun j g => prodV (b.c j (4 * g + l)) (b.r j (4 * g + l))) 0
def accB (b : Blk) (l : Nat) : BitVec 64 :=
  fold2 (· + ·) b.h (b.w / 4) (fun j g => sqV (b.c j (4 * g + l))) 0

theorem fd32vRows_run (b : Blk) (hd : b.InDomain) :
    fd32vRows b.coeff b.recon b.cs b.rs b.w b.h (BitVec.ofNat 32 b.h) b.cp b.rp
      ⟨mm256_setzero_si256, mm256_setzero_si256⟩ = some ⟨L4 fun l => accA b l, L4 fun l => accB b l⟩ := by
  obtain ⟨hw0, hw4, hwlt, hh0, hhlt⟩ := hd
  obtain ⟨n, hn⟩ : ∃ n, b.w / 4 = n + 1 := ⟨b.w / 4 - 1, by omega⟩
  obtain ⟨h', hh'⟩ : ∃ k, b.h = k + 1 := ⟨b.h - 1, by omega⟩
  rw [show mm256_setzero_si256 = L4 (fun _ => 0) by decide]
  conv => lhs; rw [hh']
  rw [fd32vRows_lanes b.coeff b.recon b.cs b.rs b.w n hn (by omega) h' b.cp b.rp _ _ (by omega)]
  simp only [accA, accB, hh', hn, Blk.c, Blk.r, Nat.add_assoc]

theorem runAvx2_eq (b : Blk) (hd : b.InDomain) :
    b.runAvx2 = some ((accA b 0 + accA b 2) + (accA b 1 + accA b 3), (accB b 0 + accB b 2) + (accB b 1 + accB b 3)) := by
  rw [runAvx2_rows, fd32vRows_run b hd]
  simp only [Option.map_some, L4, hsum_unlanes, unpacklo_unlanes, storeU64_pair]

theorem accA_toNat (b : Blk) (l : Nat) : (accA b l).toNat = b.laneVal l := by
  rw [accA, fold2_add32x2_toNat]
  simp only [prodV_toNat]
  rfl

theorem accB_toNat (b : Blk) (l : Nat) : (accB b l).toNat = b.laneSum l b.sqc % 2 ^ 64 :=
  fold2_add_toNat _ _ _ (fun j g => b.sqc j (4 * g + l)) fun j g => by rw [sqV_toNat]; rfl

theorem add4_toNat (f : Nat → BitVec 64) :
    ((f 0 + f 2) + (f 1 + f 3)).toNat = sumN 4 (fun l => (f l).toNat) % 2 ^ 64 := by
  simp only [BitVec.toNat_add, sumN]; omega

theorem runAvx2_toNat (b : Blk) (hd : b.InDomain) :
    ∃ r, b.runAvx2 = some r ∧
      r.1.toNat = sumN 4 b.laneVal % 2 ^ 64 ∧
      r.2.toNat = b.blockSum b.sqc % 2 ^ 64 := by
  refine ⟨_, runAvx2_eq b hd, ?_, ?_⟩
  · rw [add4_toNat (accA b)]; simp only [accA_toNat]
  · rw [add4_toNat (accB b)]; simp only [accB_toNat]; rw [sumN_mod, blockSum_lanes b hd.2.1]

theorem run_ofNat (b : Blk) (hd : b.InDomain) :
    b.runC = (BitVec.ofNat 64 (b.blockSum b.sq), BitVec.ofNat 64 (b.blockSum b.sqc)) ∧
    b.runAvx2 = some (BitVec.ofNat 64 (sumN 4 b.laneVal), BitVec.ofNat 64 (b.blockSum b.sqc)) := by
  obtain ⟨r, hr, h1, h2⟩ := runAvx2_toNat b hd
  exact ⟨Prod.ext (BitVec.eq_of_toNat_eq (runC_toNat b).1) (BitVec.eq_of_toNat_eq (runC_toNat b).2),
    hr.trans (congrArg some (Prod.ext (BitVec.eq_of_toNat_eq h1) (BitVec.eq_of_toNat_eq h2)))⟩

namespace Blk
/-- `coeff - recon` fits in int32 everywhere: then `_mm256_mul_epi32` squares the true difference -/
def SubFits (b : Blk) : Prop := ∀ j i, j < b.h → i < b.w → -2 ^ 31 ≤ b.d j i ∧ b.d j i < 2 ^ 31
def lo (b : Blk) (l : Nat) : Nat := b.laneSum l fun j i => b.sq j i % 2 ^ 32
def hi (b : Blk) (l : Nat) : Nat := b.laneSum l fun j i => b.sq j i / 2 ^ 32
/-- in no qword lane does the running 32-bit sum of the low dwords wrap -/
def NoLaneCarry (b : Blk) : Prop := ∀ l, l < 4 → b.lo l < 2 ^ 32
end Blk

theorem prediction_eq (b : Blk) (hd : b.InDomain) : ∃ r, b.runAvx2 = some r ∧ r.2 = b.runC.2 := by
  obtain ⟨r, h1, _, h3⟩ := runAvx2_toNat b hd
  exact ⟨r, h1, BitVec.eq_of_toNat_eq (by rw [h3, (runC_toNat b).2])⟩

theorem laneVal_of_fits (b : Blk) (hd : b.InDomain) (hs : b.SubFits) (l : Nat) (hl : l < 4) :
    b.laneVal l = b.lo l % 2 ^ 32 + 2 ^ 32 * (b.hi l % 2 ^ 32) := by
  have e : ∀ j i, j < b.h → i < b.w → b.sqLow j i = b.sq j i := fun j i hj hi =>
    sqDiffLow_eq_of_fits (hs j i hj hi).1 (hs j i hj hi).2
  rw [Blk.laneVal, Blk.lo, Blk.hi,
    laneSum_congr b l hl hd.2.1 (F := fun j i => b.sqLow j i % 2 ^ 32) (G := fun j i => b.sq j i % 2 ^ 32)
      (fun j i hj hi => by simp only [e j i hj hi]),
    laneSum_congr b l hl hd.2.1 (F := fun j i => b.sqLow j i / 2 ^ 32) (G := fun j i => b.sq j i / 2 ^ 32)
      (fun j i hj hi => by simp only [e j i hj hi])]

/-- adding back the carries `lo l / 2^32` that the low counters dropped gives the true sum, modulo 2^64 -/
theorem carry_sum (n : Nat) (lo hi : Nat → Nat) :
    (sumN n (fun l => lo l % 2 ^ 32 + 2 ^ 32 * (hi l % 2 ^ 32)) + 2 ^ 32 * sumN n (fun l => lo l / 2 ^ 32)) % 2 ^ 64
      = sumN n (fun l => lo l + 2 ^ 32 * hi l) % 2 ^ 64 := by
  rw [← sumN_mul, ← sumN_add]
  exact sumN_mod_congr fun l _ => by omega

/-- the AVX2 residual falls short of the C one by 2^32 for every carry out of the low dword of a lane accumulator -/
theorem residual_defect (b : Blk) (hd : b.InDomain) (hs : b.SubFits) :
    ∃ r, b.runAvx2 = some r ∧ r.2 = b.runC.2 ∧
      (r.1.toNat + 2 ^ 32 * sumN 4 fun l => b.lo l / 2 ^ 32) % 2 ^ 64 = b.runC.1.toNat := by
  obtain ⟨r, h1, h2, h3⟩ := runAvx2_toNat b hd
  refine ⟨r, h1, BitVec.eq_of_toNat_eq (h3.trans (runC_toNat b).2.symm), ?_⟩
  rw [h2, (runC_toNat b).1, blockSum_lanes b hd.2.1, Nat.mod_add_mod,
    sumN_congr fun l hl => laneVal_of_fits b hd hs l hl]
  exact (carry_sum 4 b.lo b.hi).trans (congrArg (· % 2 ^ 64) (sumN_congr fun l _ => (laneSum_split b l b.sq).symm))

theorem eq_of_noCarry (b : Blk) (hd : b.InDomain) (hs : b.SubFits) (hc : b.NoLaneCarry) : b.runAvx2 = some b.runC := by
  obtain ⟨r, h1, h2, h3⟩ := residual_defect b hd hs
  rw [sumN_congr (g := fun _ => 0) fun l hl => Nat.div_eq_of_lt (hc l hl), sumN_const, Nat.mul_zero,
    Nat.add_zero, Nat.mod_eq_of_lt r.1.isLt] at h3
  rw [h1]
  exact congrArg some (Prod.ext (BitVec.eq_of_toNat_eq h3) h2)

theorem lo_le (b : Blk) (hd : b.InDomain) (l : Nat) (hl : l < 4) : b.lo l ≤ b.h * (b.w / 4) * (2 ^ 32 - 1) := by
  have := laneSum_le b l hl hd.2.1 (F := fun j i => b.sq j i % 2 ^ 32) (G := fun _ _ => 2 ^ 32 - 1)
    (fun j i _ _ => by omega)
  rw [laneSum_const, ← Nat.mul_assoc] at this
  exact this

theorem noCarry_of_eq (b : Blk) (hd : b.InDomain) (hs : b.SubFits) (hsize : b.h * (b.w / 4) ≤ 2 ^ 30)
    (he : b.runAvx2 = some b.runC) : b.NoLaneCarry := by
  obtain ⟨r, h1, _, h3⟩ := residual_defect b hd hs
  obtain rfl : r = b.runC := Option.some.inj (h1.symm.trans he)
  -- the lost carries sum to less than 2^32, so adding 2^32 times their sum changes a 64-bit value unless it is 0
  have hKL : 2 ^ 32 * sumN 4 (fun l => b.lo l / 2 ^ 32) ≤ sumN 4 b.lo := by
    rw [← sumN_mul]; exact sumN_le fun l _ => Nat.mul_div_le _ _
  have hL := sumN_le (g := fun _ => b.h * (b.w / 4) * (2 ^ 32 - 1)) fun l hl => lo_le b hd l hl
  rw [sumN_const] at hL
  have hK : sumN 4 (fun l => b.lo l / 2 ^ 32) = 0 := by omega
  intro l hl
  have := le_sumN (fun l => b.lo l / 2 ^ 32) hl
  omega

theorem subFits_of_laneSq (b : Blk) (hd : b.InDomain) (h : ∀ l, l < 4 → b.laneSum l b.sq < 2 ^ 32) : b.SubFits := by
  intro j i hj hi
  have h1 := le_laneSum b hd.2.1 b.sq hj hi
  have h2 := h (i % 4) (by omega)
  exact fits_of_sqDiff_lt (c := b.c j i) (r := b.r j i) (by simp only [Blk.sq] at h1; omega)

theorem eq_of_laneSq (b : Blk) (hd : b.InDomain) (h : ∀ l, l < 4 → b.laneSum l b.sq < 2 ^ 32) :
    b.runAvx2 = some b.runC := by
  refine eq_of_noCarry b hd (subFits_of_laneSq b hd h) ?_
  intro l hl
  have := laneSum_le b l hl hd.2.1 (F := fun j i => b.sq j i % 2 ^ 32) (G := b.sq) (fun j i _ _ => Nat.mod_le _ _)
  have := h l hl
  simp only [Blk.lo]
  omega

theorem eq_of_bound (b : Blk) (hd : b.InDomain) (D : Nat)
    (hD : ∀ j i, j < b.h → i < b.w → (b.d j i).natAbs ≤ D) (hN : b.h * (b.w / 4) * D ^ 2 < 2 ^ 32) :
    b.runAvx2 = some b.runC := by
  refine eq_of_laneSq b hd ?_
  intro l hl
  have := laneSum_le b l hl hd.2.1 (F := b.sq) (G := fun _ _ => D ^ 2)
    (fun j i hj hi => Nat.pow_le_pow_left (hD j i hj hi) 2)
  rw [laneSum_const, ← Nat.mul_assoc] at this
  omega

theorem fdzcRow_eq (coeff : Mem 32) (w : Nat) (s : FdzC) :
    fdzcRow coeff w s =
      { s with prediction := foldN (· + ·) w (fun i => sqC (coeff (s.coeff + i))) s.prediction } := by
  induction w with
  | zero => rfl
  | succ w ih =>
    simp only [fdzcRow, List.range_succ, List.foldl_append, List.foldl_cons, List.foldl_nil] at ih ⊢
    rw [ih]; rfl

theorem fdzcRows_eq (coeff : Mem 32) (cs w h : Nat) (s : FdzC) :
    fdzcRows coeff cs w h s =
      ⟨fold2 (· + ·) h w (fun j i => sqC (coeff (s.coeff + j * cs + i))) s.prediction, s.coeff + h * cs⟩ := by
  induction h with
  | zero => simp only [Nat.zero_mul, Nat.add_zero]; rfl
  | succ h ih =>
    simp only [fdzcRows, List.range_succ, List.foldl_append, List.foldl_cons, List.foldl_nil] at ih ⊢
    rw [ih, fdzcRow_eq, Nat.add_one_mul, ← Nat.add_assoc]
    rfl

theorem runZC_eq (b : Blk) : b.runZC = (b.runC.2, b.runC.2) := by
  have e1 : b.runZC = ((fdzcRows b.coeff b.cs b.w b.h ⟨0, b.cp⟩).prediction,
      (fdzcRows b.coeff b.cs b.w b.h ⟨0, b.cp⟩).prediction) := rfl
  have e2 : b.runC.2 = (fd32cRows b.coeff b.recon b.cs b.rs b.w b.h ⟨0, 0, b.cp, b.rp⟩).prediction := rfl
  rw [e1, e2, fdzcRows_eq, fd32cRows_eq]

theorem runZAvx2_rows (b : Blk) :
    b.runZAvx2 = (fd32vRows b.coeff b.recon b.cs b.rs b.w b.h (BitVec.ofNat 32 b.h) b.cp b.rp
        ⟨mm256_setzero_si256, mm256_setzero_si256⟩).map fun s =>
      let m := storeU64 (fun _ => 0) 0 (hsum s.sum2) 2
      (m 0, m 1) := by
  simp only [Blk.runZAvx2, fullDistCbfZero32_avx2, fullDistCbfZero32_avx2_mem, hsum]
  rw [fdzvRows_eq b.coeff b.recon b.cs b.rs b.w b.h _ b.cp b.rp ⟨mm256_setzero_si256, mm256_setzero_si256⟩]
  cases fd32vRows b.coeff b.recon b.cs b.rs b.w b.h (BitVec.ofNat 32 b.h) b.cp b.rp
      ⟨mm256_setzero_si256, mm256_setzero_si256⟩ <;> rfl

theorem runZAvx2_eq (b : Blk) (hd : b.InDomain) :
    b.runZAvx2 = some ((accB b 0 + accB b 2) + (accB b 1 + accB b 3), (accB b 1 + accB b 3) + (accB b 0 + accB b 2)) := by
  rw [runZAvx2_rows, fd32vRows_run b hd]
  simp only [Option.map_some, L4, hsum_unlanes, storeU64_pair]

theorem cbfZero_eq (b : Blk) (hd : b.InDomain) : b.runZAvx2 = some b.runZC := by
  obtain ⟨r, h1, h2⟩ := prediction_eq b hd
  rw [runAvx2_eq b hd] at h1
  obtain rfl := Option.some.inj h1
  rw [runZAvx2_eq b hd, runZC_eq]
  exact congrArg some (Prod.ext h2 ((BitVec.add_comm _ _).trans h2))

end Simd
