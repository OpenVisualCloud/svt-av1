/-
  For the generated model of load_default_buffer_configuration_settings (Gen/BufCfg.lean): C arithmetic as `+ * / %`
  with literal moduli, which `omega` decides; bounds that follow from the `if`/`MAX` shape of a value alone; the range
  of `set_parent_pcs`.
-/
import SvtVerif.Lemmas.CSem
import SvtVerif.Gen.BufCfg
namespace BufCfgLemmas
open CSem

theorem wrapU32_eq (x : Int) : wrapU 32 x = x % 4294967296 := rfl
theorem wrapU8_eq (x : Int) : wrapU 8 x = x % 256 := rfl
theorem wrapU64_eq (x : Int) : wrapU 64 x = x % 18446744073709551616 := rfl

theorem wrapS32_eq (x : Int) : wrapS 32 x = (x + 2147483648) % 4294967296 - 2147483648 := by
  unfold wrapS
  rw [BitVec.toInt_ofInt, Int.bmod_def]
  split <;> omega

theorem cdiv_ite (a b : Int) : cdiv a b = if 0 ≤ a then a / b else -((-a) / b) := by
  split
  · exact cdiv_of_nonneg ‹_›
  · rw [← cdiv_of_nonneg (by omega), cdiv, cdiv, Int.neg_tdiv, Int.neg_neg]

theorem shr_lit1 (a : Int) : shr a 1 = a / 2 := rfl
theorem shr_lit2 (a : Int) : shr a 2 = a / 4 := rfl
theorem shr_lit16 (a : Int) : shr a 16 = a / 65536 := rfl
/-- `x << 1` as clang prints it for a literal count -/
theorem shl_lit1 (a : Int) : a * 2 ^ (1 : Int).toNat = a * 2 := by simp

theorem shlRaw_range {a k : Int} (n : Nat) (ha : 0 ≤ a) (hk : 0 ≤ k ∧ k ≤ n) :
    a ≤ shlRaw a k ∧ shlRaw a k ≤ a * 2 ^ n := by
  unfold shlRaw
  have hj : min k.toNat 64 ≤ n := by omega
  generalize min k.toNat 64 = j at hj
  have h1 : (1 : Int) ≤ 2 ^ j := by
    have := Int.ofNat_le.mpr (Nat.one_le_two_pow (n := j))
    rwa [Int.natCast_pow] at this
  have h2 : (2 : Int) ^ j ≤ 2 ^ n := by
    have := Int.ofNat_le.mpr (Nat.pow_le_pow_right Nat.two_pos hj)
    rwa [Int.natCast_pow, Int.natCast_pow] at this
  have := Int.mul_le_mul_of_nonneg_left h1 ha
  exact ⟨by omega, Int.mul_le_mul_of_nonneg_left h2 ha⟩

/-- the C macros `MAX(a, b)` and `MIN(a, b)` as the translator prints them -/
abbrev cMAX (a b : Int) : Int := if decide (a > b) then a else b
abbrev cMIN (a b : Int) : Int := if decide (a < b) then a else b

/-! A conditional assignment is translated to an `if` between the two values.  Applied to a generated value, these
    lemmas pick out its sub-values by unification, so a proof names none of the numbered definitions. -/

section
variable {c : Prop} [Decidable c]

theorem le_ite {m a b : Int} (ha : m ≤ a) (hb : m ≤ b) : m ≤ if c then a else b := by
  split <;> assumption

theorem ite_range {lo hi a b : Int} (ha : lo ≤ a ∧ a ≤ hi) (hb : lo ≤ b ∧ b ≤ hi) :
    lo ≤ (if c then a else b) ∧ (if c then a else b) ≤ hi := by
  split <;> assumption

end

theorem le_cMAX (m x : Int) : m ≤ cMAX m x := by
  simp only [cMAX, decide_eq_true_eq]
  split <;> omega

/-- C operations to `+ * / %` with literal moduli, C division to floor division under an `if`, Boolean conditions to
    propositions: the form `omega` decides -/
macro "bufcfg_norm" : tactic =>
  `(tactic| simp only [wrapU32_eq, wrapU8_eq, wrapS32_eq, shr_lit1, shr_lit2, shr_lit16, shl_lit1, cdiv_ite, beq_iff_eq, bne_iff_ne,
      Bool.and_eq_true, decide_eq_true_eq])

open Gen.BufCfg in
/-- EbEncHandle.c:313-362 `set_parent_pcs`: between 3 (= (2 << 0) + 1) and 360 (= 3 * 120); in particular never -1. -/
theorem setParentPcs_range (fr hl cc res : Int) (hhl : 0 ≤ hl ∧ hl ≤ 5) (hfr : 0 ≤ fr ∧ fr < 4294967296) :
    3 ≤ setParentPcs fr hl cc res ∧ setParentPcs fr hl cc res ≤ 360 := by
  unfold setParentPcs
  rw [if_pos (by decide)]
  -- `ppcs` is MAX(min_ppcs_count, frame rate clamped to 24..120); the leaves of the decision tree on core count and
  -- resolution class are `min_ppcs_count` again (`keep`) and `ppcs` scaled by 1, 3/2, 2 and 3
  extract_lets fps minp fpsHi fpsClamped ppcs keep x1 x32 x2 x3
  have hminp : 3 ≤ minp ∧ minp ≤ 65 := by
    have hs := shlRaw_range (a := 2) 5 (by decide) hhl
    simp only [minp]; bufcfg_norm; omega
  have hppcs : 24 ≤ ppcs ∧ ppcs ≤ 120 := by
    simp only [ppcs, fpsClamped, fpsHi, fps]; bufcfg_norm; omega
  have hkeep : 3 ≤ keep ∧ keep ≤ 360 := ⟨hminp.1, Int.le_trans hminp.2 (by decide)⟩
  clear_value minp ppcs keep
  obtain ⟨h1, h32, h2, h3⟩ : (3 ≤ x1 ∧ x1 ≤ 360) ∧ (3 ≤ x32 ∧ x32 ≤ 360) ∧ (3 ≤ x2 ∧ x2 ≤ 360) ∧ (3 ≤ x3 ∧ x3 ≤ 360) := by
    simp only [x1, x32, x2, x3]; bufcfg_norm
    -- omega is incomplete on `(ppcs * 3 % 4294967296) / 2`: drop the `%` first, the products are in range
    simp (disch := omega) only [Int.emod_eq_of_lt]
    omega
  clear_value x1 x32 x2 x3
  have toInt {x : Int} (h : 3 ≤ x ∧ x ≤ 360) : 3 ≤ wrapS 32 x ∧ wrapS 32 x ≤ 360 := by
    bufcfg_norm; omega
  apply toInt
  repeat' apply ite_range
  all_goals assumption

end BufCfgLemmas
