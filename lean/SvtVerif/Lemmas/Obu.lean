/-
  LEB128 size and round trip, the OBU header byte, the OBU list round trip (C02).
-/
import SvtVerif.Model.Obu
import Mathlib.Tactic.Ring

namespace ObuLemmas
open Leb128 Obu

theorem and7f (x : Nat) : x &&& 0x7f = x % 128 := Nat.and_two_pow_sub_one_eq_mod x 7

theorem shr7 (x : Nat) : x >>> 7 = x / 128 := Nat.shiftRight_eq_div_pow x 7

theorem and80_lt (x : Nat) (h : x < 128) : x &&& 0x80 = 0 := by
  apply Nat.eq_of_testBit_eq
  intro i
  rw [Nat.testBit_and, Nat.zero_testBit]
  by_cases hi : i = 7
  · subst hi; rw [Nat.testBit_lt_two_pow h]; rfl
  · rw [show (0x80 : Nat) = 2 ^ 7 from rfl, Nat.testBit_two_pow_of_ne (Ne.symm hi), Bool.and_false]

theorem and80_ge (x : Nat) (h : x < 128) : (x + 128) &&& 0x80 ≠ 0 := by
  intro h0
  have h7 := congrArg (Nat.testBit · 7) h0
  simp only [Nat.testBit_and, Nat.zero_testBit] at h7
  rw [Nat.add_comm, show (128 : Nat) = 2 ^ 7 from rfl, Nat.testBit_two_pow_add_eq, Nat.testBit_lt_two_pow h] at h7
  exact absurd h7 (by decide)

theorem toUInt8_toNat (n : Nat) (h : n < 256) : n.toUInt8.toNat = n := by
  simp only [Nat.toUInt8, UInt8.toNat_ofNat']; omega

theorem or_shift (acc d shift : Nat) (h : acc < 2 ^ shift) : acc ||| (d <<< shift) = acc + d * 2 ^ shift := by
  rw [Nat.or_comm, ← Nat.shiftLeft_add_eq_or_of_lt h, Nat.shiftLeft_eq, Nat.add_comm]

theorem or80 (x : Nat) (h : x < 128) : x ||| 0x80 = x + 128 := or_shift x 1 7 h

theorem sizeGo_pos (fuel v : Nat) : 1 ≤ sizeGo fuel v := by
  cases fuel
  · exact Nat.le_refl _
  · unfold sizeGo; split <;> omega

/-- `hv`: the iteration bound of `sizeGo` is not reached -/
theorem sizeGo_le_iff (fuel : Nat) : ∀ v k : Nat, v < 128 ^ (fuel + 1) → 1 ≤ k → (sizeGo fuel v ≤ k ↔ v < 128 ^ k) := by
  induction fuel with
  | zero => intro v k hv hk; exact ⟨fun _ => Nat.lt_of_lt_of_le hv (Nat.pow_le_pow_right (by decide) hk), fun _ => hk⟩
  | succ fuel ih =>
    intro v k hv hk
    unfold sizeGo
    rw [shr7]
    by_cases h0 : v / 128 = 0
    · rw [if_pos h0]
      have h128 : v < 128 ^ 1 := (Nat.div_eq_zero_iff.1 h0).resolve_left (by decide)
      exact ⟨fun _ => Nat.lt_of_lt_of_le h128 (Nat.pow_le_pow_right (by decide) hk), fun _ => hk⟩
    · rw [if_neg h0]
      have hpos := sizeGo_pos fuel (v / 128)
      obtain ⟨k, rfl⟩ : ∃ k', k = k' + 1 := ⟨k - 1, by omega⟩
      rw [Nat.pow_succ, ← Nat.div_lt_iff_lt_mul (by decide)]
      cases k with
      | zero => exact ⟨fun h => by omega, fun h => by omega⟩
      | succ k =>
        rw [← ih (v / 128) (k + 1) (by rw [Nat.div_lt_iff_lt_mul (by decide), ← Nat.pow_succ]; exact hv) (by omega)]
        omega

theorem sizeInBytes_le_iff (v k : Nat) (hv : v < 2 ^ 64) (hk : 1 ≤ k) : sizeInBytes v ≤ k ↔ v < 128 ^ k :=
  sizeGo_le_iff 10 v k (Nat.lt_of_lt_of_le hv (by decide)) hk

theorem sizeInBytes_spec (v : Nat) (hv : v < 2 ^ 64) :
    v < 128 ^ sizeInBytes v ∧ (sizeInBytes v = 1 ∨ 128 ^ (sizeInBytes v - 1) ≤ v) := by
  have hpos : 1 ≤ sizeInBytes v := sizeGo_pos 10 v
  refine ⟨(sizeInBytes_le_iff v _ hv hpos).1 (Nat.le_refl _), ?_⟩
  by_cases h1 : sizeInBytes v = 1
  · exact Or.inl h1
  · exact Or.inr (Nat.le_of_not_lt fun h => by have := (sizeInBytes_le_iff v _ hv (by omega)).2 h; omega)

theorem sizeInBytes_le_8 (v : Nat) (hv : v < 2 ^ 56) : sizeInBytes v ≤ 8 :=
  (sizeInBytes_le_iff v 8 (Nat.lt_of_lt_of_le hv (by decide)) (by decide)).2 hv

theorem sizeInBytes_le_4 (v : Nat) (hv : v < 2 ^ 28) : sizeInBytes v ≤ 4 :=
  (sizeInBytes_le_iff v 4 (Nat.lt_of_lt_of_le hv (by decide)) (by decide)).2 hv

theorem encodeBytes_length (n v : Nat) : (encodeBytes n v).length = n := by
  induction n generalizing v with
  | zero => rfl
  | succ n ih => simp only [encodeBytes, List.length_cons, ih]

theorem encodeBytes_succ (n v : Nat) : encodeBytes (n + 1) v =
    (if v / 128 ≠ 0 then v % 128 + 128 else v % 128).toUInt8 :: encodeBytes n (v / 128) := by
  simp only [encodeBytes, shr7, and7f]
  split
  · rw [or80 _ (Nat.mod_lt v (by decide))]
  · rfl

theorem decodeGo_last (f shift acc m : Nat) (rest : List UInt8) (hm : m < 128) (hacc : acc < 2 ^ shift) :
    decodeGo (f + 1) shift acc (m.toUInt8 :: rest) = some (acc + m * 2 ^ shift, rest) := by
  simp only [decodeGo, toUInt8_toNat m (by omega), and80_lt m hm, if_true, and7f, Nat.mod_eq_of_lt hm,
    or_shift _ _ _ hacc]

theorem decodeGo_more (f shift acc m : Nat) (rest : List UInt8) (hm : m < 128) (hacc : acc < 2 ^ shift) :
    decodeGo (f + 1) shift acc ((m + 128).toUInt8 :: rest) = decodeGo f (shift + 7) (acc + m * 2 ^ shift) rest := by
  simp only [decodeGo, toUInt8_toNat (m + 128) (by omega), and80_ge m hm, if_false, and7f, Nat.add_mod_right,
    Nat.mod_eq_of_lt hm, or_shift _ _ _ hacc]

/-- a minimal-length encoding: `n + 1` bytes for `128 ^ n ≤ v < 128 ^ (n + 1)`, one byte below 128 -/
theorem decodeGo_encodeBytes : ∀ (n v f shift acc : Nat) (rest : List UInt8),
    v < 128 ^ (n + 1) → (n = 0 ∨ 128 ^ n ≤ v) → n < f → acc < 2 ^ shift →
    decodeGo f shift acc (encodeBytes (n + 1) v ++ rest) = some (acc + v * 2 ^ shift, rest) := by
  intro n
  induction n with
  | zero =>
    intro v f shift acc rest hv _ hf hacc
    obtain ⟨f, rfl⟩ : ∃ f', f = f' + 1 := ⟨f - 1, by omega⟩
    have hv : v < 128 := hv
    rw [encodeBytes_succ, if_neg (by omega), Nat.mod_eq_of_lt hv]
    exact decodeGo_last f shift acc v _ hv hacc
  | succ n ih =>
    intro v f shift acc rest hv hmin hf hacc
    obtain ⟨f, rfl⟩ : ∃ f', f = f' + 1 := ⟨f - 1, by omega⟩
    have hmin : 128 ^ n * 128 ≤ v := hmin.resolve_left (Nat.succ_ne_zero n)
    have hlo : 128 ^ n ≤ v / 128 := (Nat.le_div_iff_mul_le (by decide)).2 hmin
    have hhi : v / 128 < 128 ^ (n + 1) := (Nat.div_lt_iff_lt_mul (by decide)).2 hv
    have hm := Nat.mod_lt v (by decide : 0 < 128)
    have hpos : 0 < 128 ^ n := Nat.pow_pos (by decide)
    have hacc' : acc + v % 128 * 2 ^ shift < 2 ^ (shift + 7) := by
      have := Nat.mul_le_mul_right (2 ^ shift) (Nat.le_of_lt_succ hm)
      rw [Nat.pow_add]; omega
    rw [encodeBytes_succ, if_pos (by omega), List.cons_append, decodeGo_more f shift acc _ _ hm hacc,
      ih (v / 128) f (shift + 7) _ rest hhi (Or.inr hlo) (by omega) hacc', Nat.pow_add]
    congr 2
    calc acc + v % 128 * 2 ^ shift + v / 128 * (2 ^ shift * 2 ^ 7)
        = acc + (128 * (v / 128) + v % 128) * 2 ^ shift := by ring
      _ = acc + v * 2 ^ shift := by rw [Nat.div_add_mod]

/-- `h8`: the 8 iterations of `dec_get_bits_leb128` -/
theorem decode_encode (v : Nat) (rest : List UInt8) (hv : v < 2 ^ 64) (h8 : sizeInBytes v ≤ 8) :
    decode (encodeBytes (sizeInBytes v) v ++ rest) = some (v, rest) := by
  obtain ⟨hlt, hmin⟩ := sizeInBytes_spec v hv
  obtain ⟨n, hn⟩ : ∃ n, sizeInBytes v = n + 1 := ⟨sizeInBytes v - 1, by have := sizeGo_pos 10 v; unfold sizeInBytes; omega⟩
  rw [hn] at hlt hmin h8 ⊢
  have h := decodeGo_encodeBytes n v 8 0 0 rest hlt (hmin.imp Nat.succ.inj id) h8 (by decide)
  rw [Nat.zero_add, Nat.pow_zero, Nat.mul_one] at h
  exact h

theorem ulebEncode_eq (v a : Nat) (hv : v < 2 ^ 56) (ha : sizeInBytes v ≤ a) :
    ulebEncode v a = some (encodeBytes (sizeInBytes v) v) := by
  have h8 := sizeInBytes_le_8 v hv
  have hmax : ¬ v > kMaximumLeb128Value := Nat.not_lt.2 (Nat.le_of_lt_succ hv)
  unfold ulebEncode
  exact if_neg (by simp only [kMaximumLeb128Size]; omega)

theorem ulebEncode_none (v a : Nat) (ha : a < sizeInBytes v) : ulebEncode v a = none :=
  if_pos (Or.inr (Or.inr ha))

theorem readObuSize_of_decode {bs rest : List UInt8} {v : Nat} (h : decode bs = some (v, rest)) (hv : v < 2 ^ 32) :
    readObuSize bs = some (v, rest) := by
  unfold readObuSize
  rw [h]
  exact if_neg (Nat.not_lt.2 (Nat.le_of_lt_succ hv))

def hdrByte (t : Nat) (x : Bool) : UInt8 := ((t <<< 3) ||| (if x then 6 else 2)).toUInt8

/-- `write_obu_header` writes `hdrByte`; the shifts and masks are those of `read_obu_header` -/
theorem header_byte : ∀ t : Fin 16,
    writeObuHeader t.val 0 = [hdrByte t.val false] ∧ (writeObuHeader t.val 1).take 1 = [hdrByte t.val true] ∧
    ∀ x : Bool, (hdrByte t.val x).toNat >>> 7 = 0 ∧ ((hdrByte t.val x).toNat >>> 3) &&& 15 = t.val ∧
      ((hdrByte t.val x).toNat >>> 2) &&& 1 = (if x then 1 else 0) ∧
      ((hdrByte t.val x).toNat >>> 1) &&& 1 = 1 ∧ (hdrByte t.val x).toNat &&& 1 = 0 := by decide

theorem headerBytes_eq (o : Obu.Obu) (ht : o.obuType < 16) :
    headerBytes o = hdrByte o.obuType o.ext.isSome :: o.ext.toList := by
  obtain ⟨t, ext, payload⟩ := o
  obtain ⟨h0, h1, _⟩ := header_byte ⟨t, ht⟩
  cases ext with
  | none => simp only [headerBytes, h0]; rfl
  | some e => simp only [headerBytes, h1]; rfl

theorem validObuType_lt (t : Nat) (h : validObuType t = true) : t < 16 := by
  simp [validObuType] at h; omega

theorem wellFormed_of (o : Obu.Obu) (ht : validObuType o.obuType = true) (he : o.ext = none)
    (hl : o.payload.length < 2 ^ 28) : o.wellFormed = true := by
  simp only [Obu.wellFormed, ht, he, Bool.true_and, decide_eq_true_eq]; exact hl

theorem wellFormed_elim {o : Obu.Obu} (hw : o.wellFormed = true) :
    o.obuType < 16 ∧ validObuType o.obuType = true ∧ (∀ e, o.ext = some e → e.toNat &&& 7 = 0) ∧
      o.payload.length < 2 ^ 28 := by
  simp only [Obu.wellFormed, Bool.and_eq_true, decide_eq_true_eq] at hw
  refine ⟨validObuType_lt _ hw.1.1, hw.1.1, fun e he => ?_, hw.2⟩
  have h := hw.1.2
  rw [he] at h
  exact beq_iff_eq.1 h

theorem readObuSize_encode (n : Nat) (rest : List UInt8) (hn : n < 2 ^ 28) :
    readObuSize (encodeBytes (sizeInBytes n) n ++ rest) = some (n, rest) :=
  readObuSize_of_decode (decode_encode n rest (Nat.lt_of_lt_of_le hn (by decide))
    (Nat.le_trans (sizeInBytes_le_4 n hn) (by decide))) (Nat.lt_of_lt_of_le hn (by decide))

theorem parseObu1_serialize (o : Obu.Obu) (rest : List UInt8) (hw : o.wellFormed = true) :
    parseObu1 (serialize o ++ rest) = .ok (o, rest) := by
  obtain ⟨ht, hvt, hext, hlen⟩ := wellFormed_elim hw
  obtain ⟨t, ext, payload⟩ := o
  obtain ⟨f1, f2, f3, f4, f5⟩ := (header_byte ⟨t, ht⟩).2.2 ext.isSome
  have hsz := readObuSize_encode payload.length (payload ++ rest) hlen
  simp only [serialize, headerBytes_eq ⟨t, ext, payload⟩ ht, List.cons_append, List.append_assoc, parseObu1,
    f1, f2, f3, f4, f5, hvt,
    ne_eq, not_true_eq_false, if_false, Bool.not_true, Bool.false_eq_true]
  cases ext with
  | none => simp [hsz]
  | some e =>
    simp [hext e rfl, hsz]

theorem serialize_length_pos (o : Obu.Obu) : 1 ≤ (serialize o).length := by
  have := sizeGo_pos 10 o.payload.length
  simp only [serialize, List.length_append, encodeBytes_length, sizeInBytes]
  omega

theorem parseObusGo_serialize (os : List Obu.Obu) (hw : ∀ o ∈ os, o.wellFormed = true) :
    ∀ fuel, (os.flatMap serialize).length ≤ fuel → parseObusGo fuel (os.flatMap serialize) = .ok os := by
  induction os with
  | nil => intro fuel _; cases fuel <;> simp [parseObusGo]
  | cons o os ih =>
    intro fuel hf
    have hpos := serialize_length_pos o
    simp only [List.flatMap_cons, List.length_append] at hf ⊢
    obtain ⟨f', rfl⟩ : ∃ f', fuel = f' + 1 := ⟨fuel - 1, by omega⟩
    have hne : serialize o ++ os.flatMap serialize ≠ [] := by
      intro h; have := congrArg List.length h; simp only [List.length_append, List.length_nil] at this; omega
    have h1 := parseObu1_serialize o (os.flatMap serialize) (hw o (by simp))
    have h2 := ih (fun o' ho' => hw o' (by simp [ho'])) f' (by omega)
    cases hbs : serialize o ++ os.flatMap serialize with
    | nil => exact absurd hbs hne
    | cons b bs =>
      rw [hbs] at h1
      simp only [parseObusGo, h1, h2]

theorem parseObus_serialize (o : Obu.Obu) (hw : o.wellFormed = true) : parseObus (serialize o) = .ok [o] := by
  have h := parseObusGo_serialize [o] (fun o' ho' => List.mem_singleton.1 ho' ▸ hw) _ (Nat.le_refl _)
  rwa [List.flatMap_singleton] at h

end ObuLemmas
