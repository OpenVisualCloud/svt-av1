/-
  Range coder (C25): the concrete reader refines the abstract decoder.
-/
import SvtVerif.Lemmas.RangeCoder

namespace RangeCoder

def valBE : List Nat → Nat
  | [] => 0
  | b :: bs => b * 256 ^ bs.length + valBE bs

theorem valBE_lt : ∀ (bs : List Nat), (∀ x ∈ bs, x < 256) → valBE bs < 256 ^ bs.length
  | [], _ => Nat.one_pos
  | b :: bs, h => by
    have ih := valBE_lt bs (fun x hx => h x (List.mem_cons_of_mem _ hx))
    have := Nat.mul_le_mul_right (256 ^ bs.length) (Nat.le_of_lt_succ (h b List.mem_cons_self))
    rw [valBE, List.length_cons, Nat.pow_succ]; omega

theorem pow256 (n : Nat) : 256 ^ n = 2 ^ (8 * n) := by
  rw [show (256 : Nat) = 2 ^ 8 from rfl, ← Nat.pow_mul]

/-- the low `w` bits of `dif` are still ones (nothing has been read into them); the unread bytes `rest`, followed by `Z`
    zero bits, supply the rest of `D` -/
def Win (Z dif : Nat) (rest : List Nat) (D e w : Nat) : Prop :=
  2 ^ w ∣ dif + 1 ∧ D + 1 + valBE rest * 2 ^ Z = (dif + 1) * 2 ^ (e - 16) ∧
  (rest ≠ [] → e - 16 + w = 8 * rest.length + Z)

/-- the reader state `dc` mirrors the abstract decoder state `b`, for a stream padded with `Z` zero bits: the range
    facts, and `Win` on the fields of `dc` and `b` for some `w ≤ 16` (`decRel_iff`) -/
def DecRel (Z : Nat) (dc : Dec) (b : ADec) : Prop :=
  dc.rng = b.r ∧ 32768 ≤ b.r ∧ b.r < 65536 ∧ 16 ≤ b.e ∧ dc.dif < dc.rng * 65536 ∧ (∀ x ∈ dc.rest, x < 256) ∧
  ∃ w : Nat, w ≤ 16 ∧ 2 ^ w ∣ dc.dif + 1 ∧
    b.D + 1 + valBE dc.rest * 2 ^ Z = (dc.dif + 1) * 2 ^ (b.e - 16) ∧
    (dc.rest ≠ [] → dc.cnt = 16 - (w : Int) ∧ b.e - 16 + w = 8 * dc.rest.length + Z) ∧
    (dc.rest = [] → 0 ≤ dc.cnt ∧ dc.cnt ≤ 16384)

/-- between the shift of `od_ec_dec_normalize` and its conditional refill: up to 31 low bits unfilled, `cnt` may be negative -/
def PreRel (Z : Nat) (dc : Dec) (b : ADec) (w : Nat) : Prop :=
  dc.rng = b.r ∧ 32768 ≤ b.r ∧ b.r < 65536 ∧ 16 ≤ b.e ∧ dc.dif < dc.rng * 65536 ∧ (∀ x ∈ dc.rest, x < 256) ∧
  w ≤ 31 ∧ Win Z dc.dif dc.rest b.D b.e w ∧ (dc.rest ≠ [] → dc.cnt = 16 - (w : Int)) ∧
  (dc.rest = [] → -15 ≤ dc.cnt ∧ dc.cnt ≤ 16384)

theorem decRel_iff (Z : Nat) (dc : Dec) (b : ADec) :
    DecRel Z dc b ↔ ∃ w, w ≤ 16 ∧ PreRel Z dc b w ∧ (dc.rest = [] → 0 ≤ dc.cnt) :=
  ⟨fun ⟨p1, p2, p3, p4, p5, p6, w, p7, p8, p9, p10, p11⟩ =>
    ⟨w, p7, ⟨p1, p2, p3, p4, p5, p6, Nat.le_trans p7 (by decide), ⟨p8, p9, fun h => (p10 h).2⟩, fun h => (p10 h).1,
      fun h => ⟨Int.le_trans (by decide) (p11 h).1, (p11 h).2⟩⟩, fun h => (p11 h).1⟩,
   fun ⟨w, p7, ⟨p1, p2, p3, p4, p5, p6, _, ⟨p8, p9, q⟩, p10, p11⟩, p12⟩ =>
    ⟨p1, p2, p3, p4, p5, p6, w, p7, p8, p9, fun h => ⟨p10 h, q h⟩, fun h => ⟨p12 h, (p11 h).2⟩⟩⟩

theorem xor_of_allOnes {n b : Nat} (hb : b < 2 ^ n) : (2 ^ n - 1) ^^^ b = 2 ^ n - 1 - b := by
  apply Nat.eq_of_testBit_eq
  intro i
  rw [Nat.testBit_xor, Nat.testBit_two_pow_sub_one, show 2 ^ n - 1 - b = 2 ^ n - (b + 1) by omega,
    Nat.testBit_two_pow_sub_succ hb]
  by_cases hi : i < n
  · simp [hi]
  · have : b.testBit i = false := Nat.testBit_lt_two_pow (Nat.lt_of_lt_of_le hb (pow_le_of_le (by omega)))
    simp [hi, this]

/-- why `od_ec_dec_refill` may use `^=`: XOR into a run of one-bits subtracts -/
theorem xor_ones {x y k : Nat} (hy : y < 2 ^ k) (hd : 2 ^ k ∣ x + 1) : x ^^^ y = x - y := by
  obtain ⟨m, hm⟩ := hd
  have hm0 : m ≠ 0 := by rintro rfl; omega
  obtain ⟨q, rfl⟩ : ∃ q, m = q + 1 := ⟨m - 1, by omega⟩
  have hk := Nat.two_pow_pos k
  have hx : x = 2 ^ k * q + (2 ^ k - 1) := by rw [Nat.mul_succ] at hm; omega
  have h1 : (x ^^^ y) % 2 ^ k = 2 ^ k - 1 - y := by
    rw [Nat.xor_mod_two_pow, Nat.mod_eq_of_lt hy, hx, Nat.mul_add_mod, Nat.mod_eq_of_lt (by omega), xor_of_allOnes hy]
  have h2 : (x ^^^ y) / 2 ^ k = q := by
    rw [Nat.xor_div_two_pow, Nat.div_eq_of_lt hy, Nat.xor_zero, hx, Nat.mul_add_div hk,
      Nat.div_eq_of_lt (by omega), Nat.add_zero]
  have h3 := Nat.div_add_mod (x ^^^ y) (2 ^ k)
  rw [h1, h2] at h3
  omega

/-- the next byte goes into bits `w-8 .. w-1` of the window -/
theorem Win.consume {Z dif b D e w : Nat} {bs : List Nat} (h : Win Z dif (b :: bs) D e w) (hb : b < 256) (hw : 8 ≤ w) :
    b * 2 ^ (w - 8) ≤ dif ∧ Win Z (dif - b * 2 ^ (w - 8)) bs D e (w - 8) := by
  obtain ⟨⟨m, hm⟩, h2, h3⟩ := h
  have h3 : e - 16 + w = 8 * (bs.length + 1) + Z := h3 (List.cons_ne_nil _ _)
  have hE : 2 ^ (w - 8) * 2 ^ (e - 16) = 256 ^ bs.length * 2 ^ Z := by
    rw [pow256, ← Nat.pow_add, ← Nat.pow_add]; congr 1; omega
  rw [valBE, Nat.add_mul, Nat.mul_assoc b, ← hE, ← Nat.mul_assoc] at h2
  rw [← Nat.sub_add_cancel hw, Nat.pow_add] at hm
  have hm0 : 0 < m := Nat.pos_of_ne_zero (by rintro rfl; omega)
  -- the byte fits below the ones it is XOR-ed into: `b·P < 256·P ≤ dif + 1`, `P = 2^(w-8)`
  have hlt : b * 2 ^ (w - 8) < dif + 1 :=
    calc b * 2 ^ (w - 8) < 256 * 2 ^ (w - 8) := Nat.mul_lt_mul_of_pos_right hb (Nat.two_pow_pos _)
      _ = 2 ^ (w - 8) * 2 ^ 8 := Nat.mul_comm _ _
      _ ≤ 2 ^ (w - 8) * 2 ^ 8 * m := Nat.le_mul_of_pos_right _ hm0
      _ = dif + 1 := hm.symm
  have hsub : dif - b * 2 ^ (w - 8) + 1 = dif + 1 - b * 2 ^ (w - 8) := by omega
  refine ⟨Nat.le_of_lt_succ hlt, ?_, ?_, fun _ => by omega⟩
  · rw [hsub]
    exact Nat.dvd_sub ⟨2 ^ 8 * m, by rw [hm, Nat.mul_assoc]⟩ (Nat.dvd_mul_left _ _)
  · rw [hsub, Nat.sub_mul]; omega

/-- `od_ec_dec_normalize` after `v` is taken off the window value -/
theorem Win.shift {Z dif D e w : Nat} {rest : List Nat} (h : Win Z dif rest D e w) (v d : Nat) (hw : w ≤ 16)
    (hv : v * 65536 ≤ dif) (hD : v * 2 ^ e ≤ D) (he : 16 + d ≤ e) :
    Win Z ((dif - v * 65536 + 1) * 2 ^ d - 1) rest (D - v * 2 ^ e) (e - d) (w + d) := by
  obtain ⟨h1, h2, h3⟩ := h
  have hpos : 0 < (dif - v * 65536 + 1) * 2 ^ d := Nat.mul_pos (Nat.succ_pos _) (Nat.two_pow_pos d)
  have hsub : dif - v * 65536 + 1 = dif + 1 - v * 65536 := by omega
  rw [Win, Nat.sub_add_cancel hpos, hsub]
  refine ⟨?_, ?_, fun hne => by have := h3 hne; omega⟩
  · rw [Nat.pow_add]
    exact Nat.mul_dvd_mul (Nat.dvd_sub h1 (Nat.dvd_mul_left_of_dvd (Nat.pow_dvd_pow 2 hw) v)) (Nat.dvd_refl _)
  · have hpe : v * 2 ^ e = v * 65536 * 2 ^ (e - 16) := by
      rw [Nat.mul_assoc, ← Nat.pow_add 2 16, show 16 + (e - 16) = e by omega]
    rw [Nat.mul_assoc, ← Nat.pow_add, show d + (e - d - 16) = e - 16 by omega, Nat.sub_mul, ← hpe]
    omega

theorem Win.window {Z dif D e w : Nat} {rest : List Nat} (h : Win Z dif rest D e w) (hw : w ≤ 16) (he : 16 ≤ e)
    (hb : ∀ x ∈ rest, x < 256) : dif / 65536 = D / 2 ^ e := by
  obtain ⟨h1, h2, h3⟩ := h
  have hpe : 2 ^ e = 65536 * 2 ^ (e - 16) := by rw [← Nat.pow_add 2 16, show 16 + (e - 16) = e by omega]
  have hV : valBE rest * 2 ^ Z < 2 ^ w * 2 ^ (e - 16) := by
    by_cases hr : rest = []
    · rw [hr, valBE, Nat.zero_mul]; exact Nat.mul_pos (Nat.two_pow_pos _) (Nat.two_pow_pos _)
    · rw [← Nat.pow_add, Nat.add_comm, h3 hr, Nat.pow_add, ← pow256]
      exact Nat.mul_lt_mul_of_pos_right (valBE_lt rest hb) (Nat.two_pow_pos _)
  have hsplit := Nat.div_add_mod dif 65536
  have hlo := Nat.mod_lt dif (show 0 < 65536 by decide)
  generalize dif / 65536 = c at *
  generalize dif % 65536 = lo at *
  have hdv : 2 ^ w ∣ lo + 1 := by
    rw [show dif + 1 = 65536 * c + (lo + 1) by omega] at h1
    exact (Nat.dvd_add_right (Nat.dvd_mul_right_of_dvd (Nat.pow_dvd_pow 2 hw) c)).1 h1
  have a1 := Nat.mul_le_mul_right (2 ^ (e - 16)) (Nat.le_of_dvd (by omega) hdv)
  have a2 := Nat.mul_le_mul_right (2 ^ (e - 16)) (show lo + 1 ≤ 65536 by omega)
  rw [show dif + 1 = c * 65536 + (lo + 1) by omega, Nat.add_mul, Nat.mul_assoc, ← hpe] at h2
  symm
  apply Nat.div_eq_of_lt_le
  · omega
  · rw [Nat.add_mul, Nat.one_mul]; omega

theorem refillLoop_spec (Z D e : Nat) : ∀ (rest : List Nat) (dif w pos : Nat) (cnt s : Int),
    cnt = 16 - (w : Int) → s = (w : Int) - 8 → (∀ x ∈ rest, x < 256) → w ≤ 31 → Win Z dif rest D e w →
    ∃ (dif' w' pos' : Nat) (rest' : List Nat),
      refillLoop dif cnt s pos rest = (dif', 16 - (w' : Int), pos', rest') ∧
      (∀ x ∈ rest', x < 256) ∧ dif' ≤ dif ∧ w' ≤ w ∧ Win Z dif' rest' D e w' ∧ (rest' ≠ [] → w' ≤ 7)
  | [], dif, w, pos, cnt, s, hc, _, h1, _, h3 =>
    ⟨dif, w, pos, [], by rw [refillLoop, hc], h1, Nat.le_refl _, Nat.le_refl _, h3, fun h => absurd rfl h⟩
  | b :: bs, dif, w, pos, cnt, s, hc, hs, h1, h2, h3 => by
    by_cases hw : 8 ≤ w
    · have hb : b < 256 := h1 b List.mem_cons_self
      obtain ⟨hle, h3'⟩ := h3.consume hb hw
      have hbw : b * 2 ^ (w - 8) < 2 ^ w := mul_two_pow_lt (a := 8) w hb (by omega)
      obtain ⟨dif', w', pos', rest', r1, r2, r3, r4, r5⟩ :=
        refillLoop_spec Z D e bs (dif - b * 2 ^ (w - 8)) (w - 8) (pos + 1) (i16 (cnt + 8)) (s - 8)
          (by rw [i16_id _ (by omega) (by omega)]; omega) (by omega)
          (fun x hx => h1 x (List.mem_cons_of_mem _ hx)) (by omega) h3'
      refine ⟨dif', w', pos', rest', ?_, r2, by omega, by omega, r5⟩
      rw [refillLoop, if_pos (show s ≥ 0 by omega), show s.toNat = w - 8 by omega, Nat.shiftLeft_eq,
        u32_id _ (Nat.lt_of_lt_of_le hbw (pow_le_of_le (b := 32) (by omega))), xor_ones hbw h3.1]
      exact r1
    · exact ⟨dif, w, pos, b :: bs, by rw [refillLoop, if_neg (show ¬ s ≥ 0 by omega), hc], h1, Nat.le_refl _,
        Nat.le_refl _, h3, fun _ => by omega⟩

theorem decRefill_spec (Z : Nat) (dc : Dec) (b : ADec) (w : Nat) (h : PreRel Z dc b w) : DecRel Z (decRefill dc) b := by
  obtain ⟨p1, p2, p3, p4, p5, p6, p7, p8, p9, -⟩ := h
  have c1 : (-15 : Int) ≤ LOTS := by decide
  have c0 : (0 : Int) ≤ LOTS := by decide
  rw [decRel_iff, decRefill]
  -- buffer exhausted: every window bit counts as read (`w = 0`), `cnt` is `LOTS`
  have drained : ∀ (dif' pos' : Nat) (t : Int), dif' ≤ dc.dif →
      b.D + 1 + valBE [] * 2 ^ Z = (dif' + 1) * 2 ^ (b.e - 16) → ∃ w, w ≤ 16 ∧
      PreRel Z { dif := dif', rng := dc.rng, cnt := LOTS, tellOffs := t, rest := [], pos := pos' } b w ∧
      (([] : List Nat) = [] → (0 : Int) ≤ LOTS) :=
    fun dif' pos' t hle heq => ⟨0, by decide, ⟨p1, p2, p3, p4, Nat.lt_of_le_of_lt hle p5, List.forall_mem_nil _, by decide,
      ⟨Nat.one_dvd _, heq, fun h => absurd rfl h⟩, fun h => absurd rfl h, fun _ => ⟨c1, Int.le_refl _⟩⟩, fun _ => c0⟩
  by_cases hne : dc.rest = []
  · -- nothing left to read: the loop does not run
    rw [hne] at p8 ⊢
    exact drained _ _ _ (Nat.le_refl _) p8.2.1
  · obtain ⟨dif', w', pos', rest', r1, r2, r3, r4, r5, r6⟩ :=
      refillLoop_spec Z b.D b.e dc.rest dc.dif w dc.pos dc.cnt (32 - 9 - (dc.cnt + 15)) (p9 hne)
        (by rw [p9 hne]; omega) p6 p7 p8
    rw [r1]
    cases rest' with
    | nil => exact drained _ _ _ r3 r5.2.1
    | cons x xs =>
      have hw' := r6 (List.cons_ne_nil _ _)
      exact ⟨w', by omega, ⟨p1, p2, p3, p4, Nat.lt_of_le_of_lt r3 p5, r2, by omega, r5, fun _ => rfl,
        fun h => absurd h (List.cons_ne_nil x xs)⟩, fun h => absurd h (List.cons_ne_nil x xs)⟩

theorem maybeRefill_spec (Z : Nat) (dc : Dec) (b : ADec) (w : Nat) (h : PreRel Z dc b w) :
    DecRel Z (if dc.cnt < 0 then decRefill dc else dc) b := by
  split
  · exact decRefill_spec Z dc b w h
  · obtain ⟨p1, p2, p3, p4, p5, p6, p7, p8, p9, p10⟩ := h
    rw [decRel_iff]
    by_cases hr : dc.rest = []
    · -- with no bytes left the number of unfilled window bits is immaterial
      exact ⟨0, by decide, ⟨p1, p2, p3, p4, p5, p6, by decide, ⟨Nat.one_dvd _, p8.2.1, fun h => absurd hr h⟩,
        fun h => absurd hr h, p10⟩, fun _ => by omega⟩
    · exact ⟨w, by have := p9 hr; omega, ⟨p1, p2, p3, p4, p5, p6, p7, p8, p9, p10⟩, fun h => absurd h hr⟩

/-- `od_ec_dec_normalize` without the (vacuous) wrap-arounds -/
theorem decNormalize_eq (dc : Dec) (dif rng d : Nat) (hd : normShift rng = d) (h32 : (dif + 1) * 2 ^ d < 4294967296)
    (hr : rng * 2 ^ d < 65536) (hc0 : -32768 ≤ dc.cnt - d) (hc1 : dc.cnt < 32768) :
    decNormalize dc dif rng =
      if dc.cnt - (d : Int) < 0 then
        decRefill { dc with dif := (dif + 1) * 2 ^ d - 1, rng := rng * 2 ^ d, cnt := dc.cnt - (d : Int) }
      else { dc with dif := (dif + 1) * 2 ^ d - 1, rng := rng * 2 ^ d, cnt := dc.cnt - (d : Int) } := by
  have hpos : 0 < (dif + 1) * 2 ^ d := Nat.mul_pos (Nat.succ_pos _) (Nat.two_pow_pos _)
  have h1 : dif + 1 < 4294967296 :=
    Nat.lt_of_le_of_lt (Nat.le_mul_of_pos_right _ (Nat.two_pow_pos d)) (by omega)
  have e1 : subU32 (u32 (u32 (dif + 1) <<< d)) 1 = (dif + 1) * 2 ^ d - 1 := by
    rw [u32_id _ h1, Nat.shiftLeft_eq]
    unfold subU32 u32; omega
  rw [decNormalize, show 16 - ilogNz rng = d from hd, e1, Nat.shiftLeft_eq, u16_id _ hr, i16_id _ hc0 (by omega)]

/-- the first two conjuncts are what resolves the comparisons of `od_ec_decode_bool_q15` / `od_ec_decode_cdf_q15` -/
theorem decStep_spec (Z : Nat) (dc : Dec) (b : ADec) (u v : Nat) (h : DecRel Z dc b)
    (hv : v ≤ b.D / 2 ^ b.e) (hu : b.D / 2 ^ b.e < u) (hur : u ≤ b.r) (he : 16 + normShift (u - v) ≤ b.e) :
    v * 65536 ≤ dc.dif ∧ dc.dif < u * 65536 ∧
    DecRel Z (decNormalize dc (subU32 dc.dif (u32 (v <<< 16))) (subU32 u v)) (aDecStep b u v) := by
  obtain ⟨w, hw, ⟨p1, p2, p3, p4, p5, p6, -, p8, p9, p10⟩, p11⟩ := (decRel_iff Z dc b).1 h
  have hD : v * 2 ^ b.e ≤ b.D := (Nat.le_div_iff_mul_le (Nat.two_pow_pos _)).1 hv
  rw [← p8.window hw p4 p6] at hv hu
  obtain ⟨n1, n2, n3⟩ := normShift_spec (u - v) (by omega) (by omega)
  generalize hd : normShift (u - v) = d at *
  have hvle : v * 65536 ≤ dc.dif := (Nat.le_div_iff_mul_le (by decide)).1 hv
  have hult : dc.dif < u * 65536 := (Nat.div_lt_iff_lt_mul (by decide)).1 hu
  have hmul : (dc.dif - v * 65536 + 1) * 2 ^ d ≤ (u - v) * 2 ^ d * 65536 := by
    rw [Nat.mul_right_comm]; exact Nat.mul_le_mul_right _ (by rw [Nat.sub_mul]; omega)
  have hpos : 0 < (dc.dif - v * 65536 + 1) * 2 ^ d := Nat.mul_pos (Nat.succ_pos _) (Nat.two_pow_pos _)
  have hcnt : -15 ≤ dc.cnt - (d : Int) ∧ dc.cnt ≤ 16384 := by
    by_cases hr : dc.rest = []
    · have := p10 hr; have := p11 hr; omega
    · have := p9 hr; omega
  refine ⟨hvle, hult, ?_⟩
  rw [Nat.shiftLeft_eq, show (2 : Nat) ^ 16 = 65536 from rfl, u32_id _ (by omega), subU32_id _ _ hvle (by omega),
    subU32_id u v (by omega) (by omega)]
  rw [decNormalize_eq dc (dc.dif - v * 65536) (u - v) d hd (by omega) n2 (by omega) (by omega),
    show aDecStep b u v = ⟨b.D - v * 2 ^ b.e, (u - v) * 2 ^ d, b.e - d⟩ by rw [← hd]; rfl]
  refine maybeRefill_spec Z { dc with dif := (dc.dif - v * 65536 + 1) * 2 ^ d - 1, rng := (u - v) * 2 ^ d, cnt := dc.cnt - (d : Int) }
    ⟨b.D - v * 2 ^ b.e, (u - v) * 2 ^ d, b.e - d⟩ (w + d) ⟨rfl, n1, n2, by show 16 ≤ b.e - d; omega, ?_, p6, by omega,
    p8.shift v d hw hvle hD he, fun hr => ?_, fun hr => ?_⟩
  · show (dc.dif - v * 65536 + 1) * 2 ^ d - 1 < (u - v) * 2 ^ d * 65536; omega
  · show dc.cnt - (d : Int) = 16 - ((w + d : Nat) : Int); have := p9 hr; omega
  · exact ⟨hcnt.1, by have := hcnt.2; show dc.cnt - (d : Int) ≤ 16384; omega⟩

def decodePrim (dc : Dec) : Prim → Dec × Nat
  | .sym c n _ => decodeCdfQ15 dc c n
  | .bool f _ => decodeBoolQ15 dc f

theorem readPrim_spec (Z : Nat) (dc : Dec) (b : ADec) (p : Prim) (hR : DecRel Z dc b) (hp : p.Valid)
    (hv : primV b.r p ≤ b.D / 2 ^ b.e) (hu : b.D / 2 ^ b.e < primU b.r p)
    (he : 16 + normShift (primU b.r p - primV b.r p) ≤ b.e) :
    (decodePrim dc p).2 = p.value ∧ DecRel Z (decodePrim dc p).1 (aDecStep b (primU b.r p) (primV b.r p)) := by
  have ⟨hrng, hr0, hr1, _, hdif, _⟩ := hR
  have hI := prim_interval b.r p hr0 hr1 hp
  cases p with
  | sym c n s =>
    obtain ⟨hvle, hult, S⟩ := decStep_spec Z dc b (symU b.r c (n - 1) s) (symV b.r c (n - 1) s) hR hv hu hI.2 he
    have F := decSearch_finds b.r c n s (dc.dif / 65536) hr0 hr1 hp.1 hp.2
      ((Nat.le_div_iff_mul_le (by decide)).2 hvle) ((Nat.div_lt_iff_lt_mul (by decide)).2 hult)
    rw [decodePrim, decodeCdfQ15, Nat.shiftRight_eq_div_pow, hrng, F]
    exact ⟨rfl, S⟩
  | bool f bit =>
    have B := (bool_v_range b.r f hr0 hr1 hp.2.1).2
    have hsh : u32 (scaleV b.r f 1 <<< 16) = scaleV b.r f 1 * 65536 := by rw [Nat.shiftLeft_eq, u32_id _ (by omega)]
    rw [decodePrim, decodeBoolQ15, hrng]
    obtain rfl | rfl : bit = 0 ∨ bit = 1 := by have := hp.2.2; omega
    · obtain ⟨hvle, -, S⟩ := decStep_spec Z dc b b.r (scaleV b.r f 1) hR hv hu hI.2 he
      rw [if_pos (show dc.dif ≥ u32 (scaleV b.r f 1 <<< 16) from hsh ▸ hvle)]
      exact ⟨rfl, S⟩
    · obtain ⟨-, hult, S⟩ := decStep_spec Z dc b (scaleV b.r f 1) 0 hR hv hu hI.2 he
      rw [if_neg (show ¬ dc.dif ≥ u32 (scaleV b.r f 1 <<< 16) from hsh ▸ Nat.not_le_of_lt hult)]
      have S : DecRel Z (decNormalize dc (subU32 dc.dif 0) (subU32 (scaleV b.r f 1) 0)) _ := S
      rw [subU32_id _ _ (Nat.zero_le _) (by omega), subU32_id _ _ (Nat.zero_le _) (by omega)] at S
      exact ⟨rfl, S⟩

theorem decInit_spec (Z : Nat) (bytes : List Nat) (hb : ∀ x ∈ bytes, x < 256) (hZ : 31 ≤ 8 * bytes.length + Z) :
    DecRel Z (decInit bytes)
      { D := 2 ^ (8 * bytes.length + Z) - 1 - valBE bytes * 2 ^ Z, r := 32768, e := 8 * bytes.length + Z - 15 } := by
  have hX : valBE bytes * 2 ^ Z < 2 ^ (8 * bytes.length + Z) := by
    rw [Nat.pow_add, ← pow256]; exact Nat.mul_lt_mul_of_pos_right (valBE_lt bytes hb) (Nat.two_pow_pos Z)
  have c1 : (32768 : Nat) ≤ 32768 ∧ (32768 : Nat) < 65536 ∧ (2147483647 : Nat) < 32768 * 65536 := by decide
  have c2 : (-15 : Int) ≤ -15 ∧ (-15 : Int) ≤ 16384 := by decide
  have hpre : PreRel Z { dif := 2147483647, rng := 0x8000, cnt := -15, tellOffs := 10 - (32 - 8), rest := bytes, pos := 0 }
      { D := 2 ^ (8 * bytes.length + Z) - 1 - valBE bytes * 2 ^ Z, r := 32768, e := 8 * bytes.length + Z - 15 } 31 := by
    refine ⟨rfl, c1.1, c1.2.1, ?_, c1.2.2, hb, Nat.le_refl _, ⟨Nat.dvd_refl 2147483648, ?_, fun _ => ?_⟩,
      fun _ => rfl, fun _ => c2⟩
    · show 16 ≤ 8 * bytes.length + Z - 15; omega
    · show 2 ^ (8 * bytes.length + Z) - 1 - valBE bytes * 2 ^ Z + 1 + valBE bytes * 2 ^ Z =
        2 ^ 31 * 2 ^ (8 * bytes.length + Z - 15 - 16)
      rw [← Nat.pow_add, show 31 + (8 * bytes.length + Z - 15 - 16) = 8 * bytes.length + Z by omega]; omega
    · show 8 * bytes.length + Z - 15 - 16 + 31 = 8 * bytes.length + Z; omega
  exact decRefill_spec Z _ _ 31 hpre

end RangeCoder
