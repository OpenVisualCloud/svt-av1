/-
  The task-graph model of `Model/Wavefront.lean` (C04), for an arbitrary `Dag`: invariants of every reachable state,
  confluence (all interleavings, any number of workers), equality with the sequential topological-order program,
  progress for acyclic graphs.  Core Lean only.
-/
import SvtVerif.Model.Wavefront

namespace Wavefront

variable {V : Type}

theorem step_start {G : Dag V} {s s' : St V} {t : Nat} (h : step G s (.start t) = some s') :
    canStart G s t ∧ s' = { s with started := t :: s.started } := by
  by_cases hc : canStart G s t
  · simp only [step, hc, if_true, Option.some.injEq] at h
    exact ⟨hc, h.symm⟩
  · simp only [step, hc, if_false] at h
    cases h

theorem step_finish {G : Dag V} {s s' : St V} {t : Nat} (h : step G s (.finish t) = some s') :
    canFinish s t ∧ s' = { s with done := t :: s.done, store := upd s.store t (G.body t s.store) } := by
  by_cases hc : canFinish s t
  · simp only [step, hc, if_true, Option.some.injEq] at h
    exact ⟨hc, h.symm⟩
  · simp only [step, hc, if_false] at h
    cases h

theorem upd_same (σ : Nat → V) (t : Nat) (v : V) : upd σ t v t = v := by simp [upd]

theorem upd_other (σ : Nat → V) {t u : Nat} (v : V) (h : u ≠ t) : upd σ t v u = σ u := by simp [upd, h]

structure Inv (G : Dag V) (σ0 : Nat → V) (s : St V) : Prop where
  started_lt : ∀ t, t ∈ s.started → t < G.n
  done_sub : ∀ t, t ∈ s.done → t ∈ s.started
  started_nodup : s.started.Nodup
  done_nodup : s.done.Nodup
  guard_done : ∀ t, t ∈ s.started → ∀ d, d ∈ G.guard t → d ∈ s.done
  frame : ∀ t, t ∉ s.done → s.store t = σ0 t

theorem inv_init (G : Dag V) (σ0 : Nat → V) : Inv G σ0 (init σ0) := by
  constructor <;> simp [init]

theorem inv_step {G : Dag V} {σ0 : Nat → V} {s s' : St V} {ev : Ev} (hi : Inv G σ0 s)
    (hs : step G s ev = some s') : Inv G σ0 s' := by
  cases ev with
  | start t =>
    obtain ⟨⟨h1, h2, h3⟩, rfl⟩ := step_start hs
    refine ⟨?_, ?_, ?_, hi.done_nodup, ?_, hi.frame⟩
    · intro u hu
      rcases List.mem_cons.1 hu with rfl | hu
      · exact h1
      · exact hi.started_lt u hu
    · intro u hu; exact List.mem_cons_of_mem _ (hi.done_sub u hu)
    · exact List.nodup_cons.2 ⟨h2, hi.started_nodup⟩
    · intro u hu d hd
      rcases List.mem_cons.1 hu with rfl | hu
      · exact h3 d hd
      · exact hi.guard_done u hu d hd
  | finish t =>
    obtain ⟨⟨h1, h2⟩, rfl⟩ := step_finish hs
    refine ⟨hi.started_lt, ?_, hi.started_nodup, ?_, ?_, ?_⟩
    · intro u hu
      rcases List.mem_cons.1 hu with rfl | hu
      · exact h1
      · exact hi.done_sub u hu
    · exact List.nodup_cons.2 ⟨h2, hi.done_nodup⟩
    · intro u hu d hd; exact List.mem_cons_of_mem _ (hi.guard_done u hu d hd)
    · intro u hu
      have hne : u ≠ t := fun h => hu (by rw [h]; exact List.mem_cons_self)
      have hnd : u ∉ s.done := fun h => hu (List.mem_cons_of_mem _ h)
      show upd s.store t (G.body t s.store) u = σ0 u
      rw [upd_other _ _ hne]; exact hi.frame u hnd

theorem reachable_inv {G : Dag V} {σ0 : Nat → V} {s : St V} (h : Reachable G σ0 s) : Inv G σ0 s := by
  induction h with
  | init => exact inv_init G σ0
  | step _ hs ih => exact inv_step ih hs

theorem anc_done {G : Dag V} {σ0 : Nat → V} {s : St V} (hi : Inv G σ0 s) {d t : Nat} (ha : Anc G d t) :
    t ∈ s.started → d ∈ s.done := by
  induction ha with
  | base hg => intro ht; exact hi.guard_done _ ht _ hg
  | step hg _ ih => intro ht; exact ih (hi.done_sub _ (hi.guard_done _ ht _ hg))

/-- each finished cell holds the body's value on the CURRENT store (cells it read never change afterwards) -/
def FixInv (G : Dag V) (s : St V) : Prop := ∀ t, t ∈ s.done → s.store t = G.body t s.store

theorem fix_step {G : Dag V} {reads : Nat → List Nat} {σ0 : Nat → V} {s s' : St V} {ev : Ev}
    (hf : Footprint G reads) (hi : Inv G σ0 s) (hx : FixInv G s) (hs : step G s ev = some s') : FixInv G s' := by
  cases ev with
  | start t =>
    obtain ⟨_, rfl⟩ := step_start hs
    exact hx
  | finish u =>
    obtain ⟨⟨h1, h2⟩, rfl⟩ := step_finish hs
    -- the new store agrees with the old one on everything a handed-out task reads
    have hsame : ∀ t, t ∈ s.started → G.body t (upd s.store u (G.body u s.store)) = G.body t s.store := by
      intro t ht
      apply hf.2
      intro d hd
      have hdd : d ∈ s.done := anc_done hi (hf.1 t d hd) ht
      have hne : d ≠ u := fun h => h2 (h ▸ hdd)
      exact upd_other _ _ hne
    intro t ht
    show upd s.store u (G.body u s.store) t = G.body t (upd s.store u (G.body u s.store))
    rcases List.mem_cons.1 ht with rfl | ht
    · rw [upd_same, hsame _ h1]
    · have hne : t ≠ u := fun h => h2 (h ▸ ht)
      rw [upd_other _ _ hne, hsame t (hi.done_sub t ht)]
      exact hx t ht

theorem reachable_fix {G : Dag V} {reads : Nat → List Nat} {σ0 : Nat → V} {s : St V} (hf : Footprint G reads)
    (h : Reachable G σ0 s) : FixInv G s := by
  induction h with
  | init => intro t ht; simp [init] at ht
  | step hr hs ih => exact fix_step hf (reachable_inv hr) ih hs

theorem agree {G : Dag V} {reads : Nat → List Nat} {σ0 : Nat → V} (hf : Footprint G reads) {s1 s2 : St V}
    (h1 : Reachable G σ0 s1) (h2 : Reachable G σ0 s2) :
    ∀ t, t ∈ s1.done → t ∈ s2.done → s1.store t = s2.store t := by
  have i2 := reachable_inv h2
  have x2 := reachable_fix hf h2
  induction h1 with
  | init => intro t ht; simp [init] at ht
  | step hr hs ih =>
    rename_i s s' ev
    have i1 := reachable_inv hr
    cases ev with
    | start t =>
      obtain ⟨_, rfl⟩ := step_start hs
      exact ih
    | finish u =>
      obtain ⟨⟨hu1, hu2⟩, rfl⟩ := step_finish hs
      intro t ht ht2
      show upd s.store u (G.body u s.store) t = s2.store t
      rcases List.mem_cons.1 ht with rfl | ht
      · rw [upd_same, x2 _ ht2]
        apply hf.2
        intro d hd
        have ha := hf.1 _ d hd
        exact ih d (anc_done i1 ha hu1) (anc_done i2 ha (i2.done_sub _ ht2))
      · have hne : t ≠ u := fun h => hu2 (h ▸ ht)
        rw [upd_other _ _ hne]
        exact ih t ht ht2

theorem confluence {G : Dag V} {reads : Nat → List Nat} {σ0 : Nat → V} (hf : Footprint G reads) {s1 s2 : St V}
    (h1 : Reachable G σ0 s1) (h2 : Reachable G σ0 s2) (c1 : Complete G s1) (c2 : Complete G s2) :
    s1.store = s2.store := by
  funext t
  by_cases ht : t < G.n
  · exact agree hf h1 h2 t (c1 t ht) (c2 t ht)
  · have i1 := reachable_inv h1
    have i2 := reachable_inv h2
    rw [i1.frame t (fun hd => ht (i1.started_lt t (i1.done_sub t hd))),
        i2.frame t (fun hd => ht (i2.started_lt t (i2.done_sub t hd)))]

theorem seq_reachable {G : Dag V} {σ0 : Nat → V} : ∀ (rest pre : List Nat) (σ : Nat → V),
    Reachable G σ0 { started := pre, done := pre, store := σ } → TopoFrom G pre rest →
    Reachable G σ0 { started := rest.reverse ++ pre, done := rest.reverse ++ pre,
                     store := rest.foldl (fun σ t => upd σ t (G.body t σ)) σ }
  | [], pre, σ, hr, _ => by simpa using hr
  | t :: rest, pre, σ, hr, ht => by
    obtain ⟨h1, h2, h3, h4⟩ := ht
    have hs : step G { started := pre, done := pre, store := σ } (.start t) =
        some { started := t :: pre, done := pre, store := σ } := by
      have hc : canStart G { started := pre, done := pre, store := σ } t := ⟨h1, h2, h3⟩
      simp only [step, hc, if_true]
    have hf : step G { started := t :: pre, done := pre, store := σ } (.finish t) =
        some { started := t :: pre, done := t :: pre, store := upd σ t (G.body t σ) } := by
      have hc : canFinish { started := t :: pre, done := pre, store := σ } t := ⟨List.mem_cons_self, h2⟩
      simp only [step, hc, if_true]
    have := seq_reachable rest (t :: pre) _ (Reachable.step (Reachable.step hr hs) hf) h4
    simpa [List.reverse_cons, List.append_assoc] using this

theorem seq_result {G : Dag V} {σ0 : Nat → V} {order : List Nat} (ho : Topo G order) :
    ∃ s, Reachable G σ0 s ∧ Complete G s ∧ s.store = seqStore G σ0 order := by
  have h := seq_reachable (G := G) (σ0 := σ0) order [] σ0 Reachable.init ho.1
  refine ⟨_, h, ?_, rfl⟩
  intro t ht
  show t ∈ order.reverse ++ []
  simpa using ho.2 t ht

theorem progress {G : Dag V} {σ0 : Nat → V} {s : St V} {rank : Nat → Nat} (ha : Acyclic G rank)
    (hr : Reachable G σ0 s) (hnc : ¬ Complete G s) : ∃ ev s', step G s ev = some s' := by
  have hi := reachable_inv hr
  by_cases hrun : ∃ t, t ∈ s.started ∧ t ∉ s.done
  · obtain ⟨t, h1, h2⟩ := hrun
    have hc : canFinish s t := ⟨h1, h2⟩
    exact ⟨.finish t, { s with done := t :: s.done, store := upd s.store t (G.body t s.store) },
      by simp only [step, hc, if_true]⟩
  · have hsub : ∀ t, t ∈ s.started → t ∈ s.done := fun t ht =>
      Decidable.byContradiction fun hn => hrun ⟨t, ht, hn⟩
    refine Classical.byContradiction fun hno => ?_
    have hno' : ∀ t, ¬ canStart G s t := by
      intro t hc
      exact hno ⟨.start t, { s with started := t :: s.started }, by simp only [step, hc, if_true]⟩
    have key : ∀ r t, rank t < r → t < G.n → t ∈ s.done := by
      intro r
      induction r with
      | zero => intro t h; omega
      | succ r ih =>
        intro t hrk ht
        refine Decidable.byContradiction fun hnd => ?_
        apply hno' t
        refine ⟨ht, fun hs => hnd (hsub t hs), fun d hd => ?_⟩
        have := ha t ht d hd
        exact ih d (by omega) this.1
    exact hnc (fun t ht => key (rank t + 1) t (by omega) ht)

theorem run_reachable {G : Dag V} {σ0 : Nat → V} : ∀ (evs : List Ev) (s s' : St V), Reachable G σ0 s →
    run G s evs = some s' → Reachable G σ0 s'
  | [], s, s', hr, h => by
    simp only [run, Option.some.injEq] at h
    exact h ▸ hr
  | ev :: evs, s, s', hr, h => by
    simp only [run] at h
    cases hs : step G s ev with
    | none => rw [hs] at h; cases h
    | some s1 =>
      rw [hs] at h
      exact run_reachable evs s1 s' (Reachable.step hr hs) h

theorem step_length {G : Dag V} {s s' : St V} {ev : Ev} (hs : step G s ev = some s') :
    s'.started.length + s'.done.length = s.started.length + s.done.length + 1 := by
  cases ev with
  | start t => obtain ⟨_, rfl⟩ := step_start hs; exact Nat.add_right_comm _ _ _
  | finish t => obtain ⟨_, rfl⟩ := step_finish hs; rfl

theorem run_length {G : Dag V} : ∀ (evs : List Ev) (s s' : St V), run G s evs = some s' →
    s'.started.length + s'.done.length = s.started.length + s.done.length + evs.length
  | [], s, s', h => by
    simp only [run, Option.some.injEq] at h
    subst h; rfl
  | ev :: evs, s, s', h => by
    simp only [run] at h
    cases hs : step G s ev with
    | none => rw [hs] at h; cases h
    | some s1 =>
      rw [hs] at h
      rw [run_length evs s1 s' h, step_length hs, List.length_cons]
      omega

end Wavefront
