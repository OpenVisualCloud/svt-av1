/-
  C24 — the array folds of `enc_dec_segments_init`: what a fold of `amod` steps leaves in one slot
  (per-SB counting loop, dependency loop), and the raster list `allSbs`.
-/
import SvtVerif.Lemmas.Segments
import Mathlib.Data.List.Basic
import Mathlib.Data.List.Count

namespace Seg

theorem size_amod (a : Array Nat) (i : Nat) (f : Nat → Nat) : (amod a i f).size = a.size := by
  simp [amod, size_aset]

theorem aget_amod (a : Array Nat) (i : Nat) (f : Nat → Nat) (j : Nat) :
    aget (amod a i f) j = if i = j ∧ i < a.size then f (aget a i) else aget a j := by
  simp [amod, aget_aset]

theorem size_foldl_amod {α : Type} (l : List α) (f : α → Nat) (g : α → Nat → Nat) (a0 : Array Nat) :
    (l.foldl (fun a p => amod a (f p) (g p)) a0).size = a0.size := by
  induction l generalizing a0 with
  | nil => rfl
  | cons p l ih => simp only [List.foldl_cons]; rw [ih, size_amod]

theorem aget_condInc (m : Nat) (c : Prop) [Decidable c] (a : Array Nat) (j i : Nat)
    (hi : i < a.size) (h0 : aget a i < m) :
    aget (if c then amod a j (fun v => (v + 1) % m) else a) i
      = (aget a i + if c ∧ j = i then 1 else 0) % m := by
  by_cases hc : c
  · by_cases hj : j = i
    · subst hj; simp [hc, aget_amod, hi]
    · simp [hc, hj, aget_amod, Nat.mod_eq_of_lt h0]
  · simp [hc, Nat.mod_eq_of_lt h0]

theorem aget_foldl_count_mod {α : Type} (m : Nat) (l : List α) (f : α → Nat) (a0 : Array Nat) (i : Nat)
    (hi : i < a0.size) (h0 : aget a0 i < m) :
    aget (l.foldl (fun a p => amod a (f p) (fun v => (v + 1) % m)) a0) i
      = (aget a0 i + l.countP (fun p => f p = i)) % m := by
  induction l generalizing a0 with
  | nil => simp [Nat.mod_eq_of_lt h0]
  | cons p l ih =>
    have hstep := aget_condInc m True a0 (f p) i hi h0
    rw [if_pos trivial] at hstep
    rw [List.foldl_cons, ih _ (by rw [size_amod]; exact hi) (by rw [hstep]; exact Nat.mod_lt _ (by omega)),
      hstep, List.countP_cons, Nat.mod_add_mod]
    simp only [true_and, decide_eq_true_eq]
    rw [Nat.add_assoc, Nat.add_comm (List.countP _ l)]

def twoInc {α : Type} (m : Nat) (c1 c2 : α → Prop) [DecidablePred c1] [DecidablePred c2]
    (f1 f2 : α → Nat) (a : Array Nat) (e : α) : Array Nat :=
  let a1 := if c1 e then amod a (f1 e) (fun v => (v + 1) % m) else a
  if c2 e then amod a1 (f2 e) (fun v => (v + 1) % m) else a1

section
variable {α : Type} (m : Nat) (c1 c2 : α → Prop) [DecidablePred c1] [DecidablePred c2] (f1 f2 : α → Nat)

theorem size_twoInc (a : Array Nat) (e : α) : (twoInc m c1 c2 f1 f2 a e).size = a.size := by
  unfold twoInc
  by_cases h1 : c1 e <;> by_cases h2 : c2 e <;> simp [h1, h2, size_amod]

theorem size_foldl_twoInc (l : List α) (a0 : Array Nat) :
    (l.foldl (twoInc m c1 c2 f1 f2) a0).size = a0.size := by
  induction l generalizing a0 with
  | nil => rfl
  | cons p l ih => simp only [List.foldl_cons]; rw [ih, size_twoInc]

theorem aget_twoInc (a : Array Nat) (e : α) (i : Nat) (hi : i < a.size) (h0 : aget a i < m) :
    aget (twoInc m c1 c2 f1 f2 a e) i
      = (aget a i + (if c1 e ∧ f1 e = i then 1 else 0) + (if c2 e ∧ f2 e = i then 1 else 0)) % m := by
  have h1 := aget_condInc m (c1 e) a (f1 e) i hi h0
  unfold twoInc
  simp only []
  rw [aget_condInc m (c2 e) _ (f2 e) i (by split <;> simp [size_amod, hi])
        (by rw [h1]; exact Nat.mod_lt _ (by omega)), h1, Nat.mod_add_mod]

theorem aget_foldl_twoInc (l : List α) (a0 : Array Nat) (i : Nat) (hi : i < a0.size) (h0 : aget a0 i < m) :
    aget (l.foldl (twoInc m c1 c2 f1 f2) a0) i
      = (aget a0 i + l.countP (fun e => c1 e ∧ f1 e = i) + l.countP (fun e => c2 e ∧ f2 e = i)) % m := by
  induction l generalizing a0 with
  | nil => simp [Nat.mod_eq_of_lt h0]
  | cons p l ih =>
    have hstep := aget_twoInc m c1 c2 f1 f2 a0 p i hi h0
    rw [List.foldl_cons, ih _ (by rw [size_twoInc]; exact hi) (by rw [hstep]; exact Nat.mod_lt _ (by omega)),
      hstep, List.countP_cons, List.countP_cons]
    simp only [decide_eq_true_eq]
    rw [Nat.add_assoc (_ % m), Nat.mod_add_mod]
    congr 1
    omega

end

/-- the `(row, segment_index)` pairs visited by the dependency loop (lines 146-151), in order -/
def depPairs (rows : Array SegRow) (r2 : Nat) : List (Nat × Nat) :=
  (List.range r2).flatMap fun r => (rowSegs rows r).map fun s => (r, s)

/-- right-neighbour increment condition (lines 152-155) -/
def depC1 (valid : Array Nat) (rows : Array SegRow) (e : Nat × Nat) : Prop :=
  aget valid e.2 ≠ 0 ∧ e.2 < rowEnd rows e.1
/-- bottom-left increment condition (lines 152, 158-161) -/
def depC2 (valid : Array Nat) (rows : Array SegRow) (segRow B : Nat) (e : Nat × Nat) : Prop :=
  aget valid e.2 ≠ 0 ∧ e.1 < sub32 segRow 1 ∧ u32 (e.2 + B) ≥ rowStart rows (e.1 + 1)

instance (valid rows) : DecidablePred (depC1 valid rows) := fun e => by unfold depC1; infer_instance
instance (valid rows segRow B) : DecidablePred (depC2 valid rows segRow B) :=
  fun e => by unfold depC2; infer_instance

theorem depBody_eq_twoInc (valid : Array Nat) (rows : Array SegRow) (segRow B row : Nat)
    (d : Array Nat) (seg : Nat) :
    depBody valid rows segRow B row d seg
      = twoInc 256 (depC1 valid rows) (depC2 valid rows segRow B)
          (fun e => u32 (e.2 + 1)) (fun e => u32 (e.2 + B)) d (row, seg) := by
  unfold depBody twoInc depC1 depC2 u8
  by_cases hv : aget valid seg ≠ 0
  · simp only [hv, if_true, true_and, not_false_eq_true, ne_eq]
  · simp only [hv, if_false, false_and]

theorem dep_fold_eq_pairs (valid : Array Nat) (rows : Array SegRow) (r2 B : Nat) (a0 : Array Nat) :
    (List.range r2).foldl (fun d r => (rowSegs rows r).foldl (depBody valid rows r2 B r) d) a0
      = (depPairs rows r2).foldl
          (twoInc 256 (depC1 valid rows) (depC2 valid rows r2 B)
            (fun e => u32 (e.2 + 1)) (fun e => u32 (e.2 + B))) a0 := by
  unfold depPairs
  rw [List.foldl_flatMap]
  congr 1
  funext d r
  rw [List.foldl_map]
  congr 1
  funext d s
  exact depBody_eq_twoInc valid rows r2 B r d s

theorem initSeg_dep_eq (W H C R MC MR : Nat) :
    (initSeg W H C R MC MR).dep
      = (List.range (initSeg W H C R MC MR).segRowCount).foldl
          (fun d r => (rowSegs (initSeg W H C R MC MR).rows r).foldl
            (depBody (initSeg W H C R MC MR).validSb (initSeg W H C R MC MR).rows
              (initSeg W H C R MC MR).segRowCount (initSeg W H C R MC MR).segBandCount r) d)
          (Array.replicate (initSeg W H C R MC MR).segTtlCount 0) := rfl

theorem mem_allSbs (W H : Nat) (p : Nat × Nat) : p ∈ allSbs W H ↔ p.1 < W ∧ p.2 < H := by
  obtain ⟨x, y⟩ := p
  simp only [allSbs, List.mem_flatMap, List.mem_range, List.mem_map, Prod.mk.injEq]
  constructor
  · rintro ⟨y', hy, x', hx, rfl, rfl⟩; exact ⟨hx, hy⟩
  · rintro ⟨hx, hy⟩; exact ⟨y, hy, x, hx, rfl, rfl⟩

theorem length_allSbs (W H : Nat) : (allSbs W H).length = W * H := by
  simp [allSbs, List.length_flatMap, Nat.mul_comm]

end Seg
