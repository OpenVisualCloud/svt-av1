/-
  The simulation behind C17: the joint run and the solo run of instance `i` stay related by `Rel` (equal private state,
  readable globals at their constants); `actG_const` is the one step lemma for the globals, whoever moves.
-/
import SvtVerif.Model.NonInterf

namespace SvtVerif.NonInterf

variable {ι γ ν σ : Type}

theorem proj_of_interleaving {t₁ t₂ : List (Act γ ν σ)} {m : List (Bool × Act γ ν σ)}
    (h : Interleaving t₁ t₂ m) : proj false m = t₁ ∧ proj true m = t₂ := by
  induction h with
  | nil => exact ⟨rfl, rfl⟩
  | left _ ih => simp [proj, ih.1, ih.2]
  | right _ ih => simp [proj, ih.1, ih.2]

theorem forall_of_interleaving {P : Act γ ν σ → Prop} {t₁ t₂ : List (Act γ ν σ)} {m : List (Bool × Act γ ν σ)}
    (h : Interleaving t₁ t₂ m) (h₁ : ∀ a ∈ t₁, P a) (h₂ : ∀ a ∈ t₂, P a) : ∀ p ∈ m, P p.2 := by
  induction h with
  | nil => nofun
  | left _ ih =>
    intro p hp
    rcases List.mem_cons.mp hp with rfl | hp
    · exact h₁ _ List.mem_cons_self
    · exact ih (fun a ha => h₁ a (List.mem_cons_of_mem _ ha)) h₂ p hp
  | right _ ih =>
    intro p hp
    rcases List.mem_cons.mp hp with rfl | hp
    · exact h₂ _ List.mem_cons_self
    · exact ih h₁ (fun a ha => h₂ a (List.mem_cons_of_mem _ ha)) p hp

/-- every pair of traces has an interleaving (so statements over interleavings are not vacuous) -/
theorem interleaving_exists (t₁ t₂ : List (Act γ ν σ)) : ∃ m, Interleaving t₁ t₂ m := by
  induction t₁ with
  | nil =>
    induction t₂ with
    | nil => exact ⟨[], .nil⟩
    | cons a t ih => obtain ⟨m, hm⟩ := ih; exact ⟨(true, a) :: m, .right hm⟩
  | cons a t ih => obtain ⟨m, hm⟩ := ih; exact ⟨(false, a) :: m, .left hm⟩

/-- The relation kept between the joint state and the solo state of instance `i`:
    equal private state, and every readable global that `i` may read by now holds `c g` on both sides. -/
def Rel [DecidableEq γ] (readable : γ → Bool) (c : γ → ν) (static : γ → Bool) (i : ι) (W : List γ)
    (s : St ι γ ν σ) (t : (γ → ν) × σ) : Prop :=
  s.I i = t.2 ∧ ∀ g, readable g = true → (static g = true ∨ g ∈ W) → s.G g = c g ∧ t.1 g = c g

/-- the `W` of `wellInit` after `a` -/
def actW (W : List γ) : Act γ ν σ → List γ
  | .store g _ _ => g :: W
  | _ => W

theorem mem_actW {W : List γ} {a : Act γ ν σ} {g : γ} (h : g ∈ W) : g ∈ actW W a := by
  cases a with
  | store => exact List.mem_cons_of_mem _ h
  | _ => exact h

section
variable [DecidableEq γ] {readable : γ → Bool} {c : γ → ν} {static : γ → Bool} {W : List γ} {a : Act γ ν σ}

/-- the effect of an action on the globals, the same in `step` and `stepSolo` -/
def actG (G : γ → ν) (x : σ) : Act γ ν σ → γ → ν
  | .compute _ _ => G
  | .store g _ val => upd G g (val x)
  | .rmw g _ u => upd G g (u (G g))

theorem wellInit_cons {t : List (Act γ ν σ)} (h : wellInit static W (a :: t) = true) :
    wellInit static (actW W a) t = true := by
  cases a with
  | compute => exact (Bool.and_eq_true_iff.mp h).2
  | store => exact h
  | rmw => exact h

theorem actG_const (ha : ActOK readable c a) {G : γ → ν} (x : σ)
    (hG : ∀ g, readable g = true → (static g = true ∨ g ∈ W) → G g = c g) :
    ∀ g, readable g = true → (static g = true ∨ g ∈ actW W a) → actG G x a g = c g := by
  intro g hr hw
  cases a with
  | compute => exact hG g hr hw
  | store g₀ w val =>
    by_cases hg : g = g₀
    · subst hg; exact (upd_same ..).trans (ha hr x)
    · exact (upd_other _ _ _ _ hg).trans (hG g hr (hw.imp id fun h => (List.mem_cons.mp h).resolve_left hg))
  | rmw g₀ w u =>
    have hg : g ≠ g₀ := fun h => by rw [h, show readable g₀ = false from ha] at hr; cases hr
    exact (upd_other _ _ _ _ hg).trans (hG g hr hw)

end

theorem noninterf_aux [DecidableEq ι] [DecidableEq γ] (readable : γ → Bool) (c : γ → ν) (static : γ → Bool) (i : ι) :
    ∀ (m : List (ι × Act γ ν σ)) (W : List γ) (s : St ι γ ν σ) (t : (γ → ν) × σ),
      (∀ p ∈ m, ActOK readable c p.2) → Rel readable c static i W s t →
      wellInit static W (proj i m) = true →
      (run m s).I i = (runSolo (proj i m) t).2 := by
  intro m
  induction m with
  | nil => intro W s t _ hrel _; exact hrel.1
  | cons p m ih =>
    intro W s t hact hrel hwi
    obtain ⟨j, a⟩ := p
    have hact' : ∀ p ∈ m, ActOK readable c p.2 := fun p hp => hact p (List.mem_cons_of_mem _ hp)
    have ha : ActOK readable c a := hact (j, a) List.mem_cons_self
    have hsG : (step s j a).G = actG s.G (s.I j) a := by cases a <;> rfl
    have hs := actG_const ha (s.I j) fun g hr hw => (hrel.2 g hr hw).1
    rw [← hsG] at hs
    by_cases hj : j = i
    · -- a step of the observed instance: both sides move
      subst hj
      have htG : (stepSolo t a).1 = actG t.1 t.2 a := by cases a <;> rfl
      have ht := actG_const ha t.2 fun g hr hw => (hrel.2 g hr hw).2
      rw [← htG] at ht
      rw [proj, if_pos rfl] at hwi ⊢
      refine ih (actW W a) _ _ hact' ⟨?_, fun g hr hw => ⟨hs g hr hw, ht g hr hw⟩⟩ (wellInit_cons hwi)
      cases a with
      | compute reads f =>
        have hreads : reads.map s.G = reads.map t.1 := by
          refine List.map_congr_left fun g hg => ?_
          have hw := List.all_eq_true.mp (Bool.and_eq_true_iff.mp hwi).1 g hg
          rw [Bool.or_eq_true, List.contains_iff_mem] at hw
          have := hrel.2 g (ha g hg) hw
          rw [this.1, this.2]
        simp [step, stepSolo, hreads, hrel.1]
      | store => exact hrel.1
      | rmw => exact hrel.1
    · -- a step of another instance: the solo side does not move
      rw [proj, if_neg hj] at hwi ⊢
      refine ih W _ t hact' ⟨?_, fun g hr hw => ⟨hs g hr (hw.imp id ?_), (hrel.2 g hr hw).2⟩⟩ hwi
      · cases a with
        | compute => exact (upd_other _ _ _ _ (Ne.symm hj)).trans hrel.1
        | store => exact hrel.1
        | rmw => exact hrel.1
      · exact mem_actW

theorem noninterference_of_agreement' [DecidableEq ι] [DecidableEq γ] (readable : γ → Bool) (c : γ → ν) (static : γ → Bool)
    (m : List (ι × Act γ ν σ)) (i : ι) (s : St ι γ ν σ)
    (hact : ∀ p ∈ m, ActOK readable c p.2)
    (hstatic : ∀ g, readable g = true → static g = true → s.G g = c g)
    (hinit : wellInit static [] (proj i m) = true) :
    (run m s).I i = (runSolo (proj i m) (s.G, s.I i)).2 := by
  apply noninterf_aux readable c static i m [] s (s.G, s.I i) hact _ hinit
  refine ⟨rfl, ?_⟩
  intro g hr hw
  cases hw with
  | inl h => exact ⟨hstatic g hr h, hstatic g hr h⟩
  | inr h => simp at h

theorem actOK_of_classOK (cls : γ → Class) (c : γ → ν)
    (hcls : ∀ g, cls g = .writeOnceConstant ∨ cls g = .lockedCounter) (a : Act γ ν σ) (h : ClassOK cls c a) :
    ActOK (fun g => decide (cls g = .writeOnceConstant)) c a := by
  cases a with
  | compute reads f =>
    intro g hg
    have := h g hg
    cases hcls g with
    | inl h3 => simp [h3]
    | inr h3 => exact absurd h3 this
  | store g w val =>
    intro hr
    simp at hr
    exact h.2 hr
  | rmw g w u =>
    have : cls g = .lockedCounter := h
    simp [ActOK, this]

/-- The counter-example behind every `instanceDependent` global: both instances run the SAME code (store my configuration
    value into `g`; later read `g`), they differ only in their configuration `v₁ ≠ v₂`, and the first instance observes the
    second one's value.  Private state = (configuration, last value read from `g`). -/
def badTrace (g : γ) : List (Bool × Act γ ν (ν × ν)) :=
  [ (false, .store g "init" (fun x => x.1)),
    (true,  .store g "init" (fun x => x.1)),
    (false, .compute [g] (fun vs x => (x.1, vs.headD x.1))) ]

def badStart (v₁ v₂ : ν) (g0 : ν) : St Bool γ ν (ν × ν) :=
  { G := fun _ => g0, I := fun b => if b then (v₂, v₂) else (v₁, v₁) }

theorem badTrace_joint [DecidableEq γ] (g : γ) (v₁ v₂ g0 : ν) :
    (run (badTrace g) (badStart v₁ v₂ g0)).I false = (v₁, v₂) := by
  simp [badTrace, badStart, run, step, upd]

theorem badTrace_solo [DecidableEq γ] (g : γ) (v₁ v₂ g0 : ν) :
    (runSolo (proj false (badTrace g)) ((badStart (γ := γ) v₁ v₂ g0).G, (badStart (γ := γ) v₁ v₂ g0).I false)).2 = (v₁, v₁) := by
  simp [badTrace, badStart, proj, runSolo, stepSolo, upd]

end SvtVerif.NonInterf
