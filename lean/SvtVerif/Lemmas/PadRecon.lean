/- Lemmas for C11, each about arbitrary dimensions within the stated ranges; C11 puts the accepted picture sizes in. -/
import SvtVerif.Model.Padding
import SvtVerif.Model.ReconSize
import SvtVerif.Model.BitBuf
import SvtVerif.Lemmas.CSem
import Mathlib.Tactic.Linarith
import Mathlib.Tactic.Ring

namespace Lemmas.PadRecon
open CSem Padding ReconSize BitBuf

/-- `x ≤ 65528`: the padded value still fits 16 bits. -/
theorem padDim_closed (x : Int) (h0 : 0 ≤ x) (h1 : x ≤ 65528) :
    padDim x = ((8 - x % 8) % 8, x + (8 - x % 8) % 8) := by
  have hr : 0 ≤ x % 8 ∧ x % 8 < 8 := by omega
  unfold padDim MIN_BLOCK_SIZE
  generalize x % 8 = r at hr
  dsimp only
  split
  · rw [Int.emod_eq_of_lt (a := 8 - r) (by omega) (by omega), wrapU_of_range (n := 16) (x := 8 - r) (by omega) (by omega),
      wrapU_of_range (n := 16) (by omega) (by omega)]
  · rw [show r = 0 by omega]; simp

theorem padDim_spec (x : Int) (h0 : 0 ≤ x) (h1 : x ≤ 65528) :
    (padDim x).2 % 8 = 0 ∧ x ≤ (padDim x).2 ∧ (padDim x).2 < x + 8 ∧ (padDim x).1 = (padDim x).2 - x ∧
    0 ≤ (padDim x).1 ∧ (padDim x).1 < 8 := by
  rw [padDim_closed x h0 h1]
  omega

theorem padDim_least (x m : Int) (h0 : 0 ≤ x) (h1 : x ≤ 65528) (hm : m % 8 = 0) (hx : x ≤ m) : (padDim x).2 ≤ m := by
  obtain ⟨p1, _, p3, _⟩ := padDim_spec x h0 h1
  omega

/-- `2 ^ 1` is `setParamPad`'s `2 ^ ssx` at `ssx = 1` (4:2:0). -/
theorem chroma_half (x : Int) (h0 : 0 ≤ x) (h1 : x < 65536) (h2 : x % 8 = 0) : wrapU 16 (x / 2 ^ 1) * 2 = x := by
  rw [wrapU_of_range (n := 16) (by omega) (by omega)]
  omega

theorem mul_even_even (w h : Int) (hw : w % 2 = 0) (hh : h % 2 = 0) : (w * h) % 4 = 0 := by
  obtain ⟨a, rfl⟩ : ∃ a, w = 2 * a := ⟨w / 2, by omega⟩
  obtain ⟨b, rfl⟩ : ∃ b, h = 2 * b := ⟨h / 2, by omega⟩
  rw [show 2 * a * (2 * b) = 4 * (a * b) by ring]
  exact Int.mul_emod_right 4 (a * b)

/-- Allocation and increments as `recon_output` has them (each a `uint32_t`), for values that fit `int`. -/
theorem planes_fit (alloc y c : Int) (h0 : 0 ≤ c) (h1 : c ≤ y) (h2 : y + c + c ≤ alloc) (h3 : alloc < 2 ^ 31) :
    checksPass (wrapU 32 alloc) 0 [wrapU 32 y, wrapU 32 c, wrapU 32 c] = true ∧
    filledAfter 0 [wrapU 32 y, wrapU 32 c, wrapU 32 c] = [y, y + c, y + c + c] ∧
    y + c + c ≤ wrapU 32 alloc ∧ wrapU 32 alloc < 2 ^ 31 := by
  simp (disch := omega) only [wrapU_of_range, Int.zero_add, checksPass, filledAfter, Bool.and_true, Bool.and_eq_true,
    decide_eq_true_eq, true_and]
  omega

/-- `A`: the visible samples; `4 ∣ A`: 4:2:0; `3 * (W * H)`: the allocation at 16-bit samples. -/
theorem recon_fit (W H padR padB bd A : Int) (hA : (W - padR) * (H - padB) = A) (a0 : 0 ≤ A) (a1 : A ≤ W * H)
    (a2 : 3 * (W * H) < 2 ^ 31) (a3 : A % 4 = 0) :
    checksPass (reconAlloc W H bd) 0 (reconIncs W H padR padB bd) = true ∧
    filledAfter 0 (reconIncs W H padR padB bd) = [A * 2 ^ is16 bd, (A + A / 4) * 2 ^ is16 bd, (A + A / 2) * 2 ^ is16 bd] ∧
    (A + A / 2) * 2 ^ is16 bd ≤ reconAlloc W H bd ∧ reconAlloc W H bd < 2 ^ 31 := by
  have hk : (2 : Int) ^ is16 bd = 1 ∨ (2 : Int) ^ is16 bd = 2 := by unfold is16; split <;> simp
  have e : A / 2 = A / 4 + A / 4 := by omega
  unfold reconAlloc reconIncs
  rw [hA]
  generalize W * H = B at a1 a2
  generalize (2 : Int) ^ is16 bd = k at hk
  rw [wrapU_of_range (n := 32) (x := B) (by omega) (by omega)]
  -- distribute the sample size `k` over the sums: the goal becomes `planes_fit` for `y = A * k`, `c = A / 4 * k`
  simp only [e, ← Int.add_assoc, Int.add_mul]
  refine planes_fit _ _ _ ?_ ?_ ?_ ?_ <;> rcases hk with rfl | rfl <;> omega

theorem copyExtent_full (w h bps : Int) (hw : 0 < w) (hh : 0 < h) : copyExtent w w h bps = w * h * bps := by
  unfold copyExtent
  rw [if_neg (by omega)]; ring

/-- `aw ≤ stride`: super-resolution (`width ≤ max_width`). -/
theorem copyExtent_le (stride aw ah bps : Int) (hs : aw ≤ stride) (hb : 0 ≤ bps) (hah : 0 ≤ ah) (hst : 0 ≤ stride) :
    copyExtent stride aw ah bps ≤ stride * ah * bps := by
  unfold copyExtent
  split
  · positivity
  · have h1 : aw * bps ≤ stride * bps := Int.mul_le_mul_of_nonneg_right hs hb
    nlinarith

theorem sum_nonneg' : ∀ (l : List Int), (∀ x ∈ l, 0 ≤ x) → 0 ≤ l.sum
  | [], _ => by simp
  | x :: xs, h => by
    have h1 := h x (by simp)
    have h2 := sum_nonneg' xs (fun y hy => h y (List.mem_cons_of_mem _ hy))
    simp only [List.sum_cons]; omega

theorem appendTiles_total (picBuf tsz : Int) : ∀ (tiles : List Int) (cur : Int), tiles ≠ [] →
    (appendTiles picBuf tsz cur tiles).1 = cur + tiles.sum + tsz * ((tiles.length : Int) - 1)
  | [], _, h => absurd rfl h
  | [t], cur, _ => by simp [appendTiles]
  | t :: u :: ts, cur, _ => by
    have ih := appendTiles_total picBuf tsz (u :: ts) (cur + tsz + t) (by simp)
    simp only [appendTiles, ih, List.sum_cons, List.length_cons]
    push_cast; ring

/-- The last copy ends at the total, the earlier ones before it. -/
theorem appendTiles_inBounds (picBuf tsz : Int) (ht : 0 ≤ tsz) : ∀ (tiles : List Int) (cur : Int), tiles ≠ [] → 0 ≤ cur →
    (∀ t ∈ tiles, 0 ≤ t) →
    ((appendTiles picBuf tsz cur tiles).2 = true ↔ cur + tiles.sum + tsz * ((tiles.length : Int) - 1) ≤ picBuf)
  | [], _, h, _, _ => absurd rfl h
  | [t], cur, _, hc, hpos => by
    have := hpos t (by simp)
    simp only [appendTiles, copyInBounds, decide_eq_true_eq, List.sum_cons, List.sum_nil, List.length_cons, List.length_nil]
    omega
  | t :: u :: ts, cur, _, hc, hpos => by
    have h0 := hpos t (by simp)
    have hrest : ∀ x ∈ u :: ts, 0 ≤ x := fun x hx => hpos x (List.mem_cons_of_mem _ hx)
    have ih := appendTiles_inBounds picBuf tsz ht (u :: ts) (cur + tsz + t) (by simp) (by omega) hrest
    have hs : 0 ≤ (u :: ts).sum := sum_nonneg' _ hrest
    have hl : 0 ≤ tsz * (ts.length : Int) := Int.mul_nonneg ht (by omega)
    simp only [appendTiles, Bool.and_eq_true, ih, copyInBounds, decide_eq_true_eq, List.sum_cons, List.length_cons] at hs ⊢
    push_cast
    constructor
    · rintro ⟨_, h⟩; linarith
    · intro h; exact ⟨⟨by omega, h0, by linarith⟩, by linarith⟩

end Lemmas.PadRecon
