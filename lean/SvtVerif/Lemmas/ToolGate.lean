/-
  Helper lemmas for C20 (tool gating).
-/
import SvtVerif.Model.ToolGate

namespace ToolGate

theorem truthy_zero : truthy 0 = false := by decide
theorem truthy_one : truthy 1 = true := by decide
theorem u8_zero : u8 0 = 0 := by decide
theorem u8_one : u8 1 = 1 := by decide
theorem default_ne_one : ((1 : Int) == DEFAULT) = false := by decide
theorem one_bne_default : ((1 : Int) != DEFAULT) = true := by decide

/-- The internal allow_intrabc can only be set on an I slice. -/
theorem allowIntrabc_inter (c : Cfg) (p : Pic) (h : p.iSlice = false) : allowIntrabc c p = false := by
  simp [allowIntrabc, h]

/-- The decoded allow_intrabc implies allow_screen_content_tools. -/
theorem hdrAllowIntrabc_imp_sct (c : Cfg) (p : Pic) (h : hdrAllowIntrabc c p = true) : allowSct c p = true := by
  simp [hdrAllowIntrabc] at h; exact h.1.1

theorem palette_zero_of_no_sct (c : Cfg) (p : Pic) (h : allowSct c p = false) : picPaletteLevel c p = 0 := by
  simp [picPaletteLevel, h]

theorem mdPalette_zero_of_pic_zero (c : Cfg) (p : Pic) (pd : Nat) (h : picPaletteLevel c p = 0) : mdPaletteLevel c p pd = 0 := by
  rw [mdPaletteLevel, h]
  exact ite_self _

theorem all_zero_replicate7 : ([0, 0, 0, 0, 0, 0, 0] : List Nat).all (· == 0) = true := by decide

end ToolGate
