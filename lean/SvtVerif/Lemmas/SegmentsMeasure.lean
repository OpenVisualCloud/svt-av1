/-
  C24 — termination measure for the assign protocol: every atomic step of `Seg.assignStep` (from a state
  satisfying the invariant) strictly increases the sum of the per-segment phases, which is bounded by
  `4 * R * B`.  Hence every execution from a reachable state has at most `4 * R * B` steps.
-/
import SvtVerif.Lemmas.Segments

namespace Seg

/-- the measure: sum of the phases of the first `n` segments -/
def phSum (st : ASt) (n : Nat) : Nat := ((List.range n).map (fun t => aget st.ph t)).sum

theorem sum_range_succ' (f : Nat → Nat) (n : Nat) :
    ((List.range (n + 1)).map f).sum = ((List.range n).map f).sum + f n := by
  rw [List.range_succ, List.map_append, List.sum_append]
  simp

theorem sum_le_of_le {f f' : Nat → Nat} (hle : ∀ t, f t ≤ f' t) (n : Nat) :
    ((List.range n).map f).sum ≤ ((List.range n).map f').sum := by
  induction n with
  | zero => simp
  | succ n ih =>
    rw [sum_range_succ', sum_range_succ']
    have := hle n
    omega

theorem sum_lt_of_le_of_lt {f f' : Nat → Nat} (hle : ∀ t, f t ≤ f' t) {n t0 : Nat} (ht : t0 < n)
    (hlt : f t0 < f' t0) : ((List.range n).map f).sum < ((List.range n).map f').sum := by
  induction n with
  | zero => omega
  | succ n ih =>
    rw [sum_range_succ', sum_range_succ']
    by_cases e : t0 = n
    · subst e
      have := sum_le_of_le hle t0
      omega
    · have := ih (by omega)
      have := hle n
      omega

theorem sum_le_const {f : Nat → Nat} {c : Nat} (hle : ∀ t, f t ≤ c) (n : Nat) :
    ((List.range n).map f).sum ≤ c * n := by
  induction n with
  | zero => simp
  | succ n ih =>
    rw [sum_range_succ', Nat.mul_succ]
    have := hle n
    omega

variable {g : SegCtl}

/-!

  Which branch a step took can be read off its result: the branches that do not do what the protocol intends
  set `err`, and the invariant says that the successor state has `err = 0`. -/

structure PhLe (a b : Array Nat) : Prop where
  size : b.size = a.size
  le : ∀ t, aget a t ≤ aget b t
  keep : ∀ t, aget a t ≠ 0 → aget b t = aget a t

theorem PhLe.refl (a : Array Nat) : PhLe a a := ⟨rfl, fun _ => Nat.le_refl _, fun _ _ => rfl⟩

theorem startRowCurrent_ph {st : ASt} {r : Nat} (he : (startRowCurrent st r).err = 0) :
    PhLe st.ph (startRowCurrent st r).ph ∧
    ∃ t, t < st.ph.size ∧ aget st.ph t < aget (startRowCurrent st r).ph t := by
  simp only [startRowCurrent, startSeg] at he ⊢
  split at he
  · rename_i hc
    rw [if_pos hc]
    obtain ⟨hs, h0⟩ : aget st.cur r < st.ph.size ∧ aget st.ph (aget st.cur r) = 0 := hc
    have e := aget_aset' hs 1
    refine ⟨⟨size_aset _ _ _, fun t => ?_, fun t ht => ?_⟩, _, hs, ?_⟩
    · show aget st.ph t ≤ aget (aset st.ph _ 1) t
      rw [e]; split
      · subst_vars; omega
      · exact Nat.le_refl _
    · show aget (aset st.ph _ 1) t = _
      rw [e, if_neg (fun (h : t = _) => ht (h ▸ h0))]
    · show _ < aget (aset st.ph _ 1) _
      rw [e, if_pos rfl, h0]; exact Nat.one_pos
  · cases he

theorem advance_ph {a b : Array Nat} (h : PhLe a b) {s p : Nat} (hs : s < a.size) (hq : aget a s ≠ 0)
    (hlt : aget a s < p) :
    (∀ t, aget a t ≤ aget (aset b s p) t) ∧ ∃ t, t < a.size ∧ aget a t < aget (aset b s p) t := by
  have e := aget_aset' (h.size ▸ hs) p
  refine ⟨fun t => ?_, s, hs, by rw [e, if_pos rfl]; exact hlt⟩
  rw [e]; split
  · subst_vars; exact hlt.le
  · exact h.le t

theorem step_ph {st st' : ASt} {op : Op} (h : assignStep g st op = some st') (he : st'.err = 0) :
    (∀ t, aget st.ph t ≤ aget st'.ph t) ∧ ∃ t, t < st.ph.size ∧ aget st.ph t < aget st'.ph t := by
  cases op with
  | take k =>
    obtain ⟨_, ⟨_, rfl⟩ | ⟨r, _, rfl⟩⟩ := take_some h
    all_goals
      obtain ⟨hle, ht⟩ := startRowCurrent_ph he
      exact ⟨hle.le, ht⟩
  | fin s =>
    obtain ⟨_, ⟨hs, hph⟩, rfl⟩ := fin_some h
    refine advance_ph (PhLe.refl _) hs (by omega) ?_
    rw [hph]; split
    · omega
    · split <;> omega
  | right s =>
    obtain ⟨_, ⟨hs, hph⟩, ⟨_, rfl⟩ | ⟨_, rfl⟩⟩ := right_some h
    · exact absurd he (Nat.succ_ne_zero 1)
    have hp : aget st.ph s < if hasBottom g s = true then 3 else 4 := by rw [hph]; split <;> omega
    by_cases hd : u8 (aget st.dep (u32 (s + 1)) + 255) = 0
    · simp only [rightResult, hd, if_true] at he ⊢
      exact advance_ph (a := st.ph) (startRowCurrent_ph he).1 hs (by omega) hp
    · simp only [rightResult, hd, if_false]
      exact advance_ph (a := st.ph) (PhLe.refl _) hs (by omega) hp
  | bottom s =>
    obtain ⟨_, ⟨hs, hph⟩, ⟨_, rfl⟩ | ⟨_, rfl⟩⟩ := bottom_some h
    · exact absurd he (Nat.succ_ne_zero 1)
    by_cases hd : u8 (aget st.dep (u32 (s + g.segBandCount)) + 255) = 0
    · by_cases hself : aget st.selfA s = 1
      · simp only [bottomResult, hd, hself, if_true]
        exact advance_ph (a := st.ph) (PhLe.refl _) hs (by omega) (by omega)
      · simp only [bottomResult, hd, hself, if_true, if_false] at he ⊢
        exact advance_ph (a := st.ph) (startRowCurrent_ph he).1 hs (by omega) (by omega)
    · simp only [bottomResult, hd, if_false]
      exact advance_ph (a := st.ph) (PhLe.refl _) hs (by omega) (by omega)

/-- `Steps g st k st'`: `st'` is reached from `st` by exactly `k` atomic steps -/
inductive Steps (g : SegCtl) : ASt → Nat → ASt → Prop where
  | refl (st : ASt) : Steps g st 0 st
  | step {st st' st'' : ASt} {k : Nat} {op : Op} :
      assignStep g st op = some st' → Steps g st' k st'' → Steps g st (k + 1) st''

theorem steps_measure (hw : WF g) {st st' : ASt} {k : Nat} (hi : Inv g st) (h : Steps g st k st') :
    Inv g st' ∧ phSum st (g.segRowCount * g.segBandCount) + k ≤ phSum st' (g.segRowCount * g.segBandCount) := by
  induction h with
  | refl st => exact ⟨hi, Nat.le_refl _⟩
  | step hs _ ih =>
    obtain ⟨hi', hle⟩ := ih (inv_step hw hi hs)
    obtain ⟨hmono, t, ht, hlt⟩ := step_ph hs (inv_step hw hi hs).1.err0
    have := sum_lt_of_le_of_lt (f := fun t => aget _ t) (f' := fun t => aget _ t) hmono (hi.1.sz_ph ▸ ht) hlt
    exact ⟨hi', by unfold phSum at *; omega⟩

theorem steps_bounded (hw : WF g) {st st' : ASt} {k : Nat} (hr : Reachable g st) (h : Steps g st k st') :
    k ≤ 4 * (g.segRowCount * g.segBandCount) := by
  obtain ⟨hi', hle⟩ := steps_measure hw (reachable_inv hw hr) h
  have := sum_le_const (f := fun t => aget st'.ph t) hi'.1.ph_le (g.segRowCount * g.segBandCount)
  unfold phSum at hle
  omega

theorem steps_reachable {st st' : ASt} {k : Nat} (hr : Reachable g st) (h : Steps g st k st') : Reachable g st' := by
  induction h with
  | refl st => exact hr
  | step hs _ ih => exact ih (Reachable.step hr hs)

end Seg
