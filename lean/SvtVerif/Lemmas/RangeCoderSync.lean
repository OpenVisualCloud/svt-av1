/-
  Range coder (C25): writer and reader run over the same operation sequence.
-/
import SvtVerif.Lemmas.RangeCoderEnc
import SvtVerif.Lemmas.RangeCoderDec

namespace RangeCoder

-- the `rfl`s below are meant up to `decodePrims` / `readOp` / `writeOp` only; left reducible, the coder's own functions
-- get unfolded in those checks as well, which does not finish
attribute [local irreducible] decodeBoolQ15 decodeCdfQ15 encodeBoolQ15 encodeCdfQ15 encodeLiteral updateCdf decUpdateCdf

-- projections, not a pattern-matching `let`: `.1` and `.2` of a `cons` then reduce without a case split on the pair
def decodePrims (dc : Dec) : List Prim → Dec × List Nat
  | [] => (dc, [])
  | p :: ps =>
    ((decodePrims (decodePrim dc p).1 ps).1, (decodePrim dc p).2 :: (decodePrims (decodePrim dc p).1 ps).2)

theorem readPrims_sync (X T Z : Nat) : ∀ (ps : List Prim) (a : AEnc) (b : ADec) (dc : Dec), AInv a →
    (∀ p ∈ ps, p.Valid) → Cont X T (aEncPrims a ps) → (aEncPrims a ps).k + 31 ≤ T → Rel X T a b → DecRel Z dc b →
    ∃ b', (decodePrims dc ps).2 = ps.map Prim.value ∧ Rel X T (aEncPrims a ps) b' ∧ DecRel Z (decodePrims dc ps).1 b'
  | [], _, b, _, _, _, _, _, hr, hd => ⟨b, rfl, hr, hd⟩
  | p :: ps, a, b, dc, ha, hv, hc, hT, hr, hd => by
    have hp := hv p List.mem_cons_self
    have hv' : ∀ q ∈ ps, q.Valid := fun q hq => hv q (List.mem_cons_of_mem _ hq)
    have ha' := aEncPrim_inv a p ha hp
    obtain ⟨-, hk, hcont⟩ := aEncPrims_spec ps _ ha' hv'
    have I := prim_interval a.r p ha.1 ha.2 hp
    obtain ⟨s1, s2, s3⟩ := rel_step X T a b _ _ I.1 I.2 (hcont X T hc) hr
    have hbr : b.r = a.r := hr.1
    have hbe := hr.2.1
    -- the reader has at least 16 bits of precision left for this step: `k` after the step is at most `T − 31`
    have hk' : a.k + normShift (primU a.r p - primV a.r p) ≤ (aEncPrims (aEncPrim a p) ps).k := hk
    have hT' : (aEncPrims (aEncPrim a p) ps).k + 31 ≤ T := hT
    have R := readPrim_spec Z dc b p hd hp (hbr ▸ s1) (hbr ▸ s2) (by rw [hbr]; omega)
    rw [hbr] at R
    obtain ⟨b', i1, i2, i3⟩ := readPrims_sync X T Z ps (aEncPrim a p) _ (decodePrim dc p).1 ha' hv' hc hT s3 R.2
    exact ⟨b', by rw [decodePrims, List.map_cons, i1, R.1], i2, i3⟩

/-- the accumulator of `aom_read_literal_` collects `v mod 2^nb` from the top down -/
theorem lit_acc (v b acc : Nat) (hd : 2 ^ (b + 1) ∣ acc) :
    2 ^ b ∣ acc ||| ((v >>> b &&& 1) <<< b) ∧
    (acc ||| ((v >>> b &&& 1) <<< b)) + v % 2 ^ b = acc + v % 2 ^ (b + 1) := by
  obtain ⟨m, rfl⟩ := hd
  have hlt : (v / 2 ^ b % 2) * 2 ^ b < 2 ^ (b + 1) := by
    rw [Nat.pow_succ, Nat.mul_comm (2 ^ b) 2]
    exact Nat.mul_lt_mul_of_pos_right (Nat.mod_lt _ (by decide)) (Nat.two_pow_pos b)
  rw [Nat.and_one_is_mod, Nat.shiftRight_eq_div_pow, Nat.shiftLeft_eq, ← Nat.two_pow_add_eq_or_of_lt hlt m,
    Nat.mod_pow_succ (k := b), Nat.pow_succ]
  exact ⟨⟨2 * m + v / 2 ^ b % 2, by rw [Nat.mul_add, Nat.mul_assoc, Nat.mul_comm (2 ^ b) (v / 2 ^ b % 2)]⟩,
    by rw [Nat.mul_comm (2 ^ b) (v / 2 ^ b % 2)]; omega⟩

theorem decodeLiteral_spec (v : Nat) : ∀ (nb : Nat) (dc : Dec) (acc : Nat),
    (decodePrims dc (litPrims v nb)).2 = (litPrims v nb).map Prim.value → 2 ^ nb ∣ acc →
    decodeLiteral dc acc nb = ((decodePrims dc (litPrims v nb)).1, acc + v % 2 ^ nb)
  | 0, dc, acc, _, _ => by rw [Nat.pow_zero, Nat.mod_one]; rfl
  | b + 1, dc, acc, h, hd => by
    obtain ⟨h1, h2⟩ := List.cons.inj h
    have h1 : (decodeBoolQ15 dc 16384).2 = v >>> b &&& 1 := h1
    obtain ⟨hdv, hfin⟩ := lit_acc v b acc hd
    rw [← h1] at hdv
    rw [← hfin, ← h1, decodeLiteral, probToQ15_half]
    exact decodeLiteral_spec v b (decodeBoolQ15 dc 16384).1 _ h2 hdv

theorem readOp_shape (r : Reader) (op : Op) : readOp r op.shape = readOp r op := by
  cases op <;> rfl

theorem readOp_spec (r : Reader) (w : Writer) (op : Op) (htabs : r.tabs = w.tabs) (hadapt : r.adapt = w.adapt)
    (hv : OpValid w.tabs op)
    (hdec : (decodePrims r.dec (opPrims w.tabs op)).2 = (opPrims w.tabs op).map Prim.value) :
    (readOp r op).2 = op.value ∧ (readOp r op).1.dec = (decodePrims r.dec (opPrims w.tabs op)).1 ∧
    (readOp r op).1.tabs = (writeOp w op).tabs ∧ (readOp r op).1.adapt = (writeOp w op).adapt := by
  cases op with
  | sym id s =>
    have hs : (decodeCdfQ15 r.dec (w.tabs.getD id []) (nsymsOf (w.tabs.getD id []))).2 = s := (List.cons.inj hdec).1
    have hU := updateCdf_eq_dec (w.tabs.getD id []) s (nsymsOf (w.tabs.getD id [])) hv.2.1.isU16
    subst hs
    rw [readOp, writeOp, htabs, hadapt, hU]
    cases w.adapt <;> exact ⟨rfl, rfl, rfl, rfl⟩
  | bool f bit => exact ⟨(List.cons.inj hdec).1, rfl, htabs, hadapt⟩
  | lit nb v =>
    have L := decodeLiteral_spec v nb r.dec 0 hdec (Nat.dvd_zero _)
    rw [Nat.zero_add, Nat.mod_eq_of_lt hv] at L
    rw [readOp, L]
    exact ⟨rfl, rfl, htabs, hadapt⟩
  | adapt a => exact ⟨rfl, rfl, htabs, rfl⟩

theorem readOps_sync (X T Z : Nat) : ∀ (ops : List Op) (w : Writer) (r : Reader) (b : ADec) (acc : List Nat),
    EncInv w.enc → OpsValid w.tabs ops → r.tabs = w.tabs → r.adapt = w.adapt →
    Cont X T (absEnc (writeOps w ops).enc) → (absEnc (writeOps w ops).enc).k + 31 ≤ T →
    Rel X T (absEnc w.enc) b → DecRel Z r.dec b →
    (readOpsAux r acc ops).2 = acc.reverse ++ ops.map Op.value ∧
    (readOpsAux r acc ops).1.tabs = (writeOps w ops).tabs
  | [], w, r, b, acc, _, _, ht, _, _, _, _, _ => ⟨(List.append_nil _).symm, ht⟩
  | op :: ops, w, r, b, acc, hi, hv, ht, hadp, hc, hT, hr, hd => by
    have h1 := hv op List.mem_cons_self
    have hv' := opsValid_writeOp w op ops h1 (fun o ho => hv o (List.mem_cons_of_mem _ ho))
    have S := writeOp_spec w op hi h1
    rw [writeOps_cons] at hc hT
    obtain ⟨-, hk, hcont⟩ := writeOps_spec ops (writeOp w op) S.1 hv'
    have hc1 := hcont X T hc
    rw [S.2] at hc1 hk
    obtain ⟨b', j1, j2, j3⟩ := readPrims_sync X T Z (opPrims w.tabs op) (absEnc w.enc) b r.dec hi.ainv
      (opPrims_valid w.tabs op h1) hc1 (by omega) hr hd
    obtain ⟨o1, o2, o3, o4⟩ := readOp_spec r w op ht hadp h1 j1
    rw [← S.2] at j2
    rw [← o2] at j3
    obtain ⟨i1, i2⟩ :=
      readOps_sync X T Z ops (writeOp w op) (readOp r op).1 b' ((readOp r op).2 :: acc) S.1 hv' o3 o4 hc hT j2 j3
    rw [readOpsAux, writeOps_cons, i1, i2, o1, List.reverse_cons, List.append_assoc]
    exact ⟨rfl, rfl⟩

end RangeCoder
