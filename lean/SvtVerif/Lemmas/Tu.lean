/-
  Helper lemmas for the temporal-unit structure theorem (C02).
-/
import SvtVerif.Model.Tu

namespace TuLemmas
open Obu Tu

theorem first_byte_fields : ∀ (ft : Fin 4) (sf : Bool) (low : Fin 16),
    let b := (ft.val * 32 + (if sf then 16 else 0) + low.val).toUInt8.toNat
    (b >>> 7 == 1) = false ∧ (b >>> 5) &&& 3 = ft.val ∧ ((b >>> 4) &&& 1 == 1) = sf := by decide

theorem show_existing_byte : ∀ (idx : Fin 8),
    ((128 + idx.val * 16 + 8).toUInt8.toNat >>> 7 == 1) = true := by decide

theorem frameObu_fields (e : Entry) :
    obuShowExisting (frameObu e) = false ∧ obuFrameType (frameObu e) = e.frameType % 4 ∧
      obuShowFrame (frameObu e) = e.showFrame :=
  first_byte_fields ⟨e.frameType % 4, Nat.mod_lt _ (by decide)⟩ e.showFrame ⟨e.hdrLow % 16, Nat.mod_lt _ (by decide)⟩

theorem showExistingObu_fields (e : Entry) : obuShowExisting (showExistingObu e) = true :=
  show_existing_byte ⟨e.showExistingIdx % 8, Nat.mod_lt _ (by decide)⟩

theorem scanStep_md (s : Scan) (m : List UInt8) : scanStep s (mdObu m) = { s with lastDisplayed := false } := rfl

theorem scanStep_seq (s : Scan) (e : Entry) :
    scanStep s (seqObu e) = { s with seqSeen := true, lastDisplayed := false } := rfl

theorem scanStep_frame (s : Scan) (e : Entry) : scanStep s (frameObu e) =
    { seqSeen := false, nDisplayed := s.nDisplayed + (if e.showFrame then 1 else 0),
      lastDisplayed := e.showFrame, ok := s.ok && (e.frameType % 4 != 0 || s.seqSeen) } := by
  obtain ⟨f1, f2, f3⟩ := frameObu_fields e
  have h : scanStep s (frameObu e) = if obuShowExisting (frameObu e) then { s with ok := false } else
      { seqSeen := false, nDisplayed := s.nDisplayed + (if obuShowFrame (frameObu e) then 1 else 0),
        lastDisplayed := obuShowFrame (frameObu e), ok := s.ok && (obuFrameType (frameObu e) != 0 || s.seqSeen) } := rfl
  rw [h, f1, f2, f3]; rfl

theorem scanStep_showExisting (s : Scan) (e : Entry) : scanStep s (showExistingObu e) =
    { seqSeen := false, nDisplayed := s.nDisplayed + 1, lastDisplayed := true, ok := s.ok } := by
  have h : scanStep s (showExistingObu e) = if obuShowExisting (showExistingObu e) then
      { seqSeen := false, nDisplayed := s.nDisplayed + 1, lastDisplayed := true, ok := s.ok } else { s with ok := false } := rfl
  rw [h, showExistingObu_fields e]; rfl

theorem scan_metadata (mds : List (List UInt8)) (s : Scan) :
    ((mds.map mdObu).foldl scanStep s).ok = s.ok ∧
    ((mds.map mdObu).foldl scanStep s).nDisplayed = s.nDisplayed ∧
    ((mds.map mdObu).foldl scanStep s).seqSeen = s.seqSeen := by
  induction mds generalizing s with
  | nil => exact ⟨rfl, rfl, rfl⟩
  | cons m ms ih => exact ih (scanStep s (mdObu m))

theorem scan_entry (e : Entry) (s : Scan) :
    ((entryObus e).foldl scanStep s).ok = s.ok ∧
    ((entryObus e).foldl scanStep s).nDisplayed = s.nDisplayed + (if e.showFrame then 1 else 0) ∧
    ((entryObus e).foldl scanStep s).lastDisplayed = e.showFrame := by
  by_cases hk : e.frameType % 4 = 0
  · -- key frame: the sequence header comes first
    obtain ⟨m1, m2, m3⟩ := scan_metadata e.metadata (scanStep s (seqObu e))
    simp only [entryObus, hk, if_true, List.cons_append, List.nil_append, List.foldl_cons, List.foldl_append,
      List.foldl_nil, scanStep_frame, m1, m2, m3]
    exact ⟨Bool.and_true _, rfl, trivial⟩
  · obtain ⟨m1, m2, _⟩ := scan_metadata e.metadata s
    simp only [entryObus, hk, if_false, List.nil_append, List.foldl_cons, List.foldl_append,
      List.foldl_nil, scanStep_frame, m1, m2]
    rw [bne_iff_ne.2 hk, Bool.true_or, Bool.and_true]
    exact ⟨rfl, trivial, trivial⟩

theorem scan_hidden (pre : List Entry) (hpre : ∀ e ∈ pre, e.showFrame = false) (s : Scan) :
    ((pre.flatMap entryObus).foldl scanStep s).ok = s.ok ∧
    ((pre.flatMap entryObus).foldl scanStep s).nDisplayed = s.nDisplayed := by
  induction pre generalizing s with
  | nil => simp
  | cons e es ih =>
    simp only [List.flatMap_cons, List.foldl_append]
    obtain ⟨h1, h2, _⟩ := scan_entry e s
    have he : e.showFrame = false := hpre e (by simp)
    obtain ⟨i1, i2⟩ := ih (fun x hx => hpre x (by simp [hx])) ((entryObus e).foldl scanStep s)
    simp only [he, Bool.false_eq_true, if_false, Nat.add_zero] at h2
    exact ⟨by rw [i1, h1], by rw [i2, h2]⟩

/-- `count_frames_in_next_tu` entered at index `i`: unless it returns 0 or runs off the end, the slots from `i` on start
    with present entries up to the returned index, of which only the last is shown. -/
theorem countGo_shape (slots : List (Option Entry)) : ∀ i : Nat, countGo slots i ≠ 0 → countGo slots i < i + slots.length →
    ∃ pre l rest, slots = (pre ++ [l]).map some ++ rest ∧ (∀ e ∈ pre, e.showFrame = false) ∧ l.showFrame = true ∧
      countGo slots i = i + pre.length + 1 := by
  induction slots with
  | nil => exact fun i _ h => absurd h (Nat.lt_irrefl i)
  | cons s rest ih =>
    intro i h0 hlt
    cases s with
    | none => exact absurd rfl h0
    | some e =>
      unfold countGo at h0 hlt ⊢
      by_cases hs : e.showFrame = true
      · exact ⟨[], e, rest, rfl, nofun, hs, by rw [if_pos hs]; rfl⟩
      · rw [if_neg hs] at h0 hlt ⊢
        obtain ⟨pre, l, r, h1, h2, h3, h4⟩ := ih (i + 1) h0 (by rw [List.length_cons] at hlt; omega)
        exact ⟨e :: pre, l, r, by rw [h1]; rfl,
          fun x hx => (List.mem_cons.1 hx).elim (fun hx => hx ▸ Bool.eq_false_iff.2 hs) (h2 x), h3,
          by rw [h4, List.length_cons]; omega⟩

theorem encodeTuObus_plain (es : List Entry) : ∀ o ∈ encodeTuObus es, validObuType o.obuType = true ∧ o.ext = none := by
  intro o ho
  simp only [encodeTuObus, List.mem_cons, List.mem_flatMap] at ho
  rcases ho with rfl | ⟨e, _, he⟩
  · exact ⟨by decide, rfl⟩
  · simp only [entryObus, List.mem_append, List.mem_map, List.mem_singleton] at he
    rcases he with (he | ⟨m, _, rfl⟩) | rfl
    · split at he
      · simp only [List.mem_singleton] at he; subst he; exact ⟨rfl, rfl⟩
      · simp at he
    · exact ⟨rfl, rfl⟩
    · exact ⟨rfl, rfl⟩

end TuLemmas
