/- Lemmas for C18. Facts about the generated table are proved by evaluation, so they are re-checked whenever it is regenerated. -/
import SvtVerif.Model.QpTail
import SvtVerif.Lemmas.CSem
import SvtVerif.Lemmas.Bits
import Mathlib.Tactic.Linarith

namespace QpTail
open CSem Gen.QTable

theorem tbl_length : quantizerToQindex.length = 64 := by decide

theorem tbl_pairwise : quantizerToQindex.Pairwise (· < ·) :=
  List.isChain_iff_pairwise.mp (by decide +kernel)

theorem q2q_nat (i : Nat) (h : i < 64) : q2q (i : Int) = ((quantizerToQindex[i]'(by rw [tbl_length]; exact h) : Nat) : Int) := by
  have hl : i < quantizerToQindex.length := by rw [tbl_length]; exact h
  unfold q2q
  rw [if_neg (by omega)]
  simp [List.getD_eq_getElem?_getD, List.getElem?_eq_getElem hl]

theorem q2q_lt (a b : Int) (ha : 0 ≤ a) (hab : a < b) (hb : b ≤ 63) : q2q a < q2q b := by
  obtain ⟨a', rfl⟩ := Int.eq_ofNat_of_zero_le ha
  obtain ⟨b', rfl⟩ := Int.eq_ofNat_of_zero_le (by omega : 0 ≤ b)
  rw [q2q_nat a' (by omega), q2q_nat b' (by omega)]
  exact_mod_cast List.pairwise_iff_getElem.mp tbl_pairwise a' b' (by rw [tbl_length]; omega) (by rw [tbl_length]; omega)
    (by omega)

theorem q2q_le (a b : Int) (ha : 0 ≤ a) (hab : a ≤ b) (hb : b ≤ 63) : q2q a ≤ q2q b := by
  rcases Int.lt_or_eq_of_le hab with h | h
  · exact Int.le_of_lt (q2q_lt a b ha h hb)
  · rw [h]

theorem q2q_range (a : Int) (ha : 0 ≤ a) (hb : a ≤ 63) : 0 ≤ q2q a ∧ q2q a ≤ 255 :=
  show q2q 0 ≤ q2q a ∧ q2q a ≤ q2q 63 from ⟨q2q_le 0 a le_rfl ha hb, q2q_le a 63 ha hb le_rfl⟩

theorem q2q_roundtrip (p : Int) (h0 : 0 ≤ p) (h1 : p ≤ 63) : shr (q2q p + 2) 2 = if p = 63 then 64 else p := by
  have fin : ∀ n : Fin 64, shr (q2q n.val + 2) 2 = if (n.val : Int) = 63 then (64 : Int) else (n.val : Int) := by
    decide +kernel
  obtain ⟨n, rfl⟩ := Int.eq_ofNat_of_zero_le h0
  exact fin ⟨n, by omega⟩

theorem wrapU8_range (x : Int) : 0 ≤ wrapU8 x ∧ wrapU8 x < 256 := wrapU_range 8 x

theorem clip3_eq_max_min (lo hi x : Int) (h : lo ≤ hi) : clip3 lo hi x = max lo (min hi x) := by
  unfold clip3; split_ifs <;> omega

theorem clip3_bounds (lo hi x : Int) (h : lo ≤ hi) : lo ≤ clip3 lo hi x ∧ clip3 lo hi x ≤ hi :=
  clip3_eq_max_min lo hi x h ▸ ⟨le_max_left _ _, max_le h (min_le_left _ _)⟩

theorem clip3_id (lo hi x : Int) (h0 : lo ≤ x) (h1 : x ≤ hi) : clip3 lo hi x = x := by
  rw [clip3_eq_max_min lo hi x (h0.trans h1), min_eq_right h1, max_eq_right h0]

theorem wrapU8_clip3 (lo hi x : Int) (h0 : 0 ≤ lo) (h1 : lo ≤ hi) (h2 : hi < 256) : wrapU8 (clip3 lo hi x) = clip3 lo hi x := by
  have hb := clip3_bounds lo hi x h1
  exact wrapU_of_range (by omega) (by omega)

/-- What every assignment of the quantizer establishes (each assigning branch of the tail, and the recode loop). -/
structure QpInv (mn mx base pq : Int) : Prop where
  lo : q2q mn ≤ base
  hi : base ≤ q2q mx
  qp : pq = clip3 mn mx (shr (base + 2) 2)

theorem QpInv.qp_bounds {mn mx base pq : Int} (h : QpInv mn mx base pq) (h1 : mn ≤ mx) : mn ≤ pq ∧ pq ≤ mx :=
  h.qp ▸ clip3_bounds mn mx _ h1

theorem clip_roundtrip (mn mx p : Int) (h0 : 0 ≤ mn) (h1 : mn ≤ p) (h2 : p ≤ mx) (h3 : mx ≤ 63) :
    clip3 mn mx (shr (q2q p + 2) 2) = p := by
  rw [q2q_roundtrip p (by omega) (by omega)]
  split
  · -- `p = 63`: the shift gives 64, and `max = 63`
    unfold clip3
    rw [if_neg (by omega), if_pos (by omega)]
    omega
  · exact clip3_id mn mx p h1 h2

section
/-! Bounds as `verify_settings` leaves them. -/
variable {mn mx : Int} (h0 : 0 ≤ mn) (h1 : mn ≤ mx) (h2 : mx ≤ 63)
include h0 h1 h2

theorem bounds_wrap : wrapU32 mn = mn ∧ wrapU32 mx = mx ∧ wrapI32 mn = mn ∧ wrapI32 mx = mx :=
  ⟨wrapU_of_range h0 (by omega), wrapU_of_range (by omega) (by omega), Bits.wrapS32_id _ (by omega) (by omega),
    Bits.wrapS32_id _ (by omega) (by omega)⟩

theorem clampQidx_eq (q : Int) : clampQidx mn mx q = clip3 (q2q mn) (q2q mx) (wrapI32 q) := by
  have r2 := q2q_range mx (by omega) h2
  exact wrapU8_clip3 _ _ _ (q2q_range mn h0 (by omega)).1 (q2q_le mn mx h0 h1 h2) (by omega)

theorem qpFromQidx_eq (b : Int) : qpFromQidx mn mx b = clip3 mn mx (shr (b + 2) 2) := by
  unfold qpFromQidx
  rw [(bounds_wrap h0 h1 h2).2.2.1, (bounds_wrap h0 h1 h2).2.2.2]
  exact wrapU8_clip3 _ _ _ h0 h1 (by omega)

theorem QpInv.of_index (q : Int) : QpInv mn mx (clampQidx mn mx q) (qpFromQidx mn mx (clampQidx mn mx q)) := by
  have hb := clip3_bounds _ _ (wrapI32 q) (q2q_le mn mx h0 h1 h2)
  rw [← clampQidx_eq h0 h1 h2 q] at hb
  exact ⟨hb.1, hb.2, qpFromQidx_eq h0 h1 h2 _⟩

theorem QpInv.of_qp (x : Int) : QpInv mn mx (q2q (wrapU8 (clip3 mn mx x))) (wrapU8 (clip3 mn mx x)) := by
  rw [wrapU8_clip3 mn mx x h0 h1 (by omega)]
  have hb := clip3_bounds mn mx x h1
  exact ⟨q2q_le _ _ h0 hb.1 (by omega), q2q_le _ _ (by omega) hb.2 h2, (clip_roundtrip mn mx _ h0 hb.1 hb.2 h2).symm⟩

theorem recodeClamp_inv (q : Int) : QpInv mn mx (recodeClamp mn mx q).1 (recodeClamp mn mx q).2 := by
  unfold recodeClamp
  rw [(bounds_wrap h0 h1 h2).1, (bounds_wrap h0 h1 h2).2.1]
  exact .of_index h0 h1 h2 _

end

/-- Mode 0: the four ways out in the order the C code tests them; the bounds as converted to their C type. -/
theorem rcTail_cqp (i : RcIn) (hm : wrapU32 i.rcMode = 0) :
    if wrapU8 i.fixedOffsets = 1 then
      (rcTail i).branch = 1 ∧
      (rcTail i).baseQIdx = clampQidx (wrapU32 i.minQp) (wrapU32 i.maxQp)
        (q2q (wrapU8 (wrapU32 i.qp)) + wrapI32 (if i.intraOnly = 0 then i.layerOffset else i.keyOffset)) ∧
      (rcTail i).pictureQp = qpFromQidx (wrapU32 i.minQp) (wrapU32 i.maxQp) (rcTail i).baseQIdx
    else if wrapU32 i.qpScaling ≠ 0 ∧ wrapU8 i.onTheFly = 0 then
      (rcTail i).branch = 2 ∧
      (rcTail i).baseQIdx = clampQidx (wrapU32 i.minQp) (wrapU32 i.maxQp) i.newQindex ∧
      (rcTail i).pictureQp = qpFromQidx (wrapU32 i.minQp) (wrapU32 i.maxQp) (rcTail i).baseQIdx
    else if wrapU8 i.onTheFly = 1 then
      (rcTail i).branch = 3 ∧
      (rcTail i).pictureQp = wrapU8 (clip3 (wrapI32 (wrapU32 i.minQp)) (wrapI32 (wrapU32 i.maxQp)) (wrapU8 i.parentPicQp)) ∧
      (rcTail i).baseQIdx = q2q (rcTail i).pictureQp
    else
      (rcTail i).branch = 0 ∧ (rcTail i).pictureQp = wrapU8 i.picQp ∧ (rcTail i).baseQIdx = q2q (rcTail i).pictureQp := by
  -- `rcTail i` is unfolded once, on one side of an equation; both chains then split together
  generalize hr : rcTail i = r
  unfold rcTail at hr
  dsimp only at hr
  rw [if_pos hm] at hr
  split_ifs at hr ⊢ <;> subst hr <;> exact ⟨rfl, rfl, rfl⟩

/-- Rate control on (lines 7421-7476). -/
theorem rcTail_rc (i : RcIn) (hm : wrapU32 i.rcMode ≠ 0) :
    (rcTail i).branch ≠ 0 ∧
    (∃ x, (rcTail i).pictureQp = wrapU8 (clip3 (wrapU32 i.minQp) (wrapU32 i.maxQp) x)) ∧
    (rcTail i).baseQIdx = q2q (rcTail i).pictureQp := by
  unfold rcTail
  dsimp only
  rw [if_neg hm]
  refine ⟨?_, ⟨_, rfl⟩, rfl⟩
  split_ifs <;> exact Nat.succ_ne_zero _

theorem rcTail_inv (i : RcIn) (h0 : 0 ≤ i.minQp) (h1 : i.minQp ≤ i.maxQp) (h2 : i.maxQp ≤ 63)
    (hb : (rcTail i).branch ≠ 0) : QpInv i.minQp i.maxQp (rcTail i).baseQIdx (rcTail i).pictureQp := by
  obtain ⟨e1, e2, i1, i2⟩ := bounds_wrap h0 h1 h2
  by_cases hm : wrapU32 i.rcMode = 0
  · have h := rcTail_cqp i hm
    split at h
    · rw [h.2.2, h.2.1, e1, e2]; exact .of_index h0 h1 h2 _
    split at h
    · rw [h.2.2, h.2.1, e1, e2]; exact .of_index h0 h1 h2 _
    split at h
    · rw [h.2.2, h.2.1, e1, e2, i1, i2]; exact .of_qp h0 h1 h2 _
    · exact absurd h.1 hb
  · obtain ⟨_, ⟨x, hp⟩, hq⟩ := rcTail_rc i hm
    rw [hq, hp, e1, e2]; exact .of_qp h0 h1 h2 _

theorem initPicQp_flag (useQpFile inputQp qp : Int) :
    (initPicQp useQpFile inputQp qp).1 = 0 ∨ (initPicQp useQpFile inputQp qp).1 = 1 := by
  unfold initPicQp
  split_ifs <;> simp

end QpTail
