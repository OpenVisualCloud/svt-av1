/-
  C04 (part B) — proofs for `Model/Counter.lean`: with the counter block atomic (mutex / single collector),
  for every order in which the N segment tasks finish, the picture is posted to the next stage exactly
  once, by the task that finishes last, and only when all N tasks have finished.
-/
import SvtVerif.Model.Counter

namespace Counter

variable {N : Nat} {s s' : State} {t : Nat}

theorem step_eq_some_iff : step N s t = some s' ↔ (t < N ∧ t ∉ s.finished) ∧ finish N s t = s' :=
  Option.ite_some_none_eq_some

theorem step_eq_none_iff : step N s t = none ↔ ¬ (t < N ∧ t ∉ s.finished) :=
  ite_eq_right_iff.trans ⟨fun h hc => (nomatch h hc), fun h hc => absurd hc h⟩

theorem terminal_iff : Terminal N s ↔ ∀ t, t < N → t ∈ s.finished :=
  forall_congr' fun _ => step_eq_none_iff.trans ⟨fun h ht => Decidable.not_not.1 fun hn => h ⟨ht, hn⟩,
    fun h hc => hc.2 (h hc.1)⟩

structure Inv (N : Nat) (s : State) : Prop where
  count_eq : s.count = s.finished.length
  nodup : s.finished.Nodup
  lt : ∀ t, t ∈ s.finished → t < N

theorem inv_of_reachable (h : Reachable N s) : Inv N s := by
  induction h with
  | init => exact ⟨rfl, List.nodup_nil, fun _ ht => nomatch ht⟩
  | step _ hs ih =>
    obtain ⟨⟨hlt, hnm⟩, rfl⟩ := step_eq_some_iff.1 hs
    exact ⟨congrArg (· + 1) ih.count_eq, List.nodup_cons.2 ⟨hnm, ih.nodup⟩,
      fun x hx => (List.mem_cons.1 hx).elim (· ▸ hlt) (ih.lt x)⟩

/-- C: `count` equals the number of segment tasks that have executed `count++`. -/
theorem count_eq_length {N : Nat} {s : State} (h : Reachable N s) : s.count = s.finished.length :=
  (inv_of_reachable h).count_eq

/-- C: no segment task executes the counter block twice. -/
theorem finished_nodup {N : Nat} {s : State} (h : Reachable N s) : s.finished.Nodup :=
  (inv_of_reachable h).nodup

/-- C: the counter never exceeds the segment total (`tot_seg_searched_cdef <= cdef_segments_total_count`
etc.), so the `==` test cannot be jumped over.  Pigeonhole: `finished` is a duplicate-free list of numbers
below `N`. -/
theorem count_le (h : Reachable N s) : s.count ≤ N := by
  have hi := inv_of_reachable h
  have := hi.nodup.length_le_of_subset (fun x hx => List.mem_range.2 (hi.lt x hx))
  rwa [List.length_range, ← hi.count_eq] at this

theorem fires_eq (h : Reachable N s) : s.fires = if s.count = N then s.finished.take 1 else [] := by
  induction h with
  | init => exact (ite_self _).symm
  | @step s s' t hr hs ih =>
    -- the counter was below `N` before this step, so nothing had fired
    have hlt : s'.count ≤ N := count_le (hr.step hs)
    obtain ⟨-, rfl⟩ := step_eq_some_iff.1 hs
    show (if s.count + 1 = N then s.fires ++ [t] else s.fires) = if s.count + 1 = N then [t] else []
    rw [ih, if_neg (Nat.ne_of_lt hlt)]
    rfl

/-- C: for every order in which the segment tasks of a picture finish, the
`if (count == N)` branch (post the picture to the next stage) is taken at most once; it has been taken
exactly when the counter equals `N`; and the task that took it is the one that finished last (head of
`finished`). -/
theorem last_one_fires_once {N : Nat} {s : State} (hN : 0 < N) (h : Reachable N s) :
    s.fires.length ≤ 1 ∧ (s.fires.length = 1 ↔ s.count = N) ∧
      (∀ t, t ∈ s.fires → s.finished.head? = some t ∧ s.fires = [t]) := by
  rw [fires_eq h]
  by_cases hc : s.count = N
  · obtain ⟨a, l, hfin⟩ := List.exists_cons_of_length_pos (count_eq_length h ▸ hc ▸ hN)
    rw [if_pos hc, hfin]
    exact ⟨Nat.le_refl 1, ⟨fun _ => hc, fun _ => rfl⟩, fun t ht => List.mem_singleton.1 ht ▸ ⟨rfl, rfl⟩⟩
  · rw [if_neg hc]
    exact ⟨Nat.zero_le 1, ⟨fun h1 => (nomatch h1), fun h1 => absurd h1 hc⟩, fun _ ht => nomatch ht⟩

theorem fires_length_of_count (h : Reachable N s) (hc : s.count = N) : s.fires.length = min 1 N := by
  rw [fires_eq h, if_pos hc, List.length_take, ← count_eq_length h, hc]

/-- C: when every segment task has run its counter block (no `finish` enabled any
more), the counter equals the total and the picture has been posted exactly once. -/
theorem counter_complete (h : Reachable N s) (hT : Terminal N s) :
    s.count = N ∧ (0 < N → s.fires.length = 1) := by
  -- pigeonhole: all `N` tasks are in `finished`
  have hge := List.nodup_range.length_le_of_subset (fun x hx => terminal_iff.1 hT x (List.mem_range.1 hx))
  rw [List.length_range, ← count_eq_length h] at hge
  have hc := Nat.le_antisymm (count_le h) hge
  exact ⟨hc, fun hN => (fires_length_of_count h hc).trans (Nat.min_eq_left hN)⟩

theorem run_cons (N : Nat) (s : State) (t : Nat) (ts : List Nat) :
    run N s (t :: ts) = (step N s t).bind (run N · ts) := by
  show (match step N s t with | some s' => run N s' ts | none => none) = _
  cases step N s t <;> rfl

theorem reachable_run (o : List Nat) (hr : Reachable N s) (h : run N s o = some s') :
    Reachable N s' := by
  induction o generalizing s with
  | nil => exact Option.some.inj h ▸ hr
  | cons t ts ih =>
    rw [run_cons] at h
    obtain ⟨s₁, hst, h⟩ := Option.bind_eq_some_iff.1 h
    exact ih (hr.step hst) h

/-- Every order of grid tasks that, put in front of `finished` newest first, leaves it duplicate-free can be
executed, and that is the `finished` it ends with. -/
theorem run_total (o : List Nat) (s : State) (hlt : ∀ t, t ∈ o → t < N)
    (hnd : (o.reverse ++ s.finished).Nodup) :
    ∃ s', run N s o = some s' ∧ s'.finished = o.reverse ++ s.finished := by
  induction o generalizing s with
  | nil => exact ⟨s, rfl, rfl⟩
  | cons t ts ih =>
    rw [List.reverse_cons, List.append_assoc] at hnd ⊢
    have ht : t ∉ s.finished := (List.nodup_cons.1 (List.nodup_append.1 hnd).2.1).1
    have hst : step N s t = some (finish N s t) := if_pos ⟨hlt t List.mem_cons_self, ht⟩
    rw [run_cons, hst]
    exact ih (finish N s t) (fun x hx => hlt x (List.mem_cons_of_mem _ hx)) hnd

/-- C: every complete order (each of the `N` tasks exactly once) runs to a terminal state with
`count = N` and, for `0 < N`, exactly one post — done by the last task of the order. -/
theorem complete_order_runs {N : Nat} {o : List Nat} (hnd : o.Nodup) (hmem : ∀ t, t ∈ o ↔ t < N) :
    ∃ s, run N init o = some s ∧ Terminal N s ∧ s.count = N ∧
      (0 < N → s.fires.length = 1 ∧ ∀ t, t ∈ s.fires → o.getLast? = some t) := by
  obtain ⟨s, hrun, hfin⟩ := run_total (N := N) o init (fun t => (hmem t).1)
    ((List.append_nil _).symm ▸ (List.reverse_perm o).symm.nodup hnd)
  replace hfin : s.finished = o.reverse := hfin.trans (List.append_nil _)
  have hT : Terminal N s := terminal_iff.2 fun t ht => hfin ▸ List.mem_reverse.2 ((hmem t).2 ht)
  have hr : Reachable N s := reachable_run o Reachable.init hrun
  have hcc := counter_complete hr hT
  refine ⟨s, hrun, hT, hcc.1, fun hN => ⟨hcc.2 hN, fun t ht => ?_⟩⟩
  rw [← List.head?_reverse, ← hfin]
  exact ((last_one_fires_once hN hr).2.2 t ht).1

/-- C: order-independence — whatever order the worker threads finish the segments
in, once all are done the counter value and the number of posts are the same. -/
theorem counter_commutes {N : Nat} {o1 o2 : List Nat} {s1 s2 : State}
    (h1 : run N init o1 = some s1) (h2 : run N init o2 = some s2)
    (t1 : Terminal N s1) (t2 : Terminal N s2) :
    s1.count = s2.count ∧ s1.fires.length = s2.fires.length := by
  have r1 : Reachable N s1 := reachable_run o1 Reachable.init h1
  have r2 : Reachable N s2 := reachable_run o2 Reachable.init h2
  have c1 := (counter_complete r1 t1).1
  have c2 := (counter_complete r2 t2).1
  exact ⟨c1.trans c2.symm, (fires_length_of_count r1 c1).trans (fires_length_of_count r2 c2).symm⟩

example : run 3 init [2, 0, 1] = some { finished := [1, 0, 2], count := 3, fires := [1] } := by decide +kernel
example : run 3 init [1, 2, 0] = some { finished := [0, 2, 1], count := 3, fires := [0] } := by decide +kernel
example : run 3 init [2, 0] = some { finished := [0, 2], count := 2, fires := [] } := by decide +kernel
/-- A task cannot run its block twice, and tasks outside the grid are not enabled. -/
example : run 3 init [0, 0] = none := by decide +kernel
example : run 3 init [3] = none := by decide +kernel
example : step 3 { finished := [1, 0, 2], count := 3, fires := [1] } 0 = none := by decide +kernel

end Counter
