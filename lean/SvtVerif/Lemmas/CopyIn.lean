/-
  Lemmas for the copy-in model (C21).  Every loop of the model is an instance of one counted loop `rows step k n`;
  what a loop leaves in a cell, its size, its bounds flag and the cells it never reaches follow from a few facts
  about `rows` and the closed forms (`rd`) of memset / memcpy.
-/
import SvtVerif.Model.CopyIn

namespace CopyIn

theorem size_wr (b : Buf) (i v : Nat) : (wr b i v).size = b.size := by simp [wr]

theorem rd_wr (b : Buf) (i v j : Nat) : rd (wr b i v) j = if i = j ∧ i < b.size then v else rd b j := by
  unfold rd wr
  simp only [Array.getD_eq_getD_getElem?, Array.getElem?_setIfInBounds]
  by_cases h : i = j
  · subst h
    by_cases h2 : i < b.size <;> simp [h2]
  · simp [h]

theorem rd_oob (b : Buf) (i : Nat) (h : b.size ≤ i) : rd b i = 0 := by
  unfold rd; simp [Array.getD_eq_getD_getElem?, Array.getElem?_eq_none h]

theorem buf_ext (a b : Buf) (hs : a.size = b.size) (h : ∀ j, j < a.size → rd a j = rd b j) : a = b := by
  apply Array.ext hs
  intro i h1 h2
  have := h i h1
  unfold rd at this
  simpa [Array.getD_eq_getD_getElem?, Array.getElem?_eq_getElem h1, Array.getElem?_eq_getElem h2] using this

theorem buf_ext_rows (a b : Buf) (S R : Nat) (hS : 0 < S) (hs : a.size = b.size)
    (hin : ∀ r c, r < R → c < S → rd a (r * S + c) = rd b (r * S + c))
    (hout : ∀ j, R * S ≤ j → rd a j = rd b j) : a = b := by
  refine buf_ext a b hs fun j _ => ?_
  by_cases hj : j < R * S
  · have := hin (j / S) (j % S) (Nat.div_lt_of_lt_mul (Nat.mul_comm R S ▸ hj)) (Nat.mod_lt j hS)
    rwa [Nat.mul_comm, Nat.div_add_mod] at this
  · exact hout j (Nat.le_of_not_lt hj)

theorem size_memsetA (b : Buf) (off v n : Nat) : (memsetA b off v n).size = b.size := by
  induction n generalizing b off with
  | zero => rfl
  | succ n ih => rw [memsetA, ih, size_wr]

theorem rd_memsetA (b : Buf) (off v n j : Nat) :
    rd (memsetA b off v n) j = if off ≤ j ∧ j < off + n ∧ j < b.size then v else rd b j := by
  induction n generalizing b off with
  | zero => rw [memsetA, if_neg (by omega)]
  | succ n ih =>
    rw [memsetA, ih, size_wr, rd_wr]
    split <;> split <;> (try split) <;> omega

theorem size_memcpyA (b : Buf) (d : Nat) (s : Buf) (so n : Nat) : (memcpyA b d s so n).size = b.size := by
  induction n generalizing b d so with
  | zero => rfl
  | succ n ih => rw [memcpyA, ih, size_wr]

theorem rd_memcpyA (b : Buf) (d : Nat) (s : Buf) (so n j : Nat) :
    rd (memcpyA b d s so n) j = if d ≤ j ∧ j < d + n ∧ j < b.size then rd s (so + (j - d)) else rd b j := by
  induction n generalizing b d so with
  | zero => rw [memcpyA, if_neg (by omega)]
  | succ n ih =>
    rw [memcpyA, ih, size_wr, rd_wr]
    split
    · rw [if_pos (by omega)]; congr 1; omega
    · split
      · next h => rw [if_pos (by omega), h.1, Nat.sub_self]; rfl
      · rw [if_neg (by omega)]

namespace Mem
@[simp] theorem memsetCell_buf (m : Mem) (off cell n : Nat) :
    (m.memsetCell off cell n).buf = memsetA m.buf off (rd m.buf cell) n := rfl
@[simp] theorem memcpyFrom_buf (m : Mem) (d : Nat) (s : Buf) (so n : Nat) :
    (m.memcpyFrom d s so n).buf = memcpyA m.buf d s so n := rfl
@[simp] theorem memcpySelf_buf (m : Mem) (d so n : Nat) :
    (m.memcpySelf d so n).buf = memcpyA m.buf d m.buf so n := rfl
@[simp] theorem storeFrom_buf (m : Mem) (i : Nat) (s : Buf) (si : Nat) (f : Nat → Nat) :
    (m.storeFrom i s si f).buf = wr m.buf i (f (rd s si)) := rfl
@[simp] theorem memsetCell_ok (m : Mem) (off cell n : Nat) :
    (m.memsetCell off cell n).ok = (m.ok && decide (cell < m.buf.size) && inb m.buf.size off n) := rfl
@[simp] theorem memcpyFrom_ok (m : Mem) (d : Nat) (s : Buf) (so n : Nat) :
    (m.memcpyFrom d s so n).ok = (m.ok && inb m.buf.size d n && inb s.size so n) := rfl
@[simp] theorem memcpySelf_ok (m : Mem) (d so n : Nat) :
    (m.memcpySelf d so n).ok = (m.ok && inb m.buf.size d n && inb m.buf.size so n && (n == 0 || decide (d + n ≤ so ∨ so + n ≤ d))) := rfl
@[simp] theorem storeFrom_ok (m : Mem) (i : Nat) (s : Buf) (si : Nat) (f : Nat → Nat) :
    (m.storeFrom i s si f).ok = (m.ok && decide (i < m.buf.size) && decide (si < s.size)) := rfl
end Mem

theorem inb_iff (size off n : Nat) : inb size off n = true ↔ (n = 0 ∨ off + n ≤ size) := by
  simp [inb]

theorem row_sep (i y S : Nat) (h : i < y) : i * S + S ≤ y * S := by
  have := Nat.mul_le_mul_right S (show i + 1 ≤ y from h)
  rwa [Nat.succ_mul] at this

theorem row_cases (i y S : Nat) : i * S + S ≤ y * S ∨ i = y ∨ y * S + S ≤ i * S := by
  rcases Nat.lt_trichotomy i y with h | h | h
  · exact .inl (row_sep i y S h)
  · exact .inr (.inl h)
  · exact .inr (.inr (row_sep y i S h))

theorem cell_stripe (S ρ r c : Nat) (hc : c < S) : (ρ * S ≤ r * S + c ∧ r * S + c < ρ * S + S) ↔ ρ = r := by
  rcases row_cases ρ r S with h | rfl | h
  · exact ⟨fun h' => by omega, fun e => by subst e; omega⟩
  · exact ⟨fun _ => rfl, fun _ => ⟨by omega, by omega⟩⟩
  · exact ⟨fun h' => by omega, fun e => by subst e; omega⟩

theorem clampTo_eq (o n c : Nat) : clampTo o n c = min (c - o) (n - 1) := by
  unfold clampTo; split <;> omega

theorem clampTo_lt (o n c : Nat) (hn : 1 ≤ n) : clampTo o n c < n := by
  rw [clampTo_eq]; omega

theorem clampTo_min (o n n8 c : Nat) (h : n ≤ n8) : min (clampTo o n8 c) (n - 1) = clampTo o n c := by
  rw [clampTo_eq, clampTo_eq, Nat.min_assoc, Nat.min_eq_right (Nat.sub_le_sub_right h 1)]

theorem u16_id (x : Nat) (h : x < 65536) : u16 x = x := Nat.mod_eq_of_lt h

/-- `for (i = k; i < k + n; i++) m = step i m` -/
def rows (step : Nat → Mem → Mem) : Nat → Nat → Mem → Mem
  | _, 0, m => m
  | k, n + 1, m => rows step (k + 1) n (step k m)

section rows
variable (step : Nat → Mem → Mem)

theorem rows_rd_frame (j k n : Nat) (m : Mem)
    (h : ∀ i, k ≤ i → i < k + n → ∀ m', rd (step i m').buf j = rd m'.buf j) :
    rd (rows step k n m).buf j = rd m.buf j := by
  induction n generalizing k m with
  | zero => rfl
  | succ n ih =>
    rw [rows, ih, h k (Nat.le_refl k) (by omega)]
    intro i h1 h2
    exact h i (by omega) (by omega)

theorem rows_add (k a b : Nat) (m : Mem) : rows step k (a + b) m = rows step (k + a) b (rows step k a m) := by
  induction a generalizing k m with
  | zero => rw [Nat.zero_add]; rfl
  | succ a ih => rw [Nat.succ_add, rows, rows, ih, Nat.add_right_comm k 1 a, Nat.add_assoc]

theorem rows_size (hs : ∀ i m, (step i m).buf.size = m.buf.size) (k n : Nat) (m : Mem) :
    (rows step k n m).buf.size = m.buf.size := by
  induction n generalizing k m with
  | zero => rfl
  | succ n ih => rw [rows, ih, hs]

/-- last writer wins -/
theorem rows_rd_last (hs : ∀ i m, (step i m).buf.size = m.buf.size) (j y k n v : Nat) (m : Mem) (hk : k ≤ y)
    (hn : y < k + n) (h : ∀ i, y < i → i < k + n → ∀ m', rd (step i m').buf j = rd m'.buf j)
    (hv : ∀ m', m'.buf.size = m.buf.size → rd (step y m').buf j = v) :
    rd (rows step k n m).buf j = v := by
  obtain ⟨a, rfl⟩ : ∃ a, y = k + a := ⟨y - k, by omega⟩
  obtain ⟨b, rfl⟩ : ∃ b, n = a + (b + 1) := ⟨n - a - 1, by omega⟩
  rw [rows_add, rows, ← hv _ (rows_size step hs k a m)]
  exact rows_rd_frame step j _ _ _ fun i h1 h2 => h i h1 (by omega)

/-- `R`: cells that only iteration `y` touches; it fills `j` from `s` -/
theorem rows_rd_own (hs : ∀ i m, (step i m).buf.size = m.buf.size) (R : Nat → Prop) (j s y k n : Nat) (m : Mem) (hk : k ≤ y) (hn : y < k + n) (hj : R j) (hsrc : R s)
    (h : ∀ i, k ≤ i → i < k + n → i ≠ y → ∀ m' j, R j → rd (step i m').buf j = rd m'.buf j)
    (hv : ∀ m', m'.buf.size = m.buf.size → rd (step y m').buf j = rd m'.buf s) :
    rd (rows step k n m).buf j = rd m.buf s := by
  obtain ⟨a, rfl⟩ : ∃ a, y = k + a := ⟨y - k, by omega⟩
  obtain ⟨b, rfl⟩ : ∃ b, n = a + (b + 1) := ⟨n - a - 1, by omega⟩
  rw [rows_add, rows, ← rows_rd_frame step s k a m fun i h1 h2 m' => h i h1 (by omega) (by omega) m' s hsrc,
    ← hv _ (rows_size step hs k a m)]
  exact rows_rd_frame step j _ _ _ fun i h1 h2 m' => h i (by omega) (by omega) (by omega) m' j hj

/-- `rows_rd_own` for iterations that each stay in their own stripe of `S` cells from `B` on; that two stripes are
    disjoint is settled here, once -/
theorem rows_rd_stripe (hs : ∀ i m, (step i m).buf.size = m.buf.size) (B S : Nat)
    (hloc : ∀ i m' j, ¬ (B + i * S ≤ j ∧ j < B + i * S + S) → rd (step i m').buf j = rd m'.buf j)
    (j s y k n : Nat) (m : Mem) (hk : k ≤ y) (hn : y < k + n) (hj : B + y * S ≤ j ∧ j < B + y * S + S)
    (hsrc : s < B ∨ (B + y * S ≤ s ∧ s < B + y * S + S))
    (hv : ∀ m', m'.buf.size = m.buf.size → rd (step y m').buf j = rd m'.buf s) :
    rd (rows step k n m).buf j = rd m.buf s :=
  rows_rd_own step hs (fun j => j < B ∨ (B + y * S ≤ j ∧ j < B + y * S + S)) j s y k n m hk hn (.inr hj) hsrc
    (fun i _ _ hne m' j hj => hloc i m' j (by rcases row_cases i y S with h | h | h <;> omega)) hv

/-- `C size i`: the bounds iteration `i` needs -/
theorem rows_ok (hs : ∀ i m, (step i m).buf.size = m.buf.size) (C : Nat → Nat → Prop)
    (h : ∀ i m N, m.buf.size = N → ((step i m).ok = true ↔ m.ok = true ∧ C N i)) (k n : Nat) (m : Mem) :
    (rows step k n m).ok = true ↔ m.ok = true ∧ ∀ i, k ≤ i → i < k + n → C m.buf.size i := by
  induction n generalizing k m with
  | zero => exact ⟨fun h => ⟨h, fun i h1 h2 => by omega⟩, fun h => h.1⟩
  | succ n ih =>
    rw [rows, ih, h k m _ rfl, hs, and_assoc]
    refine and_congr_right fun _ => ⟨fun ⟨a, b⟩ i h1 h2 => ?_,
      fun a => ⟨a k (Nat.le_refl k) (by omega), fun i h1 h2 => a i (by omega) (by omega)⟩⟩
    rcases Nat.eq_or_lt_of_le h1 with rfl | h3
    · exact a
    · exact b i h3 (by omega)

end rows

/-- `g` stays inside the first `E` cells: flag kept, cells from `E` on untouched -/
def Inside (E : Nat) (g : Mem → Mem) : Prop :=
  ∀ m, E ≤ m.buf.size → (g m).ok = m.ok ∧ ∀ j, E ≤ j → rd (g m).buf j = rd m.buf j

theorem Inside.comp {E : Nat} {g₁ g₂ : Mem → Mem} (hs : ∀ m, (g₁ m).buf.size = m.buf.size)
    (h₁ : Inside E g₁) (h₂ : Inside E g₂) : Inside E fun m => g₂ (g₁ m) := fun m hm => by
  obtain ⟨a₁, b₁⟩ := h₁ m hm
  obtain ⟨a₂, b₂⟩ := h₂ (g₁ m) (hs m ▸ hm)
  exact ⟨a₂.trans a₁, fun j hj => (b₂ j hj).trans (b₁ j hj)⟩

theorem Inside.rows {E : Nat} {step : Nat → Mem → Mem} (hs : ∀ i m, (step i m).buf.size = m.buf.size) (k n : Nat)
    (h : ∀ i, k ≤ i → i < k + n → Inside E (step i)) : Inside E (rows step k n) := by
  induction n generalizing k with
  | zero => exact fun m _ => ⟨rfl, fun _ _ => rfl⟩
  | succ n ih =>
    exact Inside.comp (g₁ := step k) (hs k) (h k (Nat.le_refl k) (by omega))
      (ih (k + 1) fun i h1 h2 => h i (by omega) (by omega))

theorem Inside.memsetCell {E off cell n : Nat} (h : off + n ≤ E) (hc : cell < E) :
    Inside E (·.memsetCell off cell n) := fun m hm =>
  ⟨by rw [Mem.memsetCell_ok, decide_eq_true (Nat.lt_of_lt_of_le hc hm), (inb_iff ..).2 (.inr (by omega)),
      Bool.and_true, Bool.and_true],
    fun j hj => by rw [Mem.memsetCell_buf, rd_memsetA, if_neg (by omega)]⟩

theorem Inside.memcpySelf {E d so n : Nat} (hd : d + n ≤ E) (hso : so + n ≤ E) (hdis : d + n ≤ so ∨ so + n ≤ d) :
    Inside E (·.memcpySelf d so n) := fun m hm =>
  ⟨by rw [Mem.memcpySelf_ok, (inb_iff ..).2 (.inr (by omega)), (inb_iff ..).2 (.inr (by omega)), decide_eq_true hdis,
      Bool.or_true, Bool.and_true, Bool.and_true, Bool.and_true],
    fun j hj => by rw [Mem.memcpySelf_buf, rd_memcpyA, if_neg (by omega)]⟩

theorem copyRows_eq (m : Mem) (src : Buf) (d0 s0 dS sS n : Nat) :
    copyRows m src d0 s0 dS sS n = rows (fun i m => m.memcpyFrom (d0 + i * dS) src (s0 + i * sS) sS) 0 n m := by
  have (k : Nat) : ∀ m, copyRows m src (d0 + k * dS) (s0 + k * sS) dS sS n =
      rows (fun i m => m.memcpyFrom (d0 + i * dS) src (s0 + i * sS) sS) k n m := by
    induction n generalizing k with
    | zero => intro m; rfl
    | succ n ih => intro m; rw [copyRows, rows, ← ih, Nat.succ_mul, Nat.succ_mul, Nat.add_assoc, Nat.add_assoc]
  simpa using this 0 m

theorem copyRows_size (m : Mem) (src : Buf) (d0 s0 dS sS n : Nat) :
    (copyRows m src d0 s0 dS sS n).buf.size = m.buf.size := by
  rw [copyRows_eq]; exact rows_size _ (fun _ _ => size_memcpyA ..) ..

theorem copyRows_frame (m : Mem) (src : Buf) (d0 s0 dS sS n j : Nat)
    (hj : ∀ i, i < n → j < d0 + i * dS ∨ d0 + i * dS + sS ≤ j) :
    rd (copyRows m src d0 s0 dS sS n).buf j = rd m.buf j := by
  rw [copyRows_eq]
  refine rows_rd_frame _ j 0 n m fun i _ hi m' => ?_
  have := hj i (by omega)
  rw [Mem.memcpyFrom_buf, rd_memcpyA, if_neg (by omega)]

/-- later rows only write further down, so the first `min sS dS` cells of a row survive -/
theorem copyRows_val (m : Mem) (src : Buf) (d0 s0 dS sS n i x : Nat)
    (hi : i < n) (hx : x < sS) (hxS : x < dS) (hin : d0 + i * dS + x < m.buf.size) :
    rd (copyRows m src d0 s0 dS sS n).buf (d0 + i * dS + x) = rd src (s0 + i * sS + x) := by
  rw [copyRows_eq]
  refine rows_rd_last _ (fun _ _ => size_memcpyA ..) _ i 0 n _ m (Nat.zero_le _) ((Nat.zero_add _).symm ▸ hi) (fun i' h1 _ m' => ?_)
    (fun m' hsz => ?_)
  · have := row_sep i i' dS h1
    rw [Mem.memcpyFrom_buf, rd_memcpyA, if_neg (by omega)]
  · rw [Mem.memcpyFrom_buf, rd_memcpyA, if_pos (by omega)]
    congr 1; omega

theorem copyRows_ok (m : Mem) (src : Buf) (d0 s0 dS sS n : Nat) :
    (copyRows m src d0 s0 dS sS n).ok = true ↔
      m.ok = true ∧ (n = 0 ∨ sS = 0 ∨ (d0 + (n - 1) * dS + sS ≤ m.buf.size ∧ s0 + (n - 1) * sS + sS ≤ src.size)) := by
  rw [copyRows_eq]
  refine Iff.trans (rows_ok _ (fun _ _ => size_memcpyA ..)
    (fun N i => (sS = 0 ∨ d0 + i * dS + sS ≤ N) ∧ (sS = 0 ∨ s0 + i * sS + sS ≤ src.size))
    (fun _ m N hN => by simp only [Mem.memcpyFrom_ok, Bool.and_eq_true, inb_iff, and_assoc, hN]) ..) ?_
  refine and_congr_right fun _ => ⟨fun h => ?_, fun h i _ hi => ?_⟩
  · by_cases hn : n = 0
    · exact .inl hn
    · have := h (n - 1) (Nat.zero_le _) (by omega)
      omega
  · have := Nat.mul_le_mul_right dS (show i ≤ n - 1 by omega)
    have := Nat.mul_le_mul_right sS (show i ≤ n - 1 by omega)
    omega

theorem padRightLoop_eq (m : Mem) (t0 S w pr n : Nat) :
    padRightLoop m t0 S w pr n = rows (fun i m => m.memsetCell (t0 + i * S + w) (t0 + i * S + w - 1) pr) 0 n m := by
  have (k : Nat) : ∀ m, padRightLoop m (t0 + k * S) S w pr n =
      rows (fun i m => m.memsetCell (t0 + i * S + w) (t0 + i * S + w - 1) pr) k n m := by
    induction n generalizing k with
    | zero => intro m; rfl
    | succ n ih => intro m; rw [padRightLoop, rows, ← ih, Nat.succ_mul, Nat.add_assoc t0 (k * S) S]
  simpa using this 0 m

/-- l.242-254 of pad_input_picture: the right loop under its `if (pad_right)` -/
def padRight (m : Mem) (P S w pr h : Nat) : Mem := if pr != 0 then padRightLoop m P S w pr h else m

/-- zero iterations do nothing, so the `if (pad_bottom)` disappears -/
theorem padInputPicture_eq (m : Mem) (P S w h pr pb : Nat) :
    padInputPicture m P S w h pr pb =
      padBottomLoop (padRight m P S w pr h) (P + (h - 1) * S) (P + (h - 1) * S) S (w + pr) pb := by
  unfold padInputPicture padRight; cases pb <;> rfl

theorem padRight_size (m : Mem) (P S w pr h : Nat) : (padRight m P S w pr h).buf.size = m.buf.size := by
  unfold padRight; split
  · rw [padRightLoop_eq]; exact rows_size _ (fun _ _ => size_memsetA ..) ..
  · rfl

theorem padRight_inside (E P S w pr h : Nat) (hw : 1 ≤ w) (hb : ∀ i, i < h → P + i * S + w + pr ≤ E) :
    Inside E (padRight · P S w pr h) := fun m hm => by
  dsimp only; unfold padRight; split
  · rw [padRightLoop_eq]
    refine Inside.rows (fun _ _ => size_memsetA ..) 0 h (fun i _ hi => ?_) m hm
    have := hb i (by omega)
    exact Inside.memsetCell this (by omega)
  · exact ⟨rfl, fun _ _ => rfl⟩

theorem padBottomLoop_eq (m : Mem) (t0 t1 S n v : Nat) :
    padBottomLoop m t0 t1 S n v = rows (fun k m => m.memcpySelf (t1 + S + k * S) t0 n) 0 v m := by
  have (k : Nat) : ∀ m, padBottomLoop m t0 (t1 + k * S) S n v =
      rows (fun k m => m.memcpySelf (t1 + S + k * S) t0 n) k v m := by
    induction v generalizing k with
    | zero => intro m; rfl
    | succ v ih =>
      intro m
      rw [padBottomLoop, rows, ← ih, Nat.succ_mul, ← Nat.add_assoc, Nat.add_right_comm t1 S]
  simpa using this 0 m

theorem padBottomLoop_size (m : Mem) (t0 t1 S n v : Nat) :
    (padBottomLoop m t0 t1 S n v).buf.size = m.buf.size := by
  rw [padBottomLoop_eq]; exact rows_size _ (fun _ _ => size_memcpyA ..) ..

theorem padBottomLoop_inside (E t0 t1 S n v : Nat) (ht : t0 + n ≤ t1 + S) (hb : ∀ k, k < v → t1 + S + k * S + n ≤ E) :
    Inside E (padBottomLoop · t0 t1 S n v) := fun m hm => by
  dsimp only; rw [padBottomLoop_eq]
  refine Inside.rows (fun _ _ => size_memcpyA ..) 0 v (fun k _ hk => ?_) m hm
  have := hb k (by omega)
  exact Inside.memcpySelf this (by omega) (.inr (by omega))

theorem padRight_spec (m : Mem) (f : Nat → Nat → Nat) (P S w h pr : Nat) (hw : 1 ≤ w) (hS : w + pr ≤ S)
    (hin : ∀ y x, y < h → x < w + pr → P + y * S + x < m.buf.size)
    (h0 : ∀ y x, y < h → x < w → rd m.buf (P + y * S + x) = f x y) :
    ∀ y x, y < h → x < w + pr → rd (padRight m P S w pr h).buf (P + y * S + x) = f (min x (w - 1)) y := by
  intro y x hy hx
  have hb := hin y x hy hx
  unfold padRight; split
  · rw [padRightLoop_eq, ← h0 y (min x (w - 1)) hy (by omega)]
    refine rows_rd_stripe _ (fun _ _ => size_memsetA ..) P S (fun i m' j hj => ?_) _ _ y 0 h m
      (Nat.zero_le _) ((Nat.zero_add _).symm ▸ hy) (by omega) (.inr (by omega)) fun m' hsz => ?_
    · rw [Mem.memsetCell_buf, rd_memsetA, if_neg (by omega)]
    · rw [Mem.memsetCell_buf, rd_memsetA]
      -- set from column `w - 1` or left alone
      split <;> (congr 1; omega)
  · next hpr =>
    have : pr = 0 := by simpa using hpr
    rw [h0 y x hy (by omega)]
    congr 1; omega

theorem padBottomLoop_spec (m : Mem) (f : Nat → Nat → Nat) (P S n h pb : Nat) (hh : 1 ≤ h) (hS : n ≤ S)
    (hin : ∀ y x, y < h + pb → x < n → P + y * S + x < m.buf.size)
    (h0 : ∀ y x, y < h → x < n → rd m.buf (P + y * S + x) = f x y) :
    ∀ y x, y < h + pb → x < n →
      rd (padBottomLoop m (P + (h - 1) * S) (P + (h - 1) * S) S n pb).buf (P + y * S + x) = f x (min y (h - 1)) := by
  intro y x hy hx
  have hb := hin y x hy hx
  obtain ⟨h', rfl⟩ : ∃ h', h = h' + 1 := ⟨h - 1, by omega⟩
  rw [Nat.add_sub_cancel]
  by_cases hyl : y ≤ h'
  · have := Nat.mul_le_mul_right S hyl
    rw [padBottomLoop_eq, rows_rd_frame _ _ 0 pb m fun k _ _ m' => by
      rw [Mem.memcpySelf_buf, rd_memcpyA, if_neg (by omega)], h0 y x (by omega) hx, Nat.min_eq_left hyl]
  · -- iteration `k` alone writes row `h' + 1 + k`, from row `h'` that lies in front of all written rows
    obtain ⟨k, rfl⟩ : ∃ k, y = h' + 1 + k := ⟨y - h' - 1, by omega⟩
    rw [Nat.add_mul, Nat.add_one_mul] at hb ⊢
    rw [padBottomLoop_eq, Nat.min_eq_right (by omega), ← h0 h' x (by omega) hx]
    refine rows_rd_stripe _ (fun _ _ => size_memcpyA ..) (P + h' * S + S) S (fun i m' j hj => ?_) _ _ k 0 pb m
      (Nat.zero_le _) (by omega) (by omega) (.inl (by omega)) fun m' hsz => ?_
    · rw [Mem.memcpySelf_buf, rd_memcpyA, if_neg (by omega)]
    · rw [Mem.memcpySelf_buf, rd_memcpyA, if_pos (by omega)]
      congr 1; omega

theorem padInputPicture_size (m : Mem) (P S w h pr pb : Nat) : (padInputPicture m P S w h pr pb).buf.size = m.buf.size := by
  rw [padInputPicture_eq, padBottomLoop_size, padRight_size]

theorem padInputPicture_spec (m : Mem) (f : Nat → Nat → Nat) (P S w h pr pb : Nat) (hw : 1 ≤ w) (hh : 1 ≤ h) (hS : w + pr ≤ S)
    (hin : ∀ y x, y < h + pb → x < w + pr → P + y * S + x < m.buf.size)
    (h0 : ∀ y x, y < h → x < w → rd m.buf (P + y * S + x) = f x y) :
    ∀ y x, y < h + pb → x < w + pr →
      rd (padInputPicture m P S w h pr pb).buf (P + y * S + x) = f (min x (w - 1)) (min y (h - 1)) := by
  rw [padInputPicture_eq]
  exact padBottomLoop_spec _ (fun x y => f (min x (w - 1)) y) P S (w + pr) h pb hh hS (by rw [padRight_size]; exact hin)
    (padRight_spec m f P S w h pr hw hS (fun y x hy => hin y x (by omega)) h0)

theorem padInputPicture_inside (E P S w h pr pb : Nat) (hw : 1 ≤ w) (hh : 1 ≤ h) (hS : w + pr ≤ S)
    (hE : P + (h + pb - 1) * S + w + pr ≤ E) : Inside E (padInputPicture · P S w h pr pb) := by
  obtain ⟨h', rfl⟩ : ∃ h', h = h' + 1 := ⟨h - 1, by omega⟩
  rw [Nat.add_right_comm h' 1 pb, Nat.add_sub_cancel, Nat.add_mul] at hE
  simp only [padInputPicture_eq, Nat.add_sub_cancel]
  refine Inside.comp (padRight_size · P S w pr (h' + 1)) (padRight_inside E P S w pr _ hw fun i hi => ?_)
    (padBottomLoop_inside E _ _ S (w + pr) pb (by omega) fun k hk => ?_)
  · have := Nat.mul_le_mul_right S (Nat.le_of_lt_succ hi)
    omega
  · have := Nat.mul_le_mul_right S (show k + 1 ≤ pb from hk)
    rw [Nat.add_one_mul] at this
    omega

theorem genPadH_step_size (m : Mem) (a b c d pw : Nat) :
    ((m.memsetCell a b pw).memsetCell c d pw).buf.size = m.buf.size := by
  rw [Mem.memsetCell_buf, size_memsetA, Mem.memsetCell_buf, size_memsetA]

theorem genPadH_size (m : Mem) (t0 S w pw n : Nat) : (genPadH m t0 S w pw n).buf.size = m.buf.size := by
  induction n generalizing m t0 with
  | zero => rfl
  | succ n ih => rw [genPadH, ih, genPadH_step_size]

/-- `Q` = start of the row; `1 ≤ w` because the model computes `t0 + w - 1` -/
theorem genPadH_eq (m : Mem) (Q S w pw n : Nat) (hw : 1 ≤ w) :
    genPadH m (Q + pw) S w pw n = rows (fun i m =>
      (m.memsetCell (Q + i * S) (Q + i * S + pw) pw).memsetCell (Q + i * S + pw + w) (Q + i * S + pw + (w - 1)) pw) 0 n m := by
  have (k : Nat) : ∀ m, genPadH m (Q + k * S + pw) S w pw n = rows (fun i m =>
      (m.memsetCell (Q + i * S) (Q + i * S + pw) pw).memsetCell (Q + i * S + pw + w) (Q + i * S + pw + (w - 1)) pw) k n m := by
    induction n generalizing k with
    | zero => intro m; rfl
    | succ n ih =>
      intro m
      rw [genPadH, rows, ← ih, Nat.add_sub_cancel, Nat.add_sub_assoc hw, Nat.succ_mul, ← Nat.add_assoc Q,
        Nat.add_right_comm _ pw S]
  simpa using this 0 m

theorem genPadH_inside (E Q S w pw n : Nat) (hw : 1 ≤ w) (hb : ∀ i, i < n → Q + i * S + pw + w + pw ≤ E) :
    Inside E (genPadH · (Q + pw) S w pw n) := fun m hm => by
  dsimp only; rw [genPadH_eq _ _ _ _ _ _ hw]
  refine Inside.rows (fun _ _ => genPadH_step_size ..) 0 n (fun i _ hi => ?_) m hm
  have := hb i (by omega)
  exact Inside.comp (fun _ => size_memsetA ..) (Inside.memsetCell (by omega) (by omega))
    (Inside.memsetCell (by omega) (by omega))

theorem genPadH_spec (m : Mem) (f : Nat → Nat → Nat) (Q S w8 ox n : Nat) (hw : 1 ≤ w8) (hS : S = ox + w8 + ox)
    (hin : Q + n * S ≤ m.buf.size)
    (h0 : ∀ y x, y < n → x < w8 → rd m.buf (Q + ox + y * S + x) = f x y) :
    ∀ y c, y < n → c < S →
      rd (genPadH m (Q + ox) S w8 ox n).buf (Q + y * S + c) = f (clampTo ox w8 c) y := by
  intro y c hy hc
  have hyn := row_sep y n S hy
  rw [genPadH_eq _ _ _ _ _ _ hw, clampTo_eq, ← h0 y (min (c - ox) (w8 - 1)) hy (by omega)]
  refine rows_rd_stripe _ (fun _ _ => genPadH_step_size ..) Q S (fun i m' j hj => ?_) _ _ y 0 n m
    (Nat.zero_le _) ((Nat.zero_add _).symm ▸ hy) (by omega) (.inr (by omega)) fun m' hsz => ?_
  · rw [Mem.memsetCell_buf, rd_memsetA, if_neg (by omega), Mem.memsetCell_buf, rd_memsetA, if_neg (by omega)]
  · simp only [Mem.memsetCell_buf, rd_memsetA, size_memsetA, hsz]
    rw [if_neg (c := _ ∧ Q + y * S + ox + (w8 - 1) < _ ∧ _) (by omega)]
    -- left memset, right memset or neither
    split <;> (try split) <;> (congr 1; omega)

theorem genPadV_step_size (m : Mem) (a b c d S : Nat) :
    ((m.memcpySelf a b S).memcpySelf c d S).buf.size = m.buf.size := by
  rw [Mem.memcpySelf_buf, size_memcpyA, Mem.memcpySelf_buf, size_memcpyA]

theorem genPadV_size (m : Mem) (t0 t1 t2 t3 S v : Nat) : (genPadV m t0 t1 t2 t3 S v).buf.size = m.buf.size := by
  induction v generalizing m t2 t3 with
  | zero => rfl
  | succ v ih => rw [genPadV, ih, genPadV_step_size]

/-- as generate_padding calls it on a plane at offset 0: every pointer is the start of a row -/
def genPadVStep (S oy h' k : Nat) (m : Mem) : Mem :=
  (m.memcpySelf ((oy - (k + 1)) * S) (oy * S) S).memcpySelf ((oy + h' + (k + 1)) * S) ((oy + h') * S) S

theorem genPadV_eq (m : Mem) (S oy h' v : Nat) :
    genPadV m (oy * S) ((oy + h') * S) (oy * S) ((oy + h') * S) S v = rows (genPadVStep S oy h') 0 v m := by
  have (k : Nat) : ∀ m, genPadV m (oy * S) ((oy + h') * S) ((oy - k) * S) ((oy + h' + k) * S) S v = rows (genPadVStep S oy h') k v m := by
    induction v generalizing k with
    | zero => intro m; rfl
    | succ v ih =>
      intro m
      have e1 : (oy - (k + 1)) * S = (oy - k) * S - S := by rw [Nat.sub_add_eq, Nat.sub_mul, Nat.one_mul]
      have e2 : (oy + h' + (k + 1)) * S = (oy + h' + k) * S + S := by rw [← Nat.add_assoc, Nat.add_one_mul]
      rw [genPadV, rows, ← ih, genPadVStep, e1, e2]
  simpa using this 0 m

theorem genPadV_step_rd (m : Mem) (S oy h' k r c : Nat) (hc : c < S) (hk : k < oy) :
    rd (genPadVStep S oy h' k m).buf (r * S + c) =
      if oy + h' + (k + 1) = r ∧ r * S + c < m.buf.size then rd m.buf ((oy + h') * S + c)
      else if oy - (k + 1) = r ∧ r * S + c < m.buf.size then rd m.buf (oy * S + c) else rd m.buf (r * S + c) := by
  simp only [genPadVStep, Mem.memcpySelf_buf, rd_memcpyA, size_memcpyA, ← and_assoc, cell_stripe _ _ _ _ hc]
  split
  · next h =>
    obtain ⟨rfl, _⟩ := h
    rw [Nat.add_sub_cancel_left, if_neg fun h => absurd ((cell_stripe S _ _ c hc).1 h.1) (by omega)]
  · split
    · next h => obtain ⟨rfl, _⟩ := h; rw [Nat.add_sub_cancel_left]
    · rfl

theorem genPadV_step_frame (m : Mem) (S oy h' k r c : Nat) (hc : c < S)
    (h : k < oy ∧ oy + h' + (k + 1) ≠ r ∧ oy - (k + 1) ≠ r) :
    rd (genPadVStep S oy h' k m).buf (r * S + c) =
      rd m.buf (r * S + c) := by
  rw [genPadV_step_rd _ _ _ _ _ _ _ hc h.1, if_neg fun e => h.2.1 e.1, if_neg fun e => h.2.2 e.1]

theorem genPadV_inside (E S oy h' : Nat) (hE : (oy + h' + oy) * S + S ≤ E) :
    Inside E (genPadV · (oy * S) ((oy + h') * S) (oy * S) ((oy + h') * S) S oy) := fun m hm => by
  dsimp only; rw [genPadV_eq]
  refine Inside.rows (fun _ _ => genPadV_step_size ..) 0 oy (fun k _ hk => ?_) m hm
  have r1 := row_sep (oy - (k + 1)) oy S (by omega)
  have r2 := Nat.mul_le_mul_right S (show oy ≤ oy + h' by omega)
  have r3 := row_sep (oy + h') (oy + h' + (k + 1)) S (by omega)
  have r4 := Nat.mul_le_mul_right S (show oy + h' + (k + 1) ≤ oy + h' + oy by omega)
  exact Inside.comp (fun _ => size_memcpyA ..) (Inside.memcpySelf (by omega) (by omega) (.inl (by omega)))
    (Inside.memcpySelf (by omega) (by omega) (.inr (by omega)))

theorem genPadV_spec (m : Mem) (g : Nat → Nat → Nat) (S oy h8 : Nat) (hh : 1 ≤ h8)
    (hin : (oy + h8 + oy) * S ≤ m.buf.size)
    (h0 : ∀ y c, y < h8 → c < S → rd m.buf (oy * S + y * S + c) = g c y) :
    ∀ r c, r < oy + h8 + oy → c < S →
      rd (genPadV m (oy * S) ((oy + h8 - 1) * S) (oy * S) ((oy + h8 - 1) * S) S oy).buf (r * S + c) = g c (clampTo oy h8 r) := by
  intro r c hr hc
  obtain ⟨h', rfl⟩ : ∃ h', h8 = h' + 1 := ⟨h8 - 1, by omega⟩
  have hrn := row_sep r _ S hr
  rw [← Nat.add_assoc oy h' 1, Nat.add_sub_cancel, clampTo_eq, Nat.add_sub_cancel]
  -- in every case the cell ends with the initial content of column `c` of picture row `y`
  generalize hy : min (r - oy) h' = y
  rw [← h0 y c (by omega) hc, ← Nat.add_mul]
  by_cases hrow : oy ≤ r ∧ r ≤ oy + h'
  · rw [genPadV_eq, rows_rd_frame _ _ 0 oy m fun k _ hk m' => genPadV_step_frame m' S oy h' k r c hc (by omega),
      show r = oy + y by omega]
  · -- a border row is written by iteration `k` alone, from picture row 0 or `h'`, which nothing writes
    obtain ⟨k, hk, hkr⟩ : ∃ k, k < oy ∧ (oy - (k + 1) = r ∨ oy + h' + (k + 1) = r) :=
      if c1 : r < oy then ⟨oy - r - 1, by omega⟩ else ⟨r - (oy + h') - 1, by omega⟩
    rw [genPadV_eq]
    refine rows_rd_own (genPadVStep S oy h') (fun _ _ => genPadV_step_size ..) (fun j => j = r * S + c ∨ j = (oy + y) * S + c) _ _ k 0 oy m
      (Nat.zero_le _) ((Nat.zero_add _).symm ▸ hk) (.inl rfl) (.inr rfl) (fun i _ hi hne m' j hj => ?_) (fun m' hsz => ?_)
    · rcases hj with rfl | rfl <;> exact genPadV_step_frame m' S oy h' i _ c hc (by omega)
    · rw [genPadV_step_rd _ _ _ _ _ _ _ hc hk]
      split
      · rw [show y = h' by omega]
      · rw [if_pos (by omega), show y = 0 by omega, Nat.add_zero]

theorem generatePadding_size (m : Mem) (S w h pw ph : Nat) : (generatePadding m 0 S w h pw ph).buf.size = m.buf.size := by
  rw [generatePadding, genPadV_size, genPadH_size]

theorem generatePadding_inside (E S w8 h8 ox oy : Nat) (hw : 1 ≤ w8) (hh : 1 ≤ h8) (hS : S = ox + w8 + ox)
    (hE : (oy + h8 + oy) * S ≤ E) : Inside E (generatePadding · 0 S w8 h8 ox oy) := by
  obtain ⟨h', rfl⟩ : ∃ h', h8 = h' + 1 := ⟨h8 - 1, by omega⟩
  simp only [generatePadding, Nat.zero_add]
  rw [← Nat.add_assoc oy h' 1, Nat.add_sub_cancel, Nat.add_comm ox]
  refine Inside.comp (genPadH_size · _ S w8 ox _) (genPadH_inside E _ S w8 ox _ hw fun i hi => ?_)
    (genPadV_inside E S oy h' (by rw [← Nat.add_one_mul, Nat.add_right_comm _ oy 1]; exact hE))
  have := row_sep (oy + i) _ S (show oy + i < oy + (h' + 1) + oy by omega)
  rw [Nat.add_mul] at this
  omega

theorem generatePadding_spec (m : Mem) (f : Nat → Nat → Nat) (S w8 h8 ox oy : Nat) (hw : 1 ≤ w8) (hh : 1 ≤ h8)
    (hS : S = ox + w8 + ox) (hin : (oy + h8 + oy) * S ≤ m.buf.size)
    (h0 : ∀ y x, y < h8 → x < w8 → rd m.buf (oy * S + ox + y * S + x) = f x y) :
    ∀ r c, r < oy + h8 + oy → c < S →
      rd (generatePadding m 0 S w8 h8 ox oy).buf (r * S + c) = f (clampTo ox w8 c) (clampTo oy h8 r) := by
  have hrows : oy * S + h8 * S ≤ (oy + h8 + oy) * S := by rw [Nat.add_mul, Nat.add_mul]; omega
  rw [generatePadding, Nat.zero_add, Nat.zero_add, Nat.zero_add, Nat.add_comm ox]
  exact genPadV_spec _ (fun c y => f (clampTo ox w8 c) y) S oy h8 hh (by rw [genPadH_size]; exact hin)
    (genPadH_spec m f (oy * S) S w8 ox h8 hw hS (by omega) h0)

/-- un_pack2d's two output allocations evolve independently: each is this loop, with `f = hi8` or `f = lo2` -/
def storeCols (m : Mem) (in16 : Buf) (f : Nat → Nat) (inOff inS o s j : Nat) : Nat → Nat → Mem
  | _, 0 => m
  | k, n + 1 => storeCols (m.storeFrom (o + (k + j * s)) in16 (inOff + (k + j * inS)) f) in16 f inOff inS o s j (k + 1) n

def storeRows (m : Mem) (in16 : Buf) (f : Nat → Nat) (inOff inS o s width : Nat) : Nat → Nat → Mem
  | _, 0 => m
  | j, n + 1 => storeRows (storeCols m in16 f inOff inS o s j 0 width) in16 f inOff inS o s width (j + 1) n

theorem unpackCols_eq (in16 : Buf) (inOff inS o8 s8 on sn j k n : Nat) (m8 mn : Mem) :
    unpackCols in16 inOff inS o8 s8 on sn j k n (m8, mn) =
      (storeCols m8 in16 hi8 inOff inS o8 s8 j k n, storeCols mn in16 lo2 inOff inS on sn j k n) := by
  induction n generalizing m8 mn k with
  | zero => rfl
  | succ n ih => simp only [unpackCols, storeCols, ih]; rfl

theorem unpackRows_eq (in16 : Buf) (inOff inS o8 s8 on sn width j n : Nat) (m8 mn : Mem) :
    unpackRows in16 inOff inS o8 s8 on sn width j n (m8, mn) =
      (storeRows m8 in16 hi8 inOff inS o8 s8 width j n, storeRows mn in16 lo2 inOff inS on sn width j n) := by
  induction n generalizing m8 mn j with
  | zero => rfl
  | succ n ih => simp only [unpackRows, storeRows, unpackCols_eq, ih]

theorem unPack2d_eq (in16 : Buf) (inOff inS : Nat) (m8 : Mem) (o8 s8 : Nat) (mn : Mem) (on sn w h : Nat) :
    unPack2d in16 inOff inS m8 o8 s8 mn on sn w h =
      (storeRows m8 in16 hi8 inOff inS o8 s8 w 0 h, storeRows mn in16 lo2 inOff inS on sn w 0 h) := by
  rw [unPack2d, unpackRows_eq]

theorem planeIn10_eq (m8 mn : Mem) (src : Buf) (S ox oy w h pr pb ss : Nat) :
    planeIn10 m8 mn src S ox oy w h pr pb ss =
      (generatePadding (padInputPicture (storeRows m8 src hi8 0 ss (S * oy + ox) S w 0 h) (ox + oy * S) S w h pr pb) 0 S (w + pr) (h + pb) ox oy,
       generatePadding (padInputPicture (storeRows mn src lo2 0 ss (S * oy + ox) S w 0 h) (ox + oy * S) S w h pr pb) 0 S (w + pr) (h + pb) ox oy) := by
  simp only [planeIn10, unPack2d_eq]

theorem storeCols_eq (m : Mem) (in16 : Buf) (f : Nat → Nat) (inOff inS o s j k n : Nat) :
    storeCols m in16 f inOff inS o s j k n =
      rows (fun k m => m.storeFrom (o + (k + j * s)) in16 (inOff + (k + j * inS)) f) k n m := by
  induction n generalizing m k with
  | zero => rfl
  | succ n ih => rw [storeCols, rows, ih]

theorem storeRows_eq (m : Mem) (in16 : Buf) (f : Nat → Nat) (inOff inS o s width j n : Nat) :
    storeRows m in16 f inOff inS o s width j n =
      rows (fun j m => storeCols m in16 f inOff inS o s j 0 width) j n m := by
  induction n generalizing m j with
  | zero => rfl
  | succ n ih => rw [storeRows, rows, ih]

theorem storeCols_size (m : Mem) (in16 : Buf) (f : Nat → Nat) (inOff inS o s j k n : Nat) :
    (storeCols m in16 f inOff inS o s j k n).buf.size = m.buf.size := by
  rw [storeCols_eq]; exact rows_size _ (fun _ _ => size_wr ..) ..

theorem storeCols_frame (m : Mem) (in16 : Buf) (f : Nat → Nat) (inOff inS o s j k n i : Nat)
    (hi : ∀ k', k ≤ k' → k' < k + n → i ≠ o + (k' + j * s)) :
    rd (storeCols m in16 f inOff inS o s j k n).buf i = rd m.buf i := by
  rw [storeCols_eq]
  refine rows_rd_frame _ i k n m fun k' h1 h2 m' => ?_
  rw [Mem.storeFrom_buf, rd_wr, if_neg fun h => hi k' h1 h2 h.1.symm]

theorem storeCols_val (m : Mem) (in16 : Buf) (f : Nat → Nat) (inOff inS o s j k n k' : Nat)
    (h1 : k ≤ k') (h2 : k' < k + n) (hin : o + (k' + j * s) < m.buf.size) :
    rd (storeCols m in16 f inOff inS o s j k n).buf (o + (k' + j * s)) = f (rd in16 (inOff + (k' + j * inS))) := by
  rw [storeCols_eq]
  refine rows_rd_last _ (fun _ _ => size_wr ..) _ k' k n _ m h1 h2 (fun i h3 _ m' => ?_) (fun m' hsz => ?_)
  · rw [Mem.storeFrom_buf, rd_wr, if_neg (by omega)]
  · rw [Mem.storeFrom_buf, rd_wr, if_pos ⟨rfl, by omega⟩]

theorem storeRows_size (m : Mem) (in16 : Buf) (f : Nat → Nat) (inOff inS o s width j n : Nat) :
    (storeRows m in16 f inOff inS o s width j n).buf.size = m.buf.size := by
  rw [storeRows_eq]; exact rows_size _ (fun _ _ => storeCols_size ..) ..

theorem storeRows_frame (m : Mem) (in16 : Buf) (f : Nat → Nat) (inOff inS o s width j n i : Nat)
    (hi : ∀ j' k', j ≤ j' → j' < j + n → k' < width → i ≠ o + (k' + j' * s)) :
    rd (storeRows m in16 f inOff inS o s width j n).buf i = rd m.buf i := by
  rw [storeRows_eq]
  refine rows_rd_frame _ i j n m fun j' h1 h2 m' => storeCols_frame _ _ _ _ _ _ _ _ _ _ _ fun k' _ h4 => ?_
  exact hi j' k' h1 h2 (by omega)

theorem storeRows_val (m : Mem) (in16 : Buf) (f : Nat → Nat) (inOff inS o s width j n j' k' : Nat) (hws : width ≤ s)
    (h1 : j ≤ j') (h2 : j' < j + n) (hk : k' < width) (hin : o + (k' + j' * s) < m.buf.size) :
    rd (storeRows m in16 f inOff inS o s width j n).buf (o + (k' + j' * s)) = f (rd in16 (inOff + (k' + j' * inS))) := by
  rw [storeRows_eq]
  refine rows_rd_last _ (fun _ _ => storeCols_size ..) _ j' j n _ m h1 h2 (fun i h3 _ m' => ?_) (fun m' hsz => ?_)
  · refine storeCols_frame _ _ _ _ _ _ _ _ _ _ _ fun k'' _ h4 => ?_
    have := row_sep j' i s h3
    omega
  · exact storeCols_val m' in16 f inOff inS o s j' 0 width k' (Nat.zero_le _) ((Nat.zero_add _).symm ▸ hk) (by omega)

theorem storeCols_ok (m : Mem) (in16 : Buf) (f : Nat → Nat) (inOff inS o s j k n : Nat) :
    (storeCols m in16 f inOff inS o s j k n).ok = true ↔
      m.ok = true ∧ ∀ k', k ≤ k' → k' < k + n → o + (k' + j * s) < m.buf.size ∧ inOff + (k' + j * inS) < in16.size := by
  rw [storeCols_eq]
  exact rows_ok _ (fun _ _ => size_wr ..) (fun N k' => o + (k' + j * s) < N ∧ inOff + (k' + j * inS) < in16.size)
    (fun _ m N hN => by simp only [Mem.storeFrom_ok, Bool.and_eq_true, decide_eq_true_eq, and_assoc, hN]) ..

theorem storeRows_ok (m : Mem) (in16 : Buf) (f : Nat → Nat) (inOff inS o s width j n : Nat) :
    (storeRows m in16 f inOff inS o s width j n).ok = true ↔
      m.ok = true ∧ ∀ j', j ≤ j' → j' < j + n → ∀ k', k' < width →
        o + (k' + j' * s) < m.buf.size ∧ inOff + (k' + j' * inS) < in16.size := by
  rw [storeRows_eq]
  exact rows_ok _ (fun _ _ => storeCols_size ..)
    (fun N j' => ∀ k', k' < width → o + (k' + j' * s) < N ∧ inOff + (k' + j' * inS) < in16.size)
    (fun j' m N hN => by
      subst hN
      rw [storeCols_ok, Nat.zero_add]
      exact and_congr_right fun _ => forall_congr' fun k' => ⟨fun h => h (Nat.zero_le _), fun h _ => h⟩) ..

theorem cell_in (S oy h8 ox w8 y x sz : Nat) (hS : S = ox + w8 + ox) (hsz : (oy + h8 + oy) * S ≤ sz)
    (hy : y < h8) (hx : x < w8) : oy * S + ox + y * S + x < sz := by
  have := row_sep (oy + y) (oy + h8 + oy) S (by omega)
  rw [Nat.add_mul] at this; omega

/-- what `planeIn8` and both halves of `planeIn10` do once the samples are copied in -/
abbrev padStages (m : Mem) (S ox oy w h pr pb : Nat) : Mem :=
  generatePadding (padInputPicture m (ox + oy * S) S w h pr pb) 0 S (w + pr) (h + pb) ox oy

theorem padStages_size (m : Mem) (S ox oy w h pr pb : Nat) : (padStages m S ox oy w h pr pb).buf.size = m.buf.size := by
  rw [padStages, generatePadding_size, padInputPicture_size]

theorem planeIn8_size (m : Mem) (src : Buf) (S ox oy w h pr pb ss : Nat) :
    (planeIn8 m src S ox oy w h pr pb ss).buf.size = m.buf.size := by
  rw [planeIn8, padStages_size, copyRows_size]

theorem padStages_inside (S ox oy w h pr pb : Nat) (hw : 1 ≤ w) (hh : 1 ≤ h) (hS : S = ox + (w + pr) + ox) :
    Inside ((oy + (h + pb) + oy) * S) (padStages · S ox oy w h pr pb) := by
  refine Inside.comp (padInputPicture_size · _ S w h pr pb)
    (padInputPicture_inside _ _ S w h pr pb hw hh (by omega) ?_)
    (generatePadding_inside _ S _ _ ox oy (by omega) (by omega) hS (Nat.le_refl _))
  have := row_sep (oy + (h + pb - 1)) (oy + (h + pb) + oy) S (by omega)
  rw [Nat.add_mul] at this
  omega

/-- one internal plane: stride, origin, visible size, padding to a multiple of 8 -/
structure Plane where
  (S ox oy w h pr pb : Nat)

/-- what every statement about a plane in an allocation of `size` cells assumes -/
structure Plane.Ok (g : Plane) (size : Nat) : Prop where
  hw : 1 ≤ g.w
  hh : 1 ≤ g.h
  hS : g.S = g.ox + (g.w + g.pr) + g.ox
  hin : (g.oy + (g.h + g.pb) + g.oy) * g.S ≤ size

theorem padStages_spec (m : Mem) (g : Plane) (hg : g.Ok m.buf.size) (f : Nat → Nat → Nat)
    (h0 : ∀ y x, y < g.h → x < g.w → rd m.buf (g.oy * g.S + g.ox + y * g.S + x) = f x y) :
    ∀ r c, r < g.oy + (g.h + g.pb) + g.oy → c < g.S →
      rd (padStages m g.S g.ox g.oy g.w g.h g.pr g.pb).buf (r * g.S + c) = padSpec f g.ox g.oy g.w g.h r c := by
  obtain ⟨S, ox, oy, w, h, pr, pb⟩ := g
  obtain ⟨hw, hh, hS, hin⟩ := hg
  intro r c hr hc
  dsimp only at *
  rw [padStages, Nat.add_comm ox,
    generatePadding_spec _ (fun x y => f (min x (w - 1)) (min y (h - 1))) S (w + pr) (h + pb) ox oy
    (by omega) (by omega) hS (by rw [padInputPicture_size]; exact hin)
    (padInputPicture_spec m f (oy * S + ox) S w h pr pb hw hh (by omega)
      (fun y x hy hx => cell_in S oy (h + pb) ox (w + pr) y x _ hS hin hy hx) h0) r c hr hc,
    padSpec, clampTo_min ox w (w + pr) c (by omega), clampTo_min oy h (h + pb) r (by omega)]

theorem planeIn8_spec (m : Mem) (src : Buf) (g : Plane) (ss : Nat) (hg : g.Ok m.buf.size) (hws : g.w ≤ ss) :
    ∀ r c, r < g.oy + (g.h + g.pb) + g.oy → c < g.S →
      rd (planeIn8 m src g.S g.ox g.oy g.w g.h g.pr g.pb ss).buf (r * g.S + c)
        = padSpec (vis src ss) g.ox g.oy g.w g.h r c := by
  have hg' : g.Ok (copyRows m src (g.S * g.oy + g.ox) 0 g.S ss g.h).buf.size := by rw [copyRows_size]; exact hg
  rw [planeIn8]
  refine padStages_spec _ g hg' _ fun y x hy hx => ?_
  rw [Nat.mul_comm g.S, copyRows_val _ _ _ _ _ _ _ y x hy (by omega) (by have := hg.hS; omega)
    (cell_in g.S g.oy (g.h + g.pb) g.ox (g.w + g.pr) y x _ hg.hS hg.hin (by omega) (by omega)), vis, Nat.zero_add]

/-- `hspill`: the last copied row, all `ss` bytes of it, ends inside the region -/
theorem planeIn8_frame (m : Mem) (src : Buf) (g : Plane) (ss j : Nat) (hg : g.Ok m.buf.size)
    (hspill : g.oy * g.S + g.ox + (g.h - 1) * g.S + ss ≤ (g.oy + (g.h + g.pb) + g.oy) * g.S)
    (hj : (g.oy + (g.h + g.pb) + g.oy) * g.S ≤ j) :
    rd (planeIn8 m src g.S g.ox g.oy g.w g.h g.pr g.pb ss).buf j = rd m.buf j := by
  rw [planeIn8, (padStages_inside g.S g.ox g.oy g.w g.h g.pr g.pb hg.hw hg.hh hg.hS _
    (by rw [copyRows_size]; exact hg.hin)).2 j hj, Nat.mul_comm g.S, copyRows_frame]
  intro i hi
  have := Nat.mul_le_mul_right g.S (show i ≤ g.h - 1 by omega)
  omega

theorem planeIn8_ok (m : Mem) (src : Buf) (g : Plane) (ss : Nat) (hg : g.Ok m.buf.size) :
    (planeIn8 m src g.S g.ox g.oy g.w g.h g.pr g.pb ss).ok = true ↔
      m.ok = true ∧ (ss = 0 ∨ (g.S * g.oy + g.ox + (g.h - 1) * g.S + ss ≤ m.buf.size ∧ g.h * ss ≤ src.size)) := by
  rw [planeIn8, (padStages_inside g.S g.ox g.oy g.w g.h g.pr g.pb hg.hw hg.hh hg.hS _
    (by rw [copyRows_size]; exact hg.hin)).1, copyRows_ok]
  obtain ⟨h', hh'⟩ : ∃ h', g.h = h' + 1 := ⟨g.h - 1, by have := hg.hh; omega⟩
  rw [hh', Nat.add_sub_cancel, Nat.zero_add, Nat.add_one_mul]
  refine and_congr_right fun _ => ?_
  omega

theorem planeIn8_whole (m : Mem) (g : Plane) (hg : g.Ok m.buf.size) (src1 src2 : Buf) (ss1 ss2 : Nat)
    (h1 : g.w ≤ ss1) (h2 : g.w ≤ ss2)
    (hsp1 : g.oy * g.S + g.ox + (g.h - 1) * g.S + ss1 ≤ (g.oy + (g.h + g.pb) + g.oy) * g.S)
    (hsp2 : g.oy * g.S + g.ox + (g.h - 1) * g.S + ss2 ≤ (g.oy + (g.h + g.pb) + g.oy) * g.S)
    (hvis : ∀ x y, x < g.w → y < g.h → vis src1 ss1 x y = vis src2 ss2 x y) :
    (planeIn8 m src1 g.S g.ox g.oy g.w g.h g.pr g.pb ss1).buf = (planeIn8 m src2 g.S g.ox g.oy g.w g.h g.pr g.pb ss2).buf := by
  refine buf_ext_rows _ _ g.S (g.oy + (g.h + g.pb) + g.oy) (by have := hg.hS; have := hg.hw; omega)
    (by rw [planeIn8_size, planeIn8_size]) (fun r c hr hc => ?_) (fun j hj => ?_)
  · rw [planeIn8_spec m src1 g ss1 hg h1 r c hr hc, planeIn8_spec m src2 g ss2 hg h2 r c hr hc]
    exact hvis _ _ (clampTo_lt g.ox g.w c hg.hw) (clampTo_lt g.oy g.h r hg.hh)
  · rw [planeIn8_frame m src1 g ss1 j hg hsp1 hj, planeIn8_frame m src2 g ss2 j hg hsp2 hj]

theorem planeIn10_half_spec (m : Mem) (src : Buf) (f : Nat → Nat) (g : Plane) (ss : Nat) (hg : g.Ok m.buf.size) :
    ∀ r c, r < g.oy + (g.h + g.pb) + g.oy → c < g.S →
      rd (padStages (storeRows m src f 0 ss (g.S * g.oy + g.ox) g.S g.w 0 g.h) g.S g.ox g.oy g.w g.h g.pr g.pb).buf (r * g.S + c)
        = padSpec (fun x y => f (vis src ss x y)) g.ox g.oy g.w g.h r c := by
  refine padStages_spec _ g (by rw [storeRows_size]; exact hg) _ fun y x hy hx => ?_
  have hc := cell_in g.S g.oy (g.h + g.pb) g.ox (g.w + g.pr) y x _ hg.hS hg.hin (by omega) (by omega)
  rw [Nat.add_assoc _ (y * g.S), Nat.add_comm (y * g.S)] at hc ⊢
  rw [Nat.mul_comm g.S, storeRows_val _ _ _ _ _ _ _ _ _ _ y x (by have := hg.hS; omega) (Nat.zero_le _) ((Nat.zero_add _).symm ▸ hy) hx hc,
    vis, Nat.zero_add, Nat.add_comm]

theorem planeIn10_half_frame (m : Mem) (src : Buf) (f : Nat → Nat) (g : Plane) (ss j : Nat) (hg : g.Ok m.buf.size)
    (hj : (g.oy + (g.h + g.pb) + g.oy) * g.S ≤ j) :
    rd (padStages (storeRows m src f 0 ss (g.S * g.oy + g.ox) g.S g.w 0 g.h) g.S g.ox g.oy g.w g.h g.pr g.pb).buf j
      = rd m.buf j := by
  rw [(padStages_inside g.S g.ox g.oy g.w g.h g.pr g.pb hg.hw hg.hh hg.hS _
    (by rw [storeRows_size]; exact hg.hin)).2 j hj, Nat.mul_comm g.S, storeRows_frame]
  intro j' k' _ h2 h3
  have := row_sep (g.oy + j') _ g.S (show g.oy + j' < g.oy + (g.h + g.pb) + g.oy by omega)
  rw [Nat.add_mul] at this
  have := hg.hS
  omega

theorem planeIn10_half_ok (m : Mem) (src : Buf) (f : Nat → Nat) (g : Plane) (ss : Nat) (hg : g.Ok m.buf.size) :
    (padStages (storeRows m src f 0 ss (g.S * g.oy + g.ox) g.S g.w 0 g.h) g.S g.ox g.oy g.w g.h g.pr g.pb).ok = true ↔
      m.ok = true ∧ (g.h - 1) * ss + g.w ≤ src.size := by
  obtain ⟨hw, hh, hS, hin⟩ := hg
  rw [(padStages_inside g.S g.ox g.oy g.w g.h g.pr g.pb hw hh hS _ (by rw [storeRows_size]; exact hin)).1,
    storeRows_ok, Nat.mul_comm g.S]
  refine and_congr_right fun _ => ⟨fun hC => ?_, fun hs j' _ hj' k' hk' => ⟨?_, ?_⟩⟩
  · have := (hC (g.h - 1) (Nat.zero_le _) (by omega) (g.w - 1) (by omega)).2
    omega
  · have := cell_in g.S g.oy (g.h + g.pb) g.ox (g.w + g.pr) j' k' _ hS hin (by omega) (by omega)
    omega
  · have := Nat.mul_le_mul_right ss (show j' ≤ g.h - 1 by omega)
    omega

/-- the geometry the library allocates: origin `(o, o)`, `R` rows, strides (truncated as copy_frame_buffer does) at
    most `d` over the width -/
theorem planeIn8_whole_u16 (m : Mem) (src1 src2 : Buf) (S o w h pr pb R d ss1 ss2 : Nat)
    (hw : 1 ≤ w) (hh : 1 ≤ h) (ho : 1 ≤ o) (hS : S = o + (w + pr) + o)
    (hsz : m.buf.size = S * R) (hR : o + (h + pb) + o ≤ R) (hd : o + w + d ≤ 2 * S ∧ w + d < 65536)
    (h1 : w ≤ ss1 ∧ ss1 ≤ w + d) (h2 : w ≤ ss2 ∧ ss2 ≤ w + d)
    (hvis : ∀ x y, x < w → y < h → vis src1 ss1 x y = vis src2 ss2 x y) :
    (planeIn8 m src1 S o o w h pr pb (u16 ss1)).buf = (planeIn8 m src2 S o o w h pr pb (u16 ss2)).buf := by
  rw [u16_id ss1 (by omega), u16_id ss2 (by omega)]
  have hsp : ∀ ss, ss ≤ w + d → o * S + o + (h - 1) * S + ss ≤ (o + (h + pb) + o) * S := by
    intro ss hss
    have := Nat.mul_le_mul_right S (show 2 ≤ pb + o + 1 by omega)
    rw [show o + (h + pb) + o = o + (h - 1) + (pb + o + 1) by omega, Nat.add_mul, Nat.add_mul]
    omega
  exact planeIn8_whole m ⟨S, o, o, w, h, pr, pb⟩ ⟨hw, hh, hS, by rw [hsz, Nat.mul_comm]; exact Nat.mul_le_mul_left S hR⟩
    src1 src2 ss1 ss2 h1.1 h2.1 (hsp _ h1.2) (hsp _ h2.2) hvis

theorem padTo8_spec (n : Nat) : (n + padTo8 n) % 8 = 0 ∧ padTo8 n < 8 ∧ (n % 2 = 0 → padTo8 n % 2 = 0) := by
  unfold padTo8
  by_cases h : n % 8 = 0 <;> simp [h] <;> omega

theorem apiDesc_lumaSize (w h sb bd : Nat) :
    (apiDesc w h sb bd).lumaSize = (w + padTo8 w + 136) * (h + padTo8 h + 68 + (sb + 4)) := by
  simp only [apiDesc, (padTo8_spec _).1, beq_self_eq_true, ↓reduceIte]

theorem apiDesc_chromaSize (w h sb bd : Nat) (hwe : w % 2 = 0) (hhe : h % 2 = 0) (hsbe : sb % 2 = 0) :
    (apiDesc w h sb bd).chromaSize = (w + padTo8 w + 136) / 2 * ((h + padTo8 h + 68 + (sb + 4)) / 2) := by
  have e1 := (padTo8_spec w).2.2 hwe
  have e2 := (padTo8_spec h).2.2 hhe
  obtain ⟨a, ha⟩ : ∃ a, w + padTo8 w + 136 = 2 * a := ⟨(w + padTo8 w + 136) / 2, by omega⟩
  obtain ⟨b, hb⟩ : ∃ b, h + padTo8 h + 68 + (sb + 4) = 2 * b := ⟨(h + padTo8 h + 68 + (sb + 4)) / 2, by omega⟩
  show (apiDesc w h sb bd).lumaSize / 4 = _
  rw [apiDesc_lumaSize, ha, hb, Nat.mul_mul_mul_comm, Nat.mul_div_cancel_left _ (by omega : 0 < 2 * 2),
    Nat.mul_div_cancel_left _ (by omega : 0 < 2), Nat.mul_div_cancel_left _ (by omega : 0 < 2)]

end CopyIn
