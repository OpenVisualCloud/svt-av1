/-
  Lemmas/UnwindSrm.lean — the shutdown sequence of one system resource on the C23 model (`Model/Srm.lean`),
  used by Props/C15: svt_fifo_shutdown on a consumer fifo = `shutQuit f` ; `shutPost f`; a consumer blocked at
  the semaphore then runs `semWait` ; `pop` and gets EB_NoErrorFifoShutdown.
-/
import SvtVerif.Lemmas.Srm

namespace Srm

theorem shutdown_wakes {s : State} (h : Reachable s) (f : Nat) (hf : f < s.nProc .full) :
    ∃ s1 s2, step s (.shutQuit f) = .ok s1 .ok ∧ step s1 (.shutPost f) = .ok s2 .ok ∧ Reachable s2 ∧
      (s.pc .full f = .waiting →
        ∃ s3 s4, step s2 (.semWait .full f) = .ok s3 .ok ∧ step s3 (.pop .full f) = .ok s4 .shutdown ∧
          s4.pc .full f = .idle) := by
  -- the four steps as `Tr` transitions; each post-state is the next one's pre-state
  have hp : upd2 s.shutPend .full f (s.shutPend .full f + 1) .full f ≠ 0 := by simp [upd2]
  have e1 := Tr_step (.shutQuit f hf)
  refine ⟨_, _, e1, Tr_step (.shutPost f hp), .step (.step h (by trivial) e1) (by trivial) (Tr_step (.shutPost f hp)),
    fun hw => ⟨_, _, Tr_step (.semWait .full f hw ?_), Tr_step (.popShut f (upd2_same ..) (upd2_same ..)), upd2_same ..⟩⟩
  simp [upd2]

end Srm
