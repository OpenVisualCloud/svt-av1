/- The generated helper terms of C12 (frame rate, intra period, look-ahead, HME sums, manual prediction structure)
   equal their hand-written definitions in Spec/ConfigDomain.lean (lemmas `gen_*`). -/
import SvtVerif.Spec.ConfigDomain
import SvtVerif.Lemmas.Bits
import Mathlib.Tactic.NormNum
namespace Lemmas.Config
open Gen.Config CSem Spec.ConfigDomain

theorem wrapU32_eq (x : Int) : wrapU 32 x = u32 x := by simp [wrapU, u32]

theorem wrapS32_eq (x : Int) : wrapS 32 x = i32 x := by
  unfold wrapS i32
  rw [BitVec.toInt_ofInt]
  unfold Int.bmod
  norm_num

theorem u32_of_range (x : Int) (h0 : 0 ≤ x) (h1 : x < 4294967296) : u32 x = x := by
  unfold u32; omega

theorem i32_of_range (x : Int) (h0 : -2147483648 ≤ x) (h1 : x < 2147483648) : i32 x = x := by
  unfold i32; omega

theorem u32_i32 (x : Int) : u32 (i32 x) = u32 x := by
  unfold u32 i32; omega

theorem i32_range (x : Int) : -2147483648 ≤ i32 x ∧ i32 x < 2147483648 := by
  unfold i32; omega

theorem i32_idem (x : Int) : i32 (i32 x) = i32 x := i32_of_range _ (i32_range x).1 (i32_range x).2

theorem u32_i32_add (x y : Int) : u32 (i32 x + y) = u32 (x + y) := by
  unfold u32 i32; omega

theorem wrapU16_eq (x : Int) : wrapU 16 x = x % 65536 := rfl

theorem cmod_wrapU16 (x n : Int) : cmod (wrapU 16 x) n = x % 65536 % n :=
  cmod_of_nonneg (wrapU_range 16 x).1

theorem u32_range (x : Int) : 0 ≤ u32 x ∧ u32 x < 4294967296 := by unfold u32; omega

theorem gen_frameRate (c : Cfg) (hc : c.WellTyped) :
    (if ((c.frame_rate_numerator != (0 : Int)) && (c.frame_rate_denominator != (0 : Int))) then (CSem.wrapU 32 ((CSem.wrapU 32 (CSem.cdiv (CSem.wrapU 32 (c.frame_rate_numerator * 2 ^ ((8 : Int)).toNat)) c.frame_rate_denominator)) * 2 ^ ((8 : Int)).toNat)) else c.frame_rate)
      = frameRate c := by
  unfold frameRate
  have hd := hc.frame_rate_denominator
  simp only [Bool.and_eq_true, bne_iff_ne]
  split
  · have e8 : (2 : Int) ^ ((8 : Int)).toNat = 256 := by decide
    have hn := u32_range (c.frame_rate_numerator * 256)
    rw [e8, wrapU32_eq, wrapU32_eq, wrapU32_eq, cdiv_of_nonneg hn.1]
    congr 2
    exact u32_of_range _ (Int.ediv_nonneg hn.1 hd.1) (Int.lt_of_le_of_lt (Int.ediv_le_self _ hn.1) hn.2)
  · rfl

theorem frameRate_range (c : Cfg) (hc : c.WellTyped) : 0 ≤ frameRate c ∧ frameRate c < 4294967296 := by
  unfold frameRate; split_ifs
  · exact u32_range _
  · have := hc.frame_rate; omega

theorem fpsOf_range (fr : Int) (h : 0 ≤ fr ∧ fr < 4294967296) : 0 ≤ fpsOf fr ∧ fpsOf fr < 65536 := by
  unfold fpsOf; omega

theorem gen_fps (fr : Int) : (if (decide (fr < (1000 : Int))) then fr else (CSem.shr fr (16 : Int))) = fpsOf fr := by
  unfold fpsOf shr
  simp only [decide_eq_true_eq]
  rfl

theorem two_pow_bounds {n m : Nat} (h : n ≤ m) : (1 : Int) ≤ 2 ^ n ∧ (2 : Int) ^ n ≤ 2 ^ m :=
  ⟨one_le_pow₀ (by decide), pow_le_pow_right₀ (by decide) h⟩

theorem pow_small (hl : Int) (h0 : 0 ≤ hl) (h : hl ≤ 30) : (1:Int) ≤ 2 ^ hl.toNat ∧ (2:Int) ^ hl.toNat ≤ 1073741824 :=
  two_pow_bounds (m := 30) (by omega)

theorem shl1_small (hl : Int) (h0 : 0 ≤ hl) (h : hl ≤ 30) : wrapS 32 (shlRaw 1 hl) = 2 ^ hl.toNat := by
  have := pow_small hl h0 h
  rw [Bits.shlRaw_wrapS 32 (by decide), Int.one_mul]
  exact Bits.wrapS32_id _ (by omega) (by omega)

theorem ediv_mul_bounds (a m : Int) (ha : 0 ≤ a) (hm : 0 < m) : 0 ≤ a / m * m ∧ a / m * m ≤ a ∧ a < a / m * m + m := by
  refine ⟨Int.mul_nonneg (Int.ediv_nonneg ha (Int.le_of_lt hm)) (Int.le_of_lt hm), Int.ediv_mul_le _ (Int.ne_of_gt hm), ?_⟩
  have := Int.lt_ediv_add_one_mul_self a hm
  rwa [Int.add_mul, Int.one_mul] at this

/-- `x < 0 ? -x : x` on `int`, away from `INT_MIN` -/
theorem cabs_eq (x : Int) (h0 : -(2 ^ 31) < x) (h1 : x < 2 ^ 31) :
    (if decide (wrapS 32 x < 0) then wrapS 32 (-wrapS 32 x) else wrapS 32 x) = if x < 0 then -x else x := by
  rw [Bits.wrapS32_id x (by omega) h1, Bits.wrapS32_id (-x) (by omega) (by omega)]
  simp only [decide_eq_true_eq]

theorem dip_multiples (fps m : Int) (hf : 0 ≤ fps ∧ fps < 65536) (hm : 1 ≤ m ∧ m ≤ 1073741824) :
    wrapS 32 (wrapS 32 (cdiv fps m) * m) = fps / m * m ∧
    wrapS 32 (wrapS 32 (cdiv (wrapS 32 (fps + m)) m) * m) = fps / m * m + m := by
  have hq0 : 0 ≤ fps / m := Int.ediv_nonneg hf.1 (by omega)
  have hq1 : fps / m ≤ fps := Int.ediv_le_self _ hf.1
  have hlo := ediv_mul_bounds fps m hf.1 (by omega)
  have e : (fps + m) / m = fps / m + 1 := by
    have := Int.add_mul_ediv_right fps 1 (show m ≠ 0 by omega)
    rwa [Int.one_mul] at this
  rw [Bits.wrapS32_id (fps + m) (by omega) (by omega), cdiv_of_nonneg hf.1, cdiv_of_nonneg (by omega), e,
    Bits.wrapS32_id (fps / m) (by omega) (by omega), Bits.wrapS32_id (fps / m + 1) (by omega) (by omega),
    Int.add_mul, Int.one_mul]
  generalize fps / m * m = lo at *
  exact ⟨Bits.wrapS32_id _ (by omega) (by omega), Bits.wrapS32_id _ (by omega) (by omega)⟩

/-- no `int` operation of compute_default_intra_period wraps when the mini-GOP is at most 2^30 -/
theorem dip_small (fps m rt : Int) (hf : 0 ≤ fps ∧ fps < 65536) (hm : 1 ≤ m ∧ m ≤ 1073741824) :
    (let min_ip : Int := (CSem.wrapS 32 ((CSem.wrapS 32 (CSem.cdiv fps m)) * m))
     let max_ip : Int := (CSem.wrapS 32 ((CSem.wrapS 32 (CSem.cdiv (CSem.wrapS 32 (fps + m)) m)) * m))
     let intra_period : Int := (if (decide ((if (decide ((CSem.wrapS 32 (fps - max_ip)) < (0 : Int))) then (CSem.wrapS 32 (- (CSem.wrapS 32 (fps - max_ip)))) else (CSem.wrapS 32 (fps - max_ip))) > (if (decide ((CSem.wrapS 32 (fps - min_ip)) < (0 : Int))) then (CSem.wrapS 32 (- (CSem.wrapS 32 (fps - min_ip)))) else (CSem.wrapS 32 (fps - min_ip))))) then min_ip else max_ip)
     (if (rt == (1 : Int)) then (CSem.wrapS 32 (intra_period - (1 : Int))) else intra_period))
    = (let lo := fps / m * m
       let hi := lo + m
       (if hi - fps > fps - lo then lo else hi) - (if rt = 1 then 1 else 0)) := by
  have hlo := ediv_mul_bounds fps m hf.1 (by omega)
  simp only [(dip_multiples fps m hf hm).1, (dip_multiples fps m hf hm).2]
  generalize fps / m * m = lo at *
  rw [cabs_eq _ (by omega) (by omega), cabs_eq _ (by omega) (by omega)]
  simp only [decide_eq_true_eq, beq_iff_eq]
  by_cases hr : rt = 1
  · rw [if_pos hr, if_pos hr, Bits.wrapS32_id _ (by omega) (by omega)]
    omega
  · rw [if_neg hr, if_neg hr]; omega

theorem dip_range (fr hl rt : Int) (hfr : 0 ≤ fr ∧ fr < 4294967296) (hhl : 0 ≤ hl) :
    -2147483648 ≤ defaultIntraPeriod fr hl rt ∧ defaultIntraPeriod fr hl rt < 2147483648 := by
  unfold defaultIntraPeriod
  have hf := fpsOf_range _ hfr
  by_cases h : hl ≤ 30
  · have hm := pow_small hl hhl h
    have hlo := ediv_mul_bounds (fpsOf fr) (2 ^ hl.toNat) hf.1 (by omega)
    simp only [if_pos h]
    generalize fpsOf fr / 2 ^ hl.toNat * 2 ^ hl.toNat = lo at *
    omega
  · simp only [if_neg h]; exact i32_range _

theorem intraPeriod_range (c : Cfg) (hc : c.WellTyped) : -2147483648 ≤ intraPeriod c ∧ intraPeriod c < 2147483648 := by
  unfold intraPeriod; split_ifs
  · exact dip_range _ _ _ (frameRate_range c hc) hc.hierarchical_levels.1
  · have := hc.intra_period_length; omega

theorem gen_shl (a hl : Int) : wrapS 32 (shlRaw a hl) = i32 (shl a hl) := by
  rw [Bits.shlRaw_wrapS 32 (by decide), wrapS32_eq]
  unfold shl
  split_ifs with h
  · rfl
  · have d : (4294967296 : Int) ∣ a * 2 ^ hl.toNat :=
      Int.dvd_trans (Bits.two_pow_dvd 32 hl.toNat (by omega)) (Int.dvd_mul_left a _)
    unfold i32
    rw [Int.emod_eq_zero_of_dvd d]; rfl

theorem gen_dip (s : Scs) (hfr : 0 ≤ s.static_config_frame_rate ∧ s.static_config_frame_rate < 4294967296)
    (hhl : 0 ≤ s.static_config_hierarchical_levels) :
    h_compute_default_intra_period s =
      defaultIntraPeriod s.static_config_frame_rate s.static_config_hierarchical_levels s.static_config_intra_refresh_type := by
  unfold h_compute_default_intra_period defaultIntraPeriod
  have hf := fpsOf_range _ hfr
  have efps : CSem.wrapS 32 (fpsOf s.static_config_frame_rate) = fpsOf s.static_config_frame_rate :=
    Bits.wrapS32_id _ (by omega) (by omega)
  simp only [gen_fps, efps]
  by_cases h : s.static_config_hierarchical_levels ≤ 30
  · rw [if_pos h]
    simp only [shl1_small _ hhl h]
    exact dip_small _ _ _ hf (pow_small _ hhl h)
  · rw [if_neg h]
    simp only [gen_shl]
    simp only [wrapS32_eq, cdiv, decide_eq_true_eq, beq_iff_eq]
    by_cases hr : s.static_config_intra_refresh_type = 1
    · simp only [hr, if_true]
    · simp only [hr, if_false, Int.sub_zero, apply_ite i32, i32_idem]

theorem gen_maxcqp (hl : Int) (h0 : 0 ≤ hl) :
    (CSem.wrapU 32 (CSem.wrapS 32 ((CSem.wrapS 32 (CSem.shlRaw (2 : Int) hl)) + (1 : Int)))) = maxCqpLookAhead hl := by
  rw [gen_shl, wrapS32_eq, wrapU32_eq, u32_i32, u32_i32_add]
  unfold shl maxCqpLookAhead
  by_cases h : hl < 31
  · have h32 : hl < 32 := by omega
    rw [if_pos h32, if_pos h]
    have e : (2:Int) * 2 ^ hl.toNat = 2 ^ (hl.toNat + 1) := by rw [Int.pow_succ, Int.mul_comm]
    rw [e]
    have hb : (1 : Int) ≤ 2 ^ (hl.toNat + 1) ∧ (2 : Int) ^ (hl.toNat + 1) ≤ 2147483648 := two_pow_bounds (m := 31) (by omega)
    apply u32_of_range <;> omega
  · rw [if_neg h]
    by_cases h32 : hl < 32
    · have : hl = 31 := by omega
      subst this; decide
    · rw [if_neg h32]; decide

theorem maxcqp_range (hl : Int) : 1 ≤ maxCqpLookAhead hl ∧ maxCqpLookAhead hl ≤ 2147483649 := by
  unfold maxCqpLookAhead
  split_ifs with h
  · have hb : (1 : Int) ≤ 2 ^ (hl.toNat + 1) ∧ (2 : Int) ^ (hl.toNat + 1) ≤ 2147483648 := two_pow_bounds (m := 31) (by omega)
    omega
  · omega

theorem gen_dla (s : Scs) (hhl : 0 ≤ s.static_config_hierarchical_levels)
    (hip : s.static_config_intra_period_length < 4294967296) :
    h_compute_default_look_ahead s = defaultLookAhead s.static_config_rate_control_mode s.static_config_intra_period_length
      s.static_config_enable_tpl_la s.static_config_hierarchical_levels := by
  unfold h_compute_default_look_ahead defaultLookAhead
  simp only [Bool.or_eq_true, beq_iff_eq, decide_eq_true_eq, apply_ite (wrapU 32), gen_maxcqp _ hhl]
  split
  · split <;> rfl
  · exact wrapU_of_range (by omega) (by omega)

theorem gen_cla (s : Scs) (hhl : 0 ≤ s.static_config_hierarchical_levels)
    (hfr : 0 ≤ s.static_config_frame_rate ∧ s.static_config_frame_rate < 4294967296) :
    h_cap_look_ahead_distance s = cappedLookAhead s.static_config_rate_control_mode s.static_config_look_ahead_distance
      s.static_config_frame_rate s.static_config_hierarchical_levels := by
  unfold h_cap_look_ahead_distance cappedLookAhead
  have hf := fpsOf_range _ hfr
  have e1 : (2:Int) ^ ((1 : Int)).toNat = 2 := by decide
  have e2 : CSem.wrapU 32 (fpsOf s.static_config_frame_rate * 2) = fpsOf s.static_config_frame_rate * 2 := by
    rw [wrapU32_eq]; apply u32_of_range <;> omega
  simp only [gen_fps, gen_maxcqp _ hhl, e1, e2]
  simp only [Int.min_def, beq_iff_eq, bne_iff_ne, Bool.and_eq_true, decide_eq_true_eq, Int.one_ne_zero, ne_eq,
    not_false_eq_true, if_true]
  by_cases hr : s.static_config_rate_control_mode = 0
  · simp only [hr, true_and, not_true_eq_false, false_and, if_false, if_true]; omega
  · simp only [hr, false_and, not_false_eq_true, true_and, if_false]; omega

theorem gen_ip (s : Scs) (c : Cfg) (hc : c.WellTyped) :
    (if (c.intra_period_length == (-2 : Int)) then (h_compute_default_intra_period { s with static_config_frame_rate := frameRate c, static_config_hierarchical_levels := c.hierarchical_levels, static_config_intra_refresh_type := c.intra_refresh_type }) else c.intra_period_length)
      = intraPeriod c := by
  unfold intraPeriod
  simp only [beq_iff_eq]
  split
  · exact gen_dip _ (frameRate_range c hc) hc.hierarchical_levels.1
  · rfl

theorem gen_lookAhead_base (s : Scs) (c : Cfg) (hc : c.WellTyped) :
    (if (c.look_ahead_distance == (CSem.wrapU 32 (CSem.wrapS 32 (- (0 : Int) - 1)))) then (h_compute_default_look_ahead { s with static_config_enable_tpl_la := c.enable_tpl_la, static_config_hierarchical_levels := c.hierarchical_levels, static_config_intra_period_length := intraPeriod c, static_config_rate_control_mode := c.rate_control_mode }) else (h_cap_look_ahead_distance { s with static_config_frame_rate := frameRate c, static_config_hierarchical_levels := c.hierarchical_levels, static_config_look_ahead_distance := c.look_ahead_distance, static_config_rate_control_mode := c.rate_control_mode }))
    = (if c.look_ahead_distance = 4294967295 then
        defaultLookAhead c.rate_control_mode (intraPeriod c) c.enable_tpl_la c.hierarchical_levels
      else cappedLookAhead c.rate_control_mode c.look_ahead_distance (frameRate c) c.hierarchical_levels) := by
  have e : (CSem.wrapU 32 (CSem.wrapS 32 (- (0 : Int) - 1))) = 4294967295 := by decide
  simp only [e, beq_iff_eq]
  split
  · exact gen_dla _ hc.hierarchical_levels.1 (by have := (intraPeriod_range c hc).2; show intraPeriod c < 4294967296; omega)
  · exact gen_cla _ hc.hierarchical_levels.1 (frameRate_range c hc)

theorem gen_lookAhead_tpl (s : Scs) (c : Cfg) (l : Int) :
    (if ((((c.enable_tpl_la != 0) && (decide (l > (0 : Int)))) && (l != (0 : Int))) && (((c.rate_control_mode == (0 : Int)) || ((h_use_input_stat { s with static_config_rc_twopass_stats_in_sz := c.rc_twopass_stats_in_sz }) != 0)) || ((0 : Int) != 0))) then (0 : Int) else l)
    = (if c.enable_tpl_la ≠ 0 ∧ 0 < l ∧ (c.rate_control_mode = 0 ∨ c.rc_twopass_stats_in_sz ≠ 0) then 0 else l) := by
  have e : ((h_use_input_stat { s with static_config_rc_twopass_stats_in_sz := c.rc_twopass_stats_in_sz }) != 0) = (c.rc_twopass_stats_in_sz != 0) := by
    unfold h_use_input_stat
    by_cases h : c.rc_twopass_stats_in_sz = 0 <;> simp [h, b2i, wrapU]
  rw [e]
  simp only [Bool.and_eq_true, Bool.or_eq_true, bne_iff_ne, beq_iff_eq, decide_eq_true_eq, ne_eq, not_true_eq_false, or_false]
  exact if_congr (by omega) rfl rfl

theorem lookAhead_of_base (c : Cfg) (l : Int)
    (hl : l = (if c.look_ahead_distance = 4294967295 then
        defaultLookAhead c.rate_control_mode (intraPeriod c) c.enable_tpl_la c.hierarchical_levels
      else cappedLookAhead c.rate_control_mode c.look_ahead_distance (frameRate c) c.hierarchical_levels)) :
    (if c.enable_tpl_la ≠ 0 ∧ 0 < l ∧ (c.rate_control_mode = 0 ∨ c.rc_twopass_stats_in_sz ≠ 0) then 0 else l) = lookAhead c := by
  subst hl; rfl

theorem hme_loop (a : List Int) (n : Nat) :
    (List.range n).foldl (fun t k => wrapU 32 (t + a.getD ((0 : Int) + (k : Nat)).toNat 0)) 0 = u32 (a.take n).sum := by
  induction n with
  | zero => rfl
  | succ n ih =>
    have hn : ((0 : Int) + (n : Nat)).toNat = n := by omega
    rw [List.range_succ, List.foldl_append, ih, List.take_add_one, List.sum_append, List.foldl_cons, List.foldl_nil, hn,
      wrapU32_eq, List.getD_eq_getElem?_getD]
    unfold u32
    rw [Int.emod_add_emod]
    cases a[n]? <;> simp

theorem hme_dim (idx total : Int) (a : List Int) (n : Int) :
    (h_verify_hme_dimension idx total a n != 0) = (hmeSum n a != total) := by
  unfold h_verify_hme_dimension hmeSum
  simp only [Int.sub_zero, hme_loop]
  cases u32 (List.take n.toNat a).sum != total <;> rfl

theorem hme_dim_l12 (idx : Int) (a : List Int) (n : Int) :
    (h_verify_hme_dimension_l1_l2 idx a n != 0) = !decide (1 ≤ hmeSum n a ∧ hmeSum n a ≤ 480) := by
  unfold h_verify_hme_dimension_l1_l2 hmeSum
  simp only [Int.sub_zero, hme_loop]
  have := u32_range (List.take n.toNat a).sum
  generalize u32 (List.take n.toNat a).sum = t at *
  by_cases h : 1 ≤ t ∧ t ≤ 480
  · have h' : (decide (t > 480) || t == 0) = false := by simp; omega
    simp only [h', h]; rfl
  · have h' : (decide (t > 480) || t == 0) = true := by simp; omega
    simp only [h', h]; rfl

theorem getD_mem_or {α : Type} (Q : α → Prop) (l : List α) (d : α) (h : ∀ x ∈ l, Q x) (hd : Q d) (i : Nat) : Q (l.getD i d) := by
  rw [List.getD_eq_getElem?_getD]
  by_cases hk : i < l.length
  · rw [List.getElem?_eq_getElem hk]; exact h _ (List.getElem_mem hk)
  · rw [List.getElem?_eq_none (by omega)]; exact hd

theorem foldl_set_range {α : Type} (f : Nat → α) (dst : List α) (n : Nat) :
    (List.range n).foldl (fun d i => d.set i (f i)) dst = dst.mapIdx (fun i x => if i < n then f i else x) := by
  induction n with
  | zero => exact List.ext_getElem? fun i => by simp
  | succ n ih =>
    rw [List.range_succ, List.foldl_append, ih, List.foldl_cons, List.foldl_nil]
    apply List.ext_getElem?
    intro i
    rw [List.getElem?_set, List.getElem?_mapIdx, List.getElem?_mapIdx, List.length_mapIdx]
    by_cases h : n = i
    · subst h
      cases hd : dst[n]? with
      | none => simp [List.getElem?_eq_none_iff.1 hd]
      | some x => simp [(List.getElem?_eq_some_iff.1 hd).1]
    · rw [if_neg h]
      cases dst[i]? with
      | none => rfl
      | some x => simp only [Option.map_some]; congr 1; split <;> split <;> first | rfl | omega

theorem copyPrefix_eq_copied (n : Int) (src dst : List Int) (h : src.length = dst.length) :
    copyPrefix n src dst = copied n src dst := by
  unfold copyPrefix copied
  rw [foldl_set_range]
  apply List.ext_getElem?
  intro i
  rw [List.getElem?_mapIdx, List.getElem?_append, List.length_take, List.getElem?_take, List.getElem?_drop,
    List.getD_eq_getElem?_getD]
  by_cases hi : i < dst.length
  · rw [List.getElem?_eq_getElem hi, Option.map_some]
    by_cases hn : i < n.toNat
    · rw [if_pos hn, if_pos (by omega), if_pos hn, List.getElem?_eq_getElem (by omega)]; rfl
    · rw [if_neg hn, if_neg (by omega), List.getElem?_eq_getElem (by omega)]; congr 2; omega
  · rw [List.getElem?_eq_none (l := dst) (by omega), List.getElem?_eq_none (l := src) (by omega),
      List.getElem?_eq_none (l := dst) (by omega), ite_self, ite_self]; rfl

theorem hmeSum_copied_same (src dst : List Int) (h : src.length = dst.length) (n : Int) :
    hmeSum n (copied n src dst) = hmeSum n src := by
  unfold hmeSum copied
  rw [List.take_append, List.take_take, Nat.min_self, List.length_take]
  by_cases hn : n.toNat ≤ src.length
  · rw [Nat.min_eq_left hn, Nat.sub_self, List.take_zero, List.append_nil]
  · rw [List.drop_eq_nil_of_le (by omega), List.take_nil, List.append_nil]

theorem copyPrefixE_spec {α : Type} [Inhabited α] (n : Int) (src dst : List α) :
    (copyPrefixE n src dst).length = dst.length ∧
    (∀ i, i < n.toNat → i < dst.length → (copyPrefixE n src dst).getD i default = src.getD i default) := by
  unfold copyPrefixE
  rw [foldl_set_range]
  refine ⟨List.length_mapIdx, fun i hi hil => ?_⟩
  rw [List.getD_eq_getElem?_getD, List.getElem?_mapIdx, List.getElem?_eq_getElem hil, Option.map_some, if_pos hi]; rfl

theorem copyPrefixE_mem {α : Type} [Inhabited α] (Q : α → Prop) (n : Int) (src dst : List α)
    (hsrc : ∀ x ∈ src, Q x) (hdst : ∀ x ∈ dst, Q x) (hd : Q default) : ∀ x ∈ copyPrefixE n src dst, Q x := by
  unfold copyPrefixE
  rw [foldl_set_range]
  intro x hx
  obtain ⟨i, hi, rfl⟩ := List.mem_mapIdx.1 hx
  split
  · exact getD_mem_or Q src default hsrc hd i
  · exact hdst _ (List.getElem_mem hi)

theorem foldl_range_inv {σ : Type} (F : σ → Nat → σ) (init : σ) (n : Nat) (P : Nat → σ → Prop) (G : σ → Prop)
    (h0 : P 0 init) (hstep : ∀ k st, k < n → P k st → P (k + 1) (F st k)) (hfin : ∀ st, P n st → G st) :
    G (List.foldl F init (List.range n)) := by
  refine hfin _ ?_
  suffices h : ∀ m, m ≤ n → P m ((List.range m).foldl F init) from h n (Nat.le_refl n)
  intro m
  induction m with
  | zero => intro _; simpa using h0
  | succ m ih =>
    intro hm
    rw [List.range_succ, List.foldl_append]
    simpa using hstep m _ (by omega) (ih (by omega))

/-- `EB_ErrorBadParameter` (0x80001005) as an `int` -/
theorem badParameter_ne_zero : (CSem.wrapU 32 (-2147479547 : Int)) ≠ 0 := by decide

theorem ite_badParameter_eq_zero (p : Prop) [Decidable p] (x : Int) : (if p then (CSem.wrapU 32 (-2147479547 : Int)) else x) = 0 ↔ ¬ p ∧ x = 0 := by
  by_cases h : p <;> simp [h, badParameter_ne_zero]

theorem ite_flag_ne_zero (h : Int) (a b : Bool) :
    ((if (!(h != 0) && a && b) = true then (1 : Int) else h) != 0) = ((h != 0) || (a && b)) := by
  by_cases hh : h = 0 <;> cases a <;> cases b <;> simp [hh]

/-- the cell loop's invariant (`q1`, `q2`) at `j = 4` is `validEntry` -/
theorem entry_final (e : PredEntry) (hwk : e.WellTyped) (k : Nat) (hk32 : k < 32) (N : Int) (hkN : (k : Int) + 1 ≤ N)
    (r hv re re0 : Int)
    (hre0' : re0 = 0 ↔ e.temporal_layer_index < 32 ∧ e.decode_order < 32 ∧ re = 0)
    (q1 : r = 0 ↔ re0 = 0 ∧ ∀ j', j' < 4 → 0 ≤ e.ref_list0.getD j' 0 ∧
                  CSem.wrapS 32 ((k : Int) + 1 - (e.ref_list1.set 3 0).getD j' 0) ≤ N)
    (q2 : (hv != 0) = true ↔ ∃ j', j' < 4 ∧ e.ref_list0.getD j' 0 ≠ 0 ∧
                  0 ≤ CSem.wrapS 32 ((k : Int) + 1 - e.ref_list0.getD j' 0)) :
    ((if (!(hv != 0)) = true then CSem.wrapU 32 (-2147479547 : Int) else r) = 0 ↔ re = 0 ∧ validEntry N k e) := by
  have hl0 : ∀ j, -2147483648 ≤ e.ref_list0.getD j 0 ∧ e.ref_list0.getD j 0 ≤ 2147483647 :=
    getD_mem_or (fun v => -2147483648 ≤ v ∧ v ≤ 2147483647) _ 0 hwk.2.2.1.2 (by decide)
  have hw : ∀ x : Int, 0 ≤ x → x ≤ 2147483647 → CSem.wrapS 32 ((k : Int) + 1 - x) = (k : Int) + 1 - x :=
    fun x h0 h1 => Bits.wrapS32_id _ (by omega) (by omega)
  -- the fourth cell of list1 is cleared before the test
  have hset : ∀ j, (e.ref_list1.set 3 0).getD j 0 = if j = 3 then 0 else e.ref_list1.getD j 0 := fun j => by
    rw [List.getD_set_eq]
    by_cases h : j = 3
    · rw [if_pos ⟨h.symm, by have := hwk.2.2.2.1; omega⟩, if_pos h]
    · rw [if_neg (by omega), if_neg h]
  have b2 : (!(hv != 0)) = true ↔ ¬ ((hv != 0) = true) := by cases (hv != 0) <;> simp
  rw [ite_badParameter_eq_zero, b2, q1, q2, hre0']
  unfold validEntry
  simp only [hset]
  constructor
  · rintro ⟨hx, ⟨ht, hd, hr⟩, hq⟩
    refine ⟨hr, hd, ht, fun j hj => ?_, fun j hj => (hq j hj).1, ?_⟩
    · have := (hq j (by omega)).2
      rwa [if_neg (by omega), wrapS32_eq] at this
    · obtain ⟨j, hj, hne, h0⟩ := not_not.mp hx
      rw [hw _ (hq j hj).1 (hl0 j).2] at h0
      exact ⟨j, hj, by have := (hq j hj).1; omega, by omega⟩
  · rintro ⟨hr, hd, ht, ha, hb, j, hj, h1, h2⟩
    refine ⟨not_not.mpr ⟨j, hj, by omega, by rw [hw _ (hb j hj) (hl0 j).2]; omega⟩, ⟨ht, hd, hr⟩, fun j' hj' => ⟨hb j' hj', ?_⟩⟩
    split
    · rw [hw 0 (by omega) (by omega)]; omega
    · rw [wrapS32_eq]; exact ha j' (by omega)

theorem block92_spec (t : Scs) (hlen : t.static_config_pred_struct.length = 32)
    (hwt : ∀ i, i < t.static_config_manual_pred_struct_entry_num.toNat → (t.static_config_pred_struct.getD i default).WellTyped) :
    ((h_verify_settings_block92 t).1 != 0) = false ↔
      (t.static_config_enable_manual_pred_struct = 0 ∨
        validManualPredStruct t.static_config_manual_pred_struct_entry_num t.static_config_pred_struct) := by
  unfold h_verify_settings_block92
  by_cases he : t.static_config_enable_manual_pred_struct = 0
  · simp [he]
  · have he' : (t.static_config_enable_manual_pred_struct != 0) = true := by simp [he]
    simp only [he', if_true]
    have e32 : (CSem.wrapS 32 (CSem.shlRaw (1 : Int) (CSem.wrapS 32 ((6 : Int) - (1 : Int))))) = 32 := by decide
    simp only [e32]
    by_cases hn : t.static_config_manual_pred_struct_entry_num > 32
    · have hn' : decide (t.static_config_manual_pred_struct_entry_num > 32) = true := by simp; omega
      simp only [hn', if_true]
      have : ¬ validManualPredStruct t.static_config_manual_pred_struct_entry_num t.static_config_pred_struct := by
        unfold validManualPredStruct; omega
      simp [he, this, badParameter_ne_zero]
    · have hn' : decide (t.static_config_manual_pred_struct_entry_num > 32) = false := by simp; omega
      simp only [hn', Bool.false_eq_true, if_false]
      -- after `k` entries: no error yet iff the first `k` are valid; the rest of the state is untouched
      refine foldl_range_inv (σ := Scs × Int) _ _ _
        (fun k (st : Scs × Int) => st.1.static_config_manual_pred_struct_entry_num = t.static_config_manual_pred_struct_entry_num ∧
          st.1.static_config_pred_struct.length = 32 ∧
          (∀ j, k ≤ j → st.1.static_config_pred_struct.getD j default = t.static_config_pred_struct.getD j default) ∧
          (st.2 = 0 ↔ ∀ i, i < k → validEntry t.static_config_manual_pred_struct_entry_num i (t.static_config_pred_struct.getD i default)))
        (fun (st : Scs × Int) => (st.2 != 0) = false ↔ _) ?_ ?_ ?_
      · exact ⟨rfl, hlen, fun _ _ => rfl, by simp⟩
      · rintro k ⟨s, re⟩ hk ⟨h1, h2, h3, h4⟩
        dsimp only at h1 h2 h3 h4
        have hk32 : k < 32 := by omega
        have hkN : (k : Int) + 1 ≤ t.static_config_manual_pred_struct_entry_num := by omega
        have hi : ((0 : Int) + (k : Int)).toNat = k := by omega
        have e3 : (CSem.wrapS 32 ((4 : Int) - (1 : Int))).toNat = 3 := by decide
        have e4 : ((4 : Int) - (0 : Int)).toNat = 4 := by decide
        have eU : CSem.wrapU 32 (32 : Int) = 32 := by decide
        refine ⟨h1, ?_, ?_, ?_⟩
        · simp only [hi, List.length_set]; exact h2
        · intro j hj
          simp only [hi]
          rw [List.getD_set_eq, if_neg (by omega)]
          exact h3 j (by omega)
        · simp only [hi, e3, e4, eU, List.getD_set_eq s.static_config_pred_struct, show k < s.static_config_pred_struct.length by omega,
            and_self, if_true]
          have hek := h3 k (Nat.le_refl k)
          rw [hek, h1]
          have hwk := hwt k (by omega)
          generalize hE : t.static_config_pred_struct.getD k default = e at *
          generalize t.static_config_manual_pred_struct_entry_num = N at *
          have hK : CSem.wrapS 32 ((0 : Int) + (k : Int) + 1) = (k : Int) + 1 := by
            have := Bits.wrapS32_id ((0 : Int) + (k : Int) + 1) (by omega) (by omega)
            rw [this]; omega
          rw [hK]
          generalize hre0 : (if decide (e.temporal_layer_index ≥ 32) = true then CSem.wrapU 32 (-2147479547 : Int)
              else if decide (e.decode_order ≥ 32) = true then CSem.wrapU 32 (-2147479547 : Int) else re) = re0
          have hre0' : re0 = 0 ↔ (e.temporal_layer_index < 32 ∧ e.decode_order < 32 ∧ re = 0) := by
            rw [← hre0]; simp only [ite_badParameter_eq_zero, decide_eq_true_eq]; omega
          -- after `j` cells: no error yet iff cells `< j` pass the list tests; flag iff list0 had a hit
          refine foldl_range_inv (σ := Int × Int) _ _ _
            (fun j (st : Int × Int) =>
              (st.1 = 0 ↔ re0 = 0 ∧ ∀ j', j' < j → 0 ≤ e.ref_list0.getD j' 0 ∧
                  CSem.wrapS 32 ((k : Int) + 1 - (e.ref_list1.set 3 0).getD j' 0) ≤ N) ∧
              ((st.2 != 0) = true ↔ ∃ j', j' < j ∧ e.ref_list0.getD j' 0 ≠ 0 ∧
                  0 ≤ CSem.wrapS 32 ((k : Int) + 1 - e.ref_list0.getD j' 0)))
            (fun (X : Int × Int) => (if (!(X.2 != 0)) = true then CSem.wrapU 32 (-2147479547 : Int) else X.1) = 0 ↔
              ∀ i, i < k + 1 → validEntry N i (t.static_config_pred_struct.getD i default)) ?_ ?_ ?_
          · simp
          · rintro j ⟨r, hv⟩ hj ⟨q1, q2⟩
            dsimp only at q1 q2 ⊢
            have hj' : ((0 : Int) + (j : Int)).toNat = j := by omega
            rw [hj']
            constructor
            · simp only [ite_badParameter_eq_zero, decide_eq_true_eq, q1, Nat.forall_lt_succ_right]
              constructor
              · rintro ⟨a, b, c, d⟩; exact ⟨c, d, by omega, by omega⟩
              · rintro ⟨c, d, a, b⟩; exact ⟨by omega, by omega, c, d⟩
            · rw [ite_flag_ne_zero, Bool.or_eq_true, q2, Nat.exists_lt_succ_right]
              simp only [Bool.and_eq_true, bne_iff_ne, ne_eq, decide_eq_true_eq, ge_iff_le]
          · rintro ⟨r, hv⟩ ⟨q1, q2⟩
            dsimp only at q1 q2 ⊢
            rw [Nat.forall_lt_succ_right, ← h4, hE]
            exact entry_final e hwk k hk32 N hkN r hv re re0 hre0' q1 q2
      · rintro ⟨s, re⟩ ⟨_, _, _, h4⟩
        dsimp only at h4 ⊢
        have e0 : (t.static_config_manual_pred_struct_entry_num - 0).toNat = t.static_config_manual_pred_struct_entry_num.toNat := by simp
        rw [e0] at h4
        have b : (re != 0) = false ↔ re = 0 := by simp
        rw [b, h4]
        unfold validManualPredStruct
        constructor
        · intro h; exact Or.inr ⟨by omega, h⟩
        · rintro (h | h)
          · exact absurd h he
          · exact h.2

theorem default_wt : (default : PredEntry).WellTyped := by decide

end Lemmas.Config
