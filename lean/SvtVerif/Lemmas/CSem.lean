import SvtVerif.CSem

/-! Range facts for the C integer conversions and the division of `CSem`, and the list update lemma the array models share.
    Core Lean only. -/

namespace CSem

theorem wrapU_of_range {n : Nat} {x : Int} (h0 : 0 ≤ x) (h1 : x < 2 ^ n) : wrapU n x = x :=
  Int.emod_eq_of_lt h0 h1

theorem wrapU_range (n : Nat) (x : Int) : 0 ≤ wrapU n x ∧ wrapU n x < 2 ^ n :=
  have h : (0 : Int) < 2 ^ n := Int.pow_pos (by decide)
  ⟨Int.emod_nonneg _ (Int.ne_of_gt h), Int.emod_lt_of_pos _ h⟩

theorem wrapS_of_range {n : Nat} {x : Int} (h0 : -(2 ^ (n - 1)) ≤ x) (h1 : x < 2 ^ (n - 1)) (hn : 0 < n) :
    wrapS n x = x := by
  obtain ⟨m, rfl⟩ : ∃ m, n = m + 1 := ⟨n - 1, by omega⟩
  simp only [Nat.add_sub_cancel] at h0 h1
  unfold wrapS
  rw [BitVec.toInt_ofInt]
  have : ((2 ^ (m + 1) : Nat) : Int) = 2 * 2 ^ m := by rw [Nat.pow_succ]; push_cast; omega
  apply Int.bmod_eq_of_le <;> omega

/-- C division and remainder truncate; on a non-negative dividend they are `/` and `%` -/
theorem cdiv_of_nonneg {a b : Int} (ha : 0 ≤ a) : cdiv a b = a / b := Int.tdiv_eq_ediv_of_nonneg ha

theorem cmod_of_nonneg {a b : Int} (ha : 0 ≤ a) : cmod a b = a % b := Int.tmod_eq_emod_of_nonneg ha

end CSem

theorem List.getD_set_eq {α : Type _} (l : List α) (i j : Nat) (a d : α) :
    (l.set i a).getD j d = if i = j ∧ i < l.length then a else l.getD j d := by
  simp only [List.getD_eq_getElem?_getD, List.getElem?_set]
  by_cases h : i = j
  · subst h; by_cases hl : i < l.length <;> simp [hl]
  · simp [h]
