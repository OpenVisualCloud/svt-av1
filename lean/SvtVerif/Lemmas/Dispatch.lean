import SvtVerif.Gen.Dispatch
import SvtVerif.Spec.DispatchAllow

namespace DispatchLemmas
open _root_.Dispatch Gen.Dispatch Spec.DispatchAllow

/-- the build's configuration (EN_AVX512_SUPPORT=0) -/
def table : List Entry := common ++ enc
/-- EN_AVX512_SUPPORT=1 -/
def table512 : List Entry := common512 ++ enc512

/-- in a list sorted by instruction set (as `isaSuffixes` is) the first suffix a name matches stands for an
    instruction set at most that of any suffix it matches -/
theorem isaOfSuffix_le (n : FnName) : ∀ (L : List (FnName × Nat)), L.Pairwise (fun a b => a.2 ≤ b.2) →
    ∀ si ∈ L, decorations.any (fun d => n.endsWith (si.1.cat d)) = true → ∃ j, isaOfSuffix n L = some j ∧ j ≤ si.2
  | (s, i) :: rest, hL, si, hsi, hm => by
    rw [isaOfSuffix]
    split
    · refine ⟨i, rfl, ?_⟩
      rcases List.mem_cons.mp hsi with rfl | h
      · exact Nat.le_refl _
      · exact (List.pairwise_cons.mp hL).1 si h
    · next hno =>
      rcases List.mem_cons.mp hsi with rfl | h
      · exact absurd hm hno
      · exact isaOfSuffix_le n rest (List.pairwise_cons.mp hL).2 si h hm

theorem endsWith_of_endsWith {a t u : FnName} (ht : a.endsWith t = true) (hu : a.endsWith u = true)
    (h : u.len ≤ t.len) : t.endsWith u = true := by
  simp only [FnName.endsWith, Bool.and_eq_true, decide_eq_true_eq, beq_iff_eq] at ht hu ⊢
  exact ⟨h, by rw [← ht.2, Nat.mod_mod_of_dvd _ (Nat.pow_dvd_pow 256 h), hu.2]⟩

/-- the usual registration: `n` is named for the very instruction set of its slot -/
def namedFor (bit : Nat) (n : FnName) : Bool :=
  match isaSuffixes[bit]? with
  | some si => decide (si.2 ≤ bit) && decorations.any fun d => n.endsWith (si.1.cat d)
  | none => false

theorem slotOk_of_namedFor (allow : List FnName) (s : Nat × FnName) (h : namedFor s.1 s.2 = true) :
    slotOk allow s = true := by
  unfold namedFor at h
  split at h
  · next si hsi =>
    rw [Bool.and_eq_true, decide_eq_true_eq] at h
    have hsi := List.mem_of_getElem? hsi
    obtain ⟨j, hj, hle⟩ := isaOfSuffix_le s.2 isaSuffixes (by decide) si hsi h.2
    -- no decorated instruction-set suffix ends in `_c`, so the name is not taken for a C function
    have hc : s.2.endsWith (name! "_c") = false := by
      obtain ⟨d, hd, hm⟩ := List.any_eq_true.mp h.2
      have hfin : ∀ si ∈ isaSuffixes, ∀ d ∈ decorations,
          2 ≤ (si.1.cat d).len ∧ (si.1.cat d).endsWith (name! "_c") = false := by decide
      obtain ⟨hlen, hno⟩ := hfin si hsi d hd
      refine Bool.eq_false_iff.mpr fun hu => ?_
      rw [endsWith_of_endsWith hm hu hlen] at hno
      cases hno
    simp only [slotOk, nameIsa, hc, Bool.false_eq_true, if_false, hj, Bool.or_eq_true, decide_eq_true_eq]
    exact Or.inl (Nat.le_trans hle h.1)
  · cases h

theorem entryOk_iff (allow noC : List FnName) (e : Entry) :
    entryOk allow noC e = true ↔ cOk noC e = true ∧ slotsOk allow e = true ∧ slotsSorted e.slots = true := by
  rw [entryOk, Bool.and_eq_true, Bool.and_eq_true, and_assoc]

theorem entry_ok {e : Entry} (he : e ∈ table ++ table512) : entryOk slotAllow noCAllow e = true := by
  -- `slotOk` is evaluated through `namedFor`, and in full only where that fails
  have h : (table ++ table512).all (fun e => cOk noCAllow e &&
      e.slots.all (fun s => namedFor s.1 s.2 || slotOk slotAllow s) && slotsSorted e.slots) = true := by
    decide +kernel
  have h := List.all_eq_true.mp h e he
  simp only [Bool.and_eq_true] at h
  refine (entryOk_iff ..).mpr ⟨h.1.1, List.all_eq_true.mpr fun s hs => ?_, h.2⟩
  exact (Bool.or_eq_true _ _ ▸ List.all_eq_true.mp h.1.2 s hs).elim (slotOk_of_namedFor slotAllow s) id

end DispatchLemmas
