/-
  C09 — one row wavefront: the wavefront invariant `Wave` (rests on `passSound`), the cone of finished columns above a
  starting column, the order of the processing log, progress (deadlock freedom relative to the row gates) and the
  termination measure.
-/
import SvtVerif.Lemmas.DecWavefront

namespace DecWf

theorem cnt_le_W {s : Stage} {st : WSt} (hi : Inv s st) {r : Nat} (hr : r < s.H) : cnt s (lget st.ph r) ≤ s.W := by
  have hc := hi.col_lt r
  cases hp : lget st.ph r with
  | «at» j => exact Nat.le_of_lt (hc j hr (Or.inl hp)).1
  | busy j => exact Nat.le_of_lt (hc j hr (Or.inr hp)).1
  | tail => exact Wb_le s
  | fin => exact Wb_le s
  | _ => exact Nat.zero_le _

theorem pass_cnt {s : Stage} {st : WSt} (hi : Inv s st) {r j : Nat} (hr : r + 1 < s.H)
    (hp : lget st.ph (r + 1) = Ph.at j) (h : r + 1 = 0 ∨ pass s j (lget st.ctr (r + 1 - 1)) = true) :
    min (j + 2) s.W ≤ cnt s (lget st.ph r) := by
  have hr' : r < s.H := Nat.lt_of_succ_lt hr
  have h : pass s j (lget st.ctr r) = true := h.resolve_left (Nat.succ_ne_zero r)
  rw [hi.ctr_ok _ hr'] at h
  exact passSound s j _ (hi.col_lt _ j hr (Or.inl hp)).1 (cnt_le_W hi hr') h

/-- when row `r+1` has started `b ≥ 1` columns, row `r` has finished at least `min (b+1) W` -/
def Wave (s : Stage) (st : WSt) : Prop :=
  ∀ r, r + 1 < s.H → 1 ≤ beg s (lget st.ph (r + 1)) →
    min (beg s (lget st.ph (r + 1)) + 1) s.W ≤ cnt s (lget st.ph r)

theorem Tr.cnt_beg {s : Stage} {g : Nat → Bool} {st st' : WSt} {op : Op} {r : Nat} {p p' : Ph} (hi : Inv s st)
    (hr : r < s.H) (hp : lget st.ph r = p) (t : Tr s g st op r p p' st') :
    cnt s p ≤ cnt s p' ∧ (beg s p' = beg s p ∨
      ∃ j, p = Ph.at j ∧ p' = Ph.busy j ∧ (r = 0 ∨ pass s j (lget st.ctr (r - 1)) = true)) := by
  cases t with
  | dec h => exact ⟨Nat.le_refl _, Or.inr ⟨_, rfl, rfl, h⟩⟩
  | enter2 _ he => exact ⟨Nat.zero_le _, Or.inl (Wb_zero he)⟩
  | @pub2 _ j hj =>
    have := hi.Wb_last hr hp hj
    exact ⟨Nat.le_of_lt (Nat.lt_of_lt_of_eq (Nat.lt_succ_self j) this.symm), Or.inl this⟩
  | pub1 => exact ⟨Nat.le_succ _, Or.inl rfl⟩
  | _ => exact ⟨Nat.le_refl _, Or.inl rfl⟩

theorem wave_step {s : Stage} {st st' : WSt} {g : Nat → Bool} {op : Op} (hi : Inv s st)
    (hw : Wave s st) (h : step s g st op = some st') : Wave s st' := by
  rcases step_cases hi h with b | ⟨r, p, p', hr, hp, t⟩
  · rw [Wave, b.same.1]; exact hw
  · obtain ⟨hc, hb⟩ := t.cnt_beg hi hr hp
    have hl : r < st.ph.length := hi.len_ph ▸ hr
    intro r' h1
    rw [t.ph_eq]
    by_cases e1 : r = r' + 1
    · rw [← e1, lget_lset_self _ _ _ hl, lget_lset_ne _ _ _ _ (by omega)]
      rcases hb with hb | ⟨j, rfl, rfl, hpass⟩
      · rw [hb, ← hp, e1]; exact hw r' h1
      · subst e1; exact fun _ => pass_cnt hi hr hp hpass
    · rw [lget_lset_ne _ _ _ _ e1]
      by_cases e2 : r = r'
      · intro h2
        have := hw r' h1 h2
        rw [← e2, lget_lset_self _ _ _ hl]
        rw [← e2, hp] at this
        exact Nat.le_trans this hc
      · rw [lget_lset_ne _ _ _ _ e2]; exact hw r' h1

theorem reach_wave {s : Stage} {st : WSt} (h : Reach s st) : Wave s st := by
  induction h with
  | init =>
    intro r _ h2
    rw [initW_ph] at h2
    exact absurd h2 (Nat.not_succ_le_zero 0)
  | step hr hst ih => exact wave_step (reach_inv hr) ih hst

theorem min_add_mono {a b W : Nat} (n : Nat) (h : min a W ≤ b) : min (a + n) W ≤ min (b + n) W := by
  omega

/-- the wavefront cone: `d + 1` rows up, `min (b + d + 1) W` columns are finished -/
theorem wave_chain {s : Stage} {st : WSt} (hw : Wave s st) {r : Nat} (hr : r < s.H)
    (hb : 1 ≤ beg s (lget st.ph r)) :
    ∀ d r', r' + (d + 1) = r → min (beg s (lget st.ph r) + (d + 1)) s.W ≤ cnt s (lget st.ph r') := by
  rcases Nat.eq_zero_or_pos s.W with h0 | hW
  · intro d r' _; rw [h0]; exact Nat.le_trans (Nat.min_le_right _ _) (Nat.zero_le _)
  intro d
  induction d with
  | zero => intro r' e; subst e; exact hw r' hr hb
  | succ d ih =>
    intro r' e
    have e' : r' + 1 + (d + 1) = r := (Nat.succ_add r' (d + 1)).trans e
    have h1 := Nat.le_trans (ih (r' + 1) e') (cnt_le_beg s _)
    have h2 := hw r' (Nat.lt_of_le_of_lt (e' ▸ Nat.le_add_right _ _) hr)
      (Nat.le_trans (Nat.le_min.2 ⟨Nat.le_add_left 1 _, hW⟩) h1)
    exact Nat.le_trans (min_add_mono 1 h1) h2

/-- `(r', j')` lies in the wavefront cone of `(r, j)`: left of it in the same row, or `k` rows up and at most
    `k` columns to the right (clipped to the row) -/
def cone (W r j r' j' : Nat) : Prop := (r' = r ∧ j' < j) ∨ (r' < r ∧ j' < min (j + 1 + (r - r')) W)

theorem cone_above {W r j j' : Nat} (hr : 1 ≤ r) (h1 : j' ≤ j + 1) (h2 : j' < W) : cone W r j (r - 1) j' :=
  have hlt : r - 1 < r := Nat.sub_lt hr Nat.one_pos
  Or.inr ⟨hlt, Nat.lt_min.2 ⟨Nat.lt_of_le_of_lt h1 (Nat.lt_add_of_pos_right (Nat.sub_pos_of_lt hlt)), h2⟩⟩

/-- when column `j` of row `r` may start, every column in its cone has finished -/
theorem dec_cone {s : Stage} {st : WSt} (hi : Inv s st) (hw : Wave s st) {r j : Nat} (hr : r < s.H)
    (hp : lget st.ph r = Ph.at j) (h : r = 0 ∨ pass s j (lget st.ctr (r - 1)) = true) {r' j' : Nat}
    (hc : cone s.W r j r' j') : r' < s.H ∧ j' < cnt s (lget st.ph r') := by
  rcases hc with ⟨e, hlt⟩ | ⟨h0, hlt⟩
  · rw [e, hp]; exact ⟨hr, hlt⟩
  · refine ⟨Nat.lt_trans h0 hr, Nat.lt_of_lt_of_le hlt ?_⟩
    obtain ⟨d, rfl⟩ := Nat.exists_eq_add_of_lt h0
    rw [show r' + d + 1 - r' = d + 1 by omega]
    have h1 := pass_cnt hi hr hp h
    cases d with
    | zero => exact h1
    | succ d =>
      have hW : 0 < s.W := Nat.zero_lt_of_lt (hi.col_lt _ j hr (Or.inl hp)).1
      have h2 := Nat.le_trans h1 (cnt_le_beg s _)
      have := wave_chain hw (Nat.lt_of_succ_lt hr) (Nat.le_trans (Nat.le_min.2 ⟨Nat.le_add_left 1 _, hW⟩) h2) d r' rfl
      rw [show j + 1 + (d + 1 + 1) = j + 2 + (d + 1) by omega]
      exact Nat.le_trans (min_add_mono _ h2) this

/-- newest-first log: every entry is new and its whole cone was logged before it -/
def LogOk (W : Nat) : List (Nat × Nat) → Prop
  | [] => True
  | p :: l => p ∉ l ∧ (∀ r' j', cone W p.1 p.2 r' j' → (r', j') ∈ l) ∧ LogOk W l

theorem logok_step {s : Stage} {st st' : WSt} {g : Nat → Bool} {op : Op} (hi : Inv s st)
    (hw : Wave s st) (hl : LogOk s.W st.log) (h : step s g st op = some st') : LogOk s.W st'.log := by
  rcases step_cases hi h with b | ⟨r, p, p', hr, hp, t⟩
  · rw [b.same.2]; exact hl
  · cases t with
    | dec hpass =>
      refine ⟨hi.at_not_logged hp, fun r' j' hc => ?_, hl⟩
      obtain ⟨h1, h2⟩ := dec_cone hi hw hr hp hpass hc
      exact (hi.log_iff r' j').2 ⟨h1, Nat.lt_of_lt_of_le h2 (cnt_le_beg s _)⟩
    | _ => exact hl

theorem reach_logok {s : Stage} {st : WSt} (h : Reach s st) : LogOk s.W st.log := by
  induction h with
  | init => exact True.intro
  | step hr hst ih => exact logok_step (reach_inv hr) (reach_wave hr) ih hst

theorem logok_nodup {W : Nat} {l : List (Nat × Nat)} (h : LogOk W l) : l.Nodup := by
  induction l with
  | nil => exact List.nodup_nil
  | cons p t ih => exact List.nodup_cons.2 ⟨h.1, ih h.2.2⟩

theorem logok_split {W : Nat} {post pre : List (Nat × Nat)} {p : Nat × Nat} (h : LogOk W (post ++ p :: pre)) :
    p ∉ pre ∧ ∀ r' j', cone W p.1 p.2 r' j' → (r', j') ∈ pre := by
  induction post with
  | nil => exact ⟨h.1, h.2.1⟩
  | cons q t ih => exact ih h.2.2

def AllFin (s : Stage) (st : WSt) : Prop := ∀ r, r < s.H → lget st.ph r = Ph.fin

theorem exists_min_unfin {s : Stage} {st : WSt} (h : ¬ AllFin s st) :
    ∃ r, r < s.H ∧ lget st.ph r ≠ Ph.fin ∧ ∀ r', r' < r → lget st.ph r' = Ph.fin := by
  have : ∀ n, (∀ r, r < n → lget st.ph r = Ph.fin) ∨
      ∃ r, r < n ∧ lget st.ph r ≠ Ph.fin ∧ ∀ r', r' < r → lget st.ph r' = Ph.fin := by
    intro n
    induction n with
    | zero => exact Or.inl fun r hr => absurd hr (Nat.not_lt_zero r)
    | succ n ih =>
      rcases ih with ih | ⟨r, hr, h1⟩
      · by_cases hn : lget st.ph n = Ph.fin
        · exact Or.inl fun r hr => (Nat.lt_succ_iff_lt_or_eq.1 hr).elim (ih r) fun e => e ▸ hn
        · exact Or.inr ⟨n, Nat.lt_succ_self n, hn, ih⟩
      · exact Or.inr ⟨r, Nat.lt_succ_of_lt hr, h1⟩
  exact (this s.H).resolve_left h

/-- Progress: in a state that satisfies the invariant, with at least one worker, if some row is not finished
    then a step is enabled — or the least unfinished row is held at its (closed) row gate, i.e. the stage waits for
    the previous stage. -/
theorem progress {s : Stage} {st : WSt} (g : Nat → Bool) (hi : Inv s st) (hn : 1 ≤ s.n) (hfin : ¬ AllFin s st) :
    (∃ op st', step s g st op = some st') ∨
    (∃ r, r < s.H ∧ lget st.ph r = Ph.gate ∧ g r = false ∧ ∀ r', r' < r → lget st.ph r' = Ph.fin) := by
  obtain ⟨r, hr, hne, hmin⟩ := exists_min_unfin hfin
  cases hp : lget st.ph r with
  | fin => exact absurd hp hne
  | unpicked =>
    -- `r` is the next row to hand out and nobody is inside a row: a worker is idle or at the `chk` test
    have hnext : st.next = r := by
      have h1 : ¬ r < st.next := fun hh => (hi.picked r hr).1 hh hp
      rcases Nat.lt_or_ge st.next r with h2 | h2
      · have h3 := (hi.picked st.next (Nat.lt_trans h2 hr)).2 (by rw [hmin st.next h2]; nofun)
        exact absurd h3 (Nat.lt_irrefl _)
      · exact Nat.le_antisymm (Nat.le_of_not_lt h1) h2
    have hhold : sumf hold st.ph = 0 := by
      refine (sumf_eq_zero hold st.ph).2 fun r' hr' => ?_
      rcases Nat.lt_or_ge r' r with h1 | h1
      · rw [hmin r' h1]; rfl
      · have : lget st.ph r' = Ph.unpicked :=
          Decidable.not_not.1 fun h => Nat.not_lt.2 h1 (hnext ▸ (hi.picked r' (hi.len_ph ▸ hr')).2 h)
        rw [this]; rfl
    have hout : st.out = 0 :=
      Decidable.not_not.1 fun h => Nat.ne_of_lt hr (hnext ▸ hi.out_next (Nat.pos_of_ne_zero h))
    have hw := hi.workers
    rw [hhold, hout] at hw
    by_cases h0 : st.idle = 0
    · have hc : st.chk ≠ 0 := fun h => by rw [h0, h] at hw; omega
      refine Or.inl ⟨Op.chk, ?_⟩
      simp only [step, hc, if_false]
      split <;> exact ⟨_, rfl⟩
    · have hne' : st.next ≠ s.H := hnext ▸ Nat.ne_of_lt hr
      exact Or.inl ⟨Op.pick, by simp only [step, h0, if_false, hne', ne_eq, not_false_eq_true, if_true]; exact ⟨_, rfl⟩⟩
  | gate =>
    cases hg : g r with
    | true => exact Or.inl ⟨Op.enter r, by simp only [step, hp, hg, and_self, if_true]; exact ⟨_, rfl⟩⟩
    | false => exact Or.inr ⟨r, hr, hp, hg, hmin⟩
  | «at» j =>
    refine Or.inl ⟨Op.dec r, ?_⟩
    have hc : r = 0 ∨ pass s j (lget st.ctr (r - 1)) = true := by
      rcases Nat.eq_zero_or_pos r with h0 | h0
      · exact Or.inl h0
      · right
        have hlt : r - 1 < r := Nat.sub_lt h0 Nat.one_pos
        obtain ⟨hjW, hen⟩ := hi.col_lt r j hr (Or.inl hp)
        rw [hi.ctr_ok (r - 1) (Nat.lt_trans hlt hr), hmin (r - 1) hlt]
        show pass s j (enc s (Wb s)) = true
        rw [Wb_eq hen (Nat.zero_lt_of_lt hjW)]
        exact passLive s j hjW
    simp only [step, hp, hc, if_true]
    exact ⟨_, rfl⟩
  | busy j => exact Or.inl ⟨Op.pub r, by simp only [step, hp]; exact ⟨_, rfl⟩⟩
  | tail =>
    refine Or.inl ⟨Op.fin r, ?_⟩
    simp only [step, hp, if_true]
    split <;> exact ⟨_, rfl⟩

def rem (s : Stage) : Ph → Nat
  | .unpicked => 2 * s.W + 6
  | .gate => 2 * s.W + 5
  | .at j => 2 * (s.W - j) + 4
  | .busy j => 2 * (s.W - j) + 3
  | .tail => 4
  | .fin => 0

/-- strictly decreasing along every step -/
def mu (s : Stage) (st : WSt) : Nat :=
  sumf (rem s) st.ph + 2 * st.idle + (if st.next = s.H then st.chk else 3 * st.chk)

theorem mu_row {s : Stage} {st : WSt} {r : Nat} {p' : Ph} (hl : r < st.ph.length)
    (h : rem s p' < rem s (lget st.ph r)) {c : List Int} {l : List (Nat × Nat)} :
    mu s { st with ph := lset st.ph r p', ctr := c, log := l } < mu s st :=
  have : sumf (rem s) (lset st.ph r p') < sumf (rem s) st.ph :=
    Nat.lt_of_add_lt_add_right (sumf_lset (rem s) st.ph r p' hl ▸ Nat.add_lt_add_left h _)
  Nat.add_lt_add_right (Nat.add_lt_add_right this _) _

/-- `pick`: `rem` drops by 1, an idle worker leaves, the `chk` weight does not grow -/
theorem mu_lt_of_pick {S S' i i' w w' : Nat} (hS : S' + 1 = S) (hi : i' + 1 = i) (hw : w' ≤ w) :
    S' + 2 * i' + w' < S + 2 * i + w := by
  omega

/-- `fin`: `rem` drops by 4, the freed worker weighs at most 3 -/
theorem mu_lt_of_fin {S S' y y' w w' : Nat} (hS : S' + 4 = S) (h : y' + w' ≤ y + w + 3) :
    S' + y' + w' < S + y + w := by
  omega

theorem Tr.mu_lt {s : Stage} {g : Nat → Bool} {st st' : WSt} {op : Op} {r : Nat} {p p' : Ph} (hi : Inv s st)
    (hr : r < s.H) (hp : lget st.ph r = p) (t : Tr s g st op r p p' st') : mu s st' < mu s st := by
  have hl : r < st.ph.length := hi.len_ph ▸ hr
  have hS := fun p' k => sumf_lset_add (rem s) st.ph r p' hl (k := k)
  have hcol := hi.col_lt r
  rw [hp] at hS
  cases t with
  | pick h1 h2 =>
    refine mu_lt_of_pick (hS Ph.gate 1 rfl) (Nat.sub_add_cancel (Nat.pos_of_ne_zero h1)) ?_
    show (if st.next + 1 = s.H then st.chk else 3 * st.chk) ≤ if st.next = s.H then st.chk else 3 * st.chk
    rw [if_neg h2]
    split
    · exact Nat.le_mul_of_pos_left _ (by decide)
    · exact Nat.le_refl _
  | enter1 => exact mu_row hl (by rw [hp]; exact Nat.lt_succ_self _)
  | enter2 => exact mu_row hl (by rw [hp]; exact Nat.lt_add_left _ (by decide : 4 < 5))
  | dec => exact mu_row hl (by rw [hp]; exact Nat.lt_succ_self _)
  | @pub1 _ j hj => exact mu_row hl (by rw [hp]; show 2 * (s.W - (j + 1)) + 4 < 2 * (s.W - j) + 3; omega)
  | @pub2 _ j hj =>
    have : 2 ≤ 2 * (s.W - j) := Nat.le_mul_of_pos_right 2 (Nat.sub_pos_of_lt (hcol j hr (Or.inr hp)).1)
    exact mu_row hl (by rw [hp]; exact Nat.lt_of_lt_of_le (by decide : 4 < 2 + 3) (Nat.add_le_add_right this 3))
  | finR =>
    refine mu_lt_of_fin (hS Ph.fin 4 rfl) ?_
    show 2 * st.idle + (if st.next = s.H then st.chk + 1 else 3 * (st.chk + 1)) ≤
      2 * st.idle + ((if st.next = s.H then st.chk else 3 * st.chk) + 3)
    refine Nat.add_le_add_left ?_ _
    split
    · exact Nat.add_le_add_left (by decide : 1 ≤ 3) _
    · exact Nat.le_refl _
  | finF =>
    refine mu_lt_of_fin (hS Ph.fin 4 rfl) ?_
    show 2 * st.idle + 2 + _ ≤ 2 * st.idle + _ + 3
    rw [Nat.add_right_comm]
    exact Nat.add_le_add_left (by decide : 2 ≤ 3) _

theorem Bk.mu_lt {s : Stage} {st st' : WSt} {op : Op} (b : Bk s st op st') : mu s st' < mu s st := by
  obtain ⟨i, k, o, rfl, h⟩ := b.counts
  show sumf (rem s) st.ph + 2 * i + (if st.next = s.H then k else 3 * k) <
    sumf (rem s) st.ph + 2 * st.idle + (if st.next = s.H then st.chk else 3 * st.chk)
  by_cases hn : st.next = s.H
  · rw [if_pos hn, if_pos hn]; omega
  · rw [if_neg hn, if_neg hn]; omega

theorem mu_step {s : Stage} {st st' : WSt} {g : Nat → Bool} {op : Op} (hi : Inv s st)
    (h : step s g st op = some st') : mu s st' < mu s st := by
  rcases step_cases hi h with b | ⟨r, p, p', hr, hp, t⟩
  · exact b.mu_lt
  · exact t.mu_lt hi hr hp

/-- `k` steps from `st` to `st'` (any gate oracle at every step) -/
inductive Steps (s : Stage) : WSt → Nat → WSt → Prop
  | refl (st : WSt) : Steps s st 0 st
  | cons {st st' st'' : WSt} {k : Nat} {g : Nat → Bool} {op : Op} :
      step s g st op = some st' → Steps s st' k st'' → Steps s st (k + 1) st''

theorem steps_bounded {s : Stage} {st st' : WSt} {k : Nat} (hi : Inv s st) (h : Steps s st k st') :
    k + mu s st' ≤ mu s st := by
  induction h with
  | refl => exact Nat.le_of_eq (Nat.zero_add _)
  | cons hs _ ih =>
    have := mu_step hi hs
    have := ih (inv_step hi hs)
    omega

theorem mu_init (s : Stage) : mu s (initW s) ≤ s.H * (2 * s.W + 6) + 2 * s.n := by
  show sumf (rem s) (List.replicate s.H Ph.unpicked) + 2 * s.n + (if 0 = s.H then 0 else 3 * 0) ≤ _
  rw [sumf_replicate]
  split <;> exact Nat.le_refl _

end DecWf
