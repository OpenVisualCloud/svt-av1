/-
  C27 (part B) — the linear chain with bounded pools never deadlocks when the application drains the output
  after each submission (`pool_sufficient_partial`), for ALL chain lengths, pool sizes, stage demands and
  picture counts.  `_partial`: the statement is about the ABSTRACT chain of `Model/Chain.lean`; that the real
  encoder's resource graph is such a chain (no object of pool `i` is held across a blocking wait for an object
  of a pool `j ≤ i`) is the explicit hypothesis H-chain of C27, not discharged here.
-/
import SvtVerif.Model.Chain

namespace Chain

variable {P : Params} {s : State}

theorem upd_same (f : Nat → Nat) (i v : Nat) : upd f i v i = v := if_pos rfl

theorem upd_ne (f : Nat → Nat) {i j : Nat} (v : Nat) (h : j ≠ i) : upd f i v j = f j := if_neg h

theorem upd_le {f b : Nat → Nat} {n i v : Nat} (hf : ∀ j, j < n → f j ≤ b j) (hv : v ≤ b i)
    (j : Nat) (hj : j < n) : upd f i v j ≤ b j := by
  by_cases h : j = i
  · rw [h, upd_same]; exact hv
  · rw [upd_ne f v h]; exact hf j hj

theorem sumTo_congr {f g : Nat → Nat} {n : Nat} (h : ∀ i, i < n → f i = g i) :
    sumTo f n = sumTo g n := by
  induction n with
  | zero => rfl
  | succ n ih =>
    simp only [sumTo]
    rw [ih (fun i hi => h i (Nat.lt_succ_of_lt hi)), h n (Nat.lt_succ_self n)]

theorem sumTo_zero {f : Nat → Nat} {n : Nat} (h : ∀ i, i < n → f i = 0) : sumTo f n = 0 := by
  rw [sumTo_congr (g := fun _ => 0) h]
  clear h
  induction n with
  | zero => rfl
  | succ n ih => exact ih

theorem sumTo_bump {f g : Nat → Nat} {n i d : Nat} (hi : i < n) (hne : ∀ j, j ≠ i → g j = f j)
    (hg : g i = f i + d) : sumTo g n = sumTo f n + d := by
  induction n with
  | zero => exact absurd hi (Nat.not_lt_zero i)
  | succ n ih =>
    simp only [sumTo]
    rcases Nat.lt_succ_iff_lt_or_eq.mp hi with h | h
    · rw [hne n (Nat.ne_of_gt h), ih h, Nat.add_right_comm]
    · subst h
      rw [sumTo_congr (fun j hj => hne j (Nat.ne_of_lt hj)), hg, Nat.add_assoc]

theorem sumTo_upd_succ (f : Nat → Nat) {n i : Nat} (hi : i < n) :
    sumTo (upd f i (f i + 1)) n = sumTo f n + 1 :=
  sumTo_bump hi (fun _ hj => upd_ne f _ hj) (upd_same f i _)

theorem sumTo_upd_pred (f : Nat → Nat) {n i : Nat} (hi : i < n) (hpos : 0 < f i) :
    sumTo f n = sumTo (upd f i (f i - 1)) n + 1 :=
  sumTo_bump hi (fun _ hj => (upd_ne f _ hj).symm) (by rw [upd_same, Nat.sub_add_cancel hpos])

theorem wsum_inc (f w : Nat → Nat) {n i : Nat} (hi : i < n) :
    sumTo (fun j => upd f i (f i + 1) j * w j) n = sumTo (fun j => f j * w j) n + w i :=
  sumTo_bump hi (fun j hj => by rw [upd_ne f _ hj]) (by rw [upd_same, Nat.add_one_mul])

theorem wsum_dec (f w : Nat → Nat) {n i : Nat} (hi : i < n) (hpos : 0 < f i) :
    sumTo (fun j => f j * w j) n = sumTo (fun j => upd f i (f i - 1) j * w j) n + w i :=
  sumTo_bump hi (fun j hj => by rw [upd_ne f _ hj])
    (by rw [upd_same, ← Nat.add_one_mul, Nat.sub_add_cancel hpos])

theorem occ_lt {i : Nat} (hi : i < P.m) : occ P s i = s.q i + s.held i := if_pos hi

theorem occ_m : occ P s P.m = s.q P.m := if_neg (Nat.lt_irrefl _)

theorem occ_init (i : Nat) : occ P init i = 0 := by
  unfold occ init; split <;> rfl

theorem occ_congr {s s' : State} {j : Nat} (hq : s'.q j = s.q j) (hh : s'.held j = s.held j) :
    occ P s' j = occ P s j := by
  unfold occ; rw [hq, hh]

theorem occ_q_succ {s s' : State} {j : Nat} (hq : s'.q j = s.q j + 1) (hh : s'.held j = s.held j) :
    occ P s' j = occ P s j + 1 := by
  unfold occ; rw [hq, hh]
  split
  · exact Nat.add_right_comm _ _ _
  · rfl

theorem emit_held_pos (hw : P.WF) {i : Nat} (h : Enabled P s (.emit i)) : 0 < s.held i := by
  obtain ⟨hi, -, hh | ⟨-, hh⟩⟩ := h
  · exact hh ▸ hw.k_pos i hi
  · exact hh

theorem occ_send (j : Nat) :
    occ P (fire P s .send) j = if j = 0 then occ P s j + 1 else occ P s j := by
  split
  next h =>
    subst h
    exact occ_q_succ (upd_same s.q 0 _) rfl
  next h => exact occ_congr (upd_ne _ _ h) rfl

theorem occ_consume {i : Nat} (h : Enabled P s (.consume i)) (j : Nat) :
    occ P (fire P s (.consume i)) j = occ P s j := by
  obtain ⟨hi, hq, -⟩ := h
  by_cases hj : j = i
  · subst hj
    rw [occ_lt hi, occ_lt hi]
    show upd s.q j (s.q j - 1) j + upd s.held j (s.held j + 1) j = _
    rw [upd_same, upd_same, Nat.add_comm (s.held j) 1, ← Nat.add_assoc, Nat.sub_add_cancel hq]
  · exact occ_congr (upd_ne _ _ hj) (upd_ne _ _ hj)

theorem occ_emit (hw : P.WF) {i : Nat} (h : Enabled P s (.emit i)) (j : Nat) :
    occ P (fire P s (.emit i)) j =
      if j = i then occ P s j - 1 else if j = i + 1 then occ P s j + 1 else occ P s j := by
  have hpos := emit_held_pos hw h
  have hi : i < P.m := h.1
  split
  next h1 =>
    subst h1
    rw [occ_lt hi, occ_lt hi]
    show upd s.q (j + 1) _ j + upd s.held j (s.held j - 1) j = _
    rw [upd_ne _ _ (Nat.ne_of_lt (Nat.lt_succ_self j)), upd_same]
    exact (Nat.add_sub_assoc hpos _).symm
  next h1 =>
    split
    next h2 =>
      subst h2
      exact occ_q_succ (upd_same s.q (i + 1) _) (upd_ne _ _ h1)
    next h2 => exact occ_congr (upd_ne _ _ h2) (upd_ne _ _ h1)

theorem occ_take (j : Nat) :
    occ P (fire P s .take) j = if j = P.m then occ P s j - 1 else occ P s j := by
  split
  next h =>
    subst h
    rw [occ_m, occ_m]
    exact upd_same _ _ _
  next h => exact occ_congr (upd_ne _ _ h) rfl

theorem occ_drained : occ P (fire P s .drained) = occ P s := rfl

/-- `cons`: every submitted picture is delivered, queued in some channel or held by some stage. -/
structure Inv (P : Params) (s : State) : Prop where
  held_le : ∀ i, i < P.m → s.held i ≤ P.k i
  occ_le : ∀ i, i ≤ P.m → occ P s i ≤ P.pool i
  sent_le : s.sent ≤ P.N
  cons : s.sent = s.delivered + sumTo s.q (P.m + 1) + sumTo s.held P.m

theorem inv_init : Inv P init :=
  ⟨fun _ _ => Nat.zero_le _, fun i _ => occ_init i ▸ Nat.zero_le _, Nat.zero_le _,
   by rw [sumTo_zero (f := init.q) (fun _ _ => rfl), sumTo_zero (f := init.held) (fun _ _ => rfl)]; rfl⟩

theorem inv_step (hw : P.WF) (hinv : Inv P s) {op : Op} (he : Enabled P s op) :
    Inv P (fire P s op) := by
  have hc := hinv.cons
  cases op with
  | send =>
    obtain ⟨_, hlt, hroom⟩ := he
    refine ⟨hinv.held_le, fun i hi => ?_, hlt, ?_⟩
    · rw [occ_send]
      split
      next h0 => subst h0; exact hroom
      next => exact hinv.occ_le i hi
    · simp only [fire]
      rw [hc, sumTo_upd_succ s.q (n := P.m + 1) (Nat.succ_pos _)]
      ac_rfl
  | consume i =>
    have hocc := occ_consume he
    obtain ⟨hi, hq, hh⟩ := he
    refine ⟨upd_le hinv.held_le hh, fun j hj => ?_, hinv.sent_le, ?_⟩
    · rw [hocc]; exact hinv.occ_le j hj
    · simp only [fire]
      rw [hc, sumTo_upd_succ s.held hi, sumTo_upd_pred s.q (n := P.m + 1) (Nat.lt_succ_of_lt hi) hq]
      ac_rfl
  | emit i =>
    have hocc := occ_emit hw he
    have hpos := emit_held_pos hw he
    obtain ⟨hi, hroom, -⟩ := he
    refine ⟨upd_le hinv.held_le (Nat.le_trans (Nat.sub_le _ _) (hinv.held_le i hi)), fun j hj => ?_,
      hinv.sent_le, ?_⟩
    · rw [hocc]
      split
      next => exact Nat.le_trans (Nat.sub_le _ _) (hinv.occ_le j hj)
      next =>
        split
        next h2 => subst h2; exact hroom
        next => exact hinv.occ_le j hj
    · simp only [fire]
      rw [hc, sumTo_upd_succ s.q (Nat.add_lt_add_right hi 1), sumTo_upd_pred s.held hi hpos]
      ac_rfl
  | take =>
    obtain ⟨_, hq⟩ := he
    refine ⟨hinv.held_le, fun j hj => ?_, hinv.sent_le, ?_⟩
    · rw [occ_take]
      split
      next => exact Nat.le_trans (Nat.sub_le _ _) (hinv.occ_le j hj)
      next => exact hinv.occ_le j hj
    · simp only [fire]
      rw [hc, sumTo_upd_pred s.q (n := P.m + 1) (Nat.lt_succ_self _) hq]
      ac_rfl
  | drained => exact ⟨hinv.held_le, hinv.occ_le, hinv.sent_le, hc⟩

theorem inv_of_reachable (hw : P.WF) (hr : Reachable P s) : Inv P s := by
  induction hr with
  | init => exact inv_init
  | step op _ he ih => exact inv_step hw ih he

/-- In every reachable state of the chain (any interleaving of the stage
    threads and the application), every submitted picture is either delivered, queued in some channel, or
    held by some stage; no stage holds more than its demand `k i`; no pool is over-committed. -/
theorem chain_conservation (hw : P.WF) (hr : Reachable P s) :
    s.sent = s.delivered + sumTo s.q (P.m + 1) + sumTo s.held P.m ∧
    (∀ i, i < P.m → s.held i ≤ P.k i) ∧ (∀ i, i ≤ P.m → occ P s i ≤ P.pool i) :=
  have hinv := inv_of_reachable hw hr
  ⟨hinv.cons, hinv.held_le, hinv.occ_le⟩

/-- Whenever the draining application is about to submit the next picture, some pool of
    the chain has a free object (the application returned from `get_packet` with "empty", so the output pool
    is not full; every later `emit` frees a slot of the emitting stage's input pool). -/
theorem chain_room_inv (hw : P.WF) (hd : P.appDrains = true) (hr : Reachable P s) :
    s.app = .sending → ∃ i, i ≤ P.m ∧ occ P s i < P.pool i := by
  induction hr with
  | init => exact fun _ => ⟨P.m, Nat.le_refl _, occ_init P.m ▸ hw.out_pos⟩
  | @step s' op hr' he ih =>
    have hinv := inv_of_reachable hw hr'
    cases op with
    | send => exact fun h => App.noConfusion ((if_pos hd).symm.trans h)
    | consume i =>
      intro h
      obtain ⟨j, hj, hlt⟩ := ih h
      exact ⟨j, hj, by rw [occ_consume he]; exact hlt⟩
    | emit i =>
      intro _
      have hpos := emit_held_pos hw he
      have hi : i < P.m := he.1
      refine ⟨i, Nat.le_of_lt hi, ?_⟩
      rw [occ_emit hw he, if_pos rfl]
      exact Nat.sub_one_lt_of_le (by rw [occ_lt hi]; exact Nat.add_pos_right _ hpos)
        (hinv.occ_le i (Nat.le_of_lt hi))
    | take =>
      intro _
      refine ⟨P.m, Nat.le_refl _, ?_⟩
      rw [occ_take, if_pos rfl]
      exact Nat.sub_one_lt_of_le (by rw [occ_m]; exact he.2) (hinv.occ_le P.m (Nat.le_refl _))
    | drained =>
      intro _
      refine ⟨P.m, Nat.le_refl _, ?_⟩
      rw [occ_drained, occ_m, he.2.1]
      exact hw.out_pos

theorem Stuck.held_eq (hs : Stuck P s) (hinv : Inv P s) {i : Nat} (hi : i < P.m) (hq : s.q i ≠ 0) :
    s.held i = P.k i :=
  Nat.le_antisymm (hinv.held_le i hi)
    (Nat.le_of_not_lt fun h => hs (.consume i) ⟨hi, Nat.pos_of_ne_zero hq, h⟩)

/-- Pool `0` blocks `send`, and a full pool `i` means stage `i` holds its demand, so a pool `i+1` with room
    would let it emit. -/
theorem Stuck.all_full (hw : P.WF) (hs : Stuck P s) (hinv : Inv P s) (happ : s.app = .sending)
    (hlt : s.sent < P.N) : ∀ i, i ≤ P.m → occ P s i = P.pool i := by
  intro i
  induction i with
  | zero =>
    intro h0
    exact Nat.le_antisymm (hinv.occ_le 0 h0) (Nat.le_of_not_lt fun h => hs .send ⟨happ, hlt, h⟩)
  | succ i ih =>
    intro hi
    have hi' : i < P.m := hi
    have hheld : s.held i = P.k i := by
      by_cases hq : s.q i = 0
      · have hocc := ih (Nat.le_of_lt hi')
        rw [occ_lt hi', hq, Nat.zero_add] at hocc
        exact Nat.le_antisymm (hinv.held_le i hi') (hocc ▸ hw.k_le_pool i hi')
      · exact hs.held_eq hinv hi' hq
    exact Nat.le_antisymm (hinv.occ_le (i + 1) hi)
      (Nat.le_of_not_lt fun h => hs (.emit i) ⟨hi', h, Or.inl hheld⟩)

/-- Walking back from the output: room in pool `i+1` means stage `i` is short of its demand, hence has no
    input queued. -/
theorem Stuck.room (hw : P.WF) (hs : Stuck P s) (hinv : Inv P s) (hsent : s.sent = P.N) {i : Nat}
    (hi : i ≤ P.m) : occ P s i < P.pool i ∧ s.q i = 0 := by
  suffices h : ∀ d i, i + d = P.m → occ P s i < P.pool i ∧ s.q i = 0 from
    h (P.m - i) i (Nat.add_sub_of_le hi)
  intro d
  induction d with
  | zero =>
    intro i hi
    have hq : s.q P.m = 0 := Nat.eq_zero_of_not_pos fun h => hs .take ⟨Or.inr hsent, h⟩
    subst hi
    rw [occ_m, hq]
    exact ⟨hw.out_pos, rfl⟩
  | succ d ih =>
    intro i hid
    have hi : i < P.m := hid ▸ Nat.lt_add_of_pos_right (Nat.succ_pos d)
    have hne : s.held i ≠ P.k i :=
      fun h => hs (.emit i) ⟨hi, (ih (i + 1) (Nat.add_right_comm i 1 d ▸ hid)).1, Or.inl h⟩
    have hq : s.q i = 0 := Decidable.byContradiction fun hq => hne (hs.held_eq hinv hi hq)
    rw [occ_lt hi, hq, Nat.zero_add]
    exact ⟨Nat.lt_of_lt_of_le (Nat.lt_of_le_of_ne (hinv.held_le i hi) hne) (hw.k_le_pool i hi), rfl⟩

/-- Going forward, the first stage that held anything would flush. -/
theorem Stuck.flushed (hw : P.WF) (hs : Stuck P s) (hinv : Inv P s) (hsent : s.sent = P.N) :
    ∀ j, j < P.m → s.held j = 0 := by
  have hroom {i : Nat} := hs.room hw hinv hsent (i := i)
  intro j
  induction j using Nat.strongRecOn with
  | _ j ih =>
    intro hj
    refine Nat.eq_zero_of_not_pos fun hh => hs (.emit j) ⟨hj, (hroom hj).1, Or.inr ⟨⟨hsent, ?_, ?_⟩, hh⟩⟩
    · exact (hroom (Nat.le_of_lt hj)).2
    · exact fun k hk => ⟨(hroom (Nat.le_of_lt (Nat.lt_trans hk hj))).2, ih k hk (Nat.lt_trans hk hj)⟩

/-- Everything is sent (else `all_full` contradicts the room); then `room`, `flushed` and conservation. -/
theorem Stuck.delivered (hw : P.WF) (hs : Stuck P s) (hinv : Inv P s)
    (hroom : s.app = .sending → ∃ i, i ≤ P.m ∧ occ P s i < P.pool i) : s.delivered = P.N := by
  have hsent : s.sent = P.N := by
    refine Nat.le_antisymm hinv.sent_le (Nat.le_of_not_lt fun hlt => ?_)
    cases happ : s.app with
    | draining =>
      by_cases hq : 0 < s.q P.m
      · exact hs .take ⟨Or.inl happ, hq⟩
      · exact hs .drained ⟨happ, Nat.eq_zero_of_not_pos hq, hlt⟩
    | sending =>
      obtain ⟨i, him, hri⟩ := hroom happ
      exact Nat.lt_irrefl _ (hs.all_full hw hinv happ hlt i him ▸ hri)
  have hc := hinv.cons
  rw [sumTo_zero (hs.flushed hw hinv hsent),
    sumTo_zero fun j hj => (hs.room hw hinv hsent (Nat.le_of_lt_succ hj)).2] at hc
  exact hc.symm.trans hsent

/-- No deadlock when the application drains after each submission.  In the abstract chain with bounded
    pools (`1 ≤ k i ≤ pool i`, `1 ≤ pool m`), for every chain length, pool sizes, demands and picture count
    and under every interleaving: a reachable state in which NO step is enabled (no stage can consume or emit,
    `send_picture` would block or has nothing left to send, `get_packet` has nothing to return) has delivered
    all `N` pictures.  So the pool sizes are sufficient whenever each stage's demand fits in its own input
    pool; no cross-stage sizing condition is needed. -/
theorem pool_sufficient_partial (hw : P.WF) (hd : P.appDrains = true) (hr : Reachable P s)
    (hs : Stuck P s) : s.delivered = P.N :=
  hs.delivered hw (inv_of_reachable hw hr) (chain_room_inv hw hd hr)

theorem stuck_of_stuckB (h : StuckB P s) : Stuck P s := by
  obtain ⟨h1, h2, h3, h4⟩ := h
  intro op
  cases op with
  | send => exact h1
  | take => exact h2
  | drained => exact h3
  | consume i => intro he; exact (h4 i he.1).1 he
  | emit i => intro he; exact (h4 i he.1).2 he

theorem run_cons {s s' : State} {op : Op} {ops : List Op} (h : run P s (op :: ops) = some s') :
    Enabled P s op ∧ run P (fire P s op) ops = some s' := by
  by_cases he : Enabled P s op
  · simp only [run, step, if_pos he] at h
    exact ⟨he, h⟩
  · simp only [run, step, if_neg he] at h
    cases h

theorem run_reachable {s s' : State} {ops : List Op} (hr : Reachable P s)
    (h : run P s ops = some s') : Reachable P s' := by
  induction ops generalizing s with
  | nil => cases h; exact hr
  | cons op ops ih =>
    obtain ⟨he, h⟩ := run_cons h
    exact ih (Reachable.step op hr he) h

theorem run_summary {ops : List Op} {a b : Nat}
    (h : (run P init ops).map (summary P) = some (a, b, true)) :
    ∃ s, Reachable P s ∧ Stuck P s ∧ s.sent = a ∧ s.delivered = b := by
  cases hrun : run P init ops with
  | none => rw [hrun] at h; cases h
  | some s =>
    rw [hrun] at h
    simp only [Option.map_some, Option.some.injEq, summary, Prod.mk.injEq, decide_eq_true_eq] at h
    exact ⟨s, run_reachable .init hrun, stuck_of_stuckB h.2.2, h.1, h.2.1⟩

/-- The 1-stage chain with all pools of size 1 and 3 pictures. -/
def ex1 (drains : Bool) : Params := ⟨1, fun _ => 1, fun _ => 1, 3, drains⟩

theorem ex1_wf (b : Bool) : (ex1 b).WF :=
  ⟨fun _ _ => Nat.le_refl _, fun _ _ => Nat.le_refl _, Nat.le_refl _⟩

/-- Non-vacuity: with draining, the schedule send/consume/emit/take/drained ×3 delivers all 3 pictures and
    ends in a state where nothing is enabled. -/
example :
    (run (ex1 true) init
      [.send, .consume 0, .emit 0, .take, .drained,
       .send, .consume 0, .emit 0, .take, .drained,
       .send, .consume 0, .emit 0, .take]).map (summary (ex1 true)) = some (3, 3, true) := by
  decide

/-- A different interleaving (the application polls "empty" before the stage ran) reaches the same end
    (a `send` attempted while pool 0 is still occupied is simply not enabled: back-pressure). -/
example :
    (run (ex1 true) init
      [.send, .drained, .consume 0, .emit 0, .send, .consume 0, .take, .emit 0, .take, .drained,
       .send, .consume 0, .emit 0, .take]).map (summary (ex1 true)) = some (3, 3, true) := by
  decide

/-- A 2-stage chain with a look-ahead stage (`k 0 = 2`) also completes (flush at end of stream). -/
example :
    (run ⟨2, fun _ => 2, fun i => if i = 0 then 2 else 1, 3, true⟩ init
      [.send, .consume 0, .drained, .send, .consume 0, .emit 0, .consume 1, .emit 1, .take, .drained,
       .send, .consume 0, .emit 0, .consume 1, .emit 1, .take,
       .emit 0, .consume 1, .emit 1, .take]).map
        (summary ⟨2, fun _ => 2, fun i => if i = 0 then 2 else 1, 3, true⟩) = some (3, 3, true) := by
  decide

/-- NEGATIVE: without draining (`appDrains = false`, the application only polls after the last picture) the
    same chain with `N = 3 >` total capacity `2` gets stuck with nothing delivered. -/
theorem ex1_no_drain_run :
    (run (ex1 false) init [.send, .consume 0, .emit 0, .send, .consume 0]).map (summary (ex1 false))
      = some (2, 0, true) := by
  decide

example :
    (run (ex1 false) init [.send, .consume 0, .emit 0, .send, .consume 0]).map (summary (ex1 false))
      = some (2, 0, true) :=
  ex1_no_drain_run

/-- The draining hypothesis of `pool_sufficient_partial` is necessary: there is a well-formed chain and a
    reachable state of the non-draining application in which no step is enabled and not everything has been
    delivered. -/
theorem no_drain_deadlocks :
    ∃ (P : Params) (s : State), P.WF ∧ Reachable P s ∧ Stuck P s ∧ s.delivered < P.N := by
  obtain ⟨s, hr, hs, -, hd⟩ := run_summary ex1_no_drain_run
  exact ⟨ex1 false, s, ex1_wf _, hr, hs, hd ▸ Nat.succ_pos 2⟩

theorem measure_decreases (hw : P.WF) {op : Op} (he : Enabled P s op) :
    weight P (fire P s op) < weight P s := by
  unfold weight
  cases op with
  | send =>
    obtain ⟨happ, hlt, -⟩ := he
    have h1 : (P.N - s.sent) * (2 * P.m + 4) = (P.N - (s.sent + 1)) * (2 * P.m + 4) + (2 * P.m + 4) := by
      rw [← Nat.add_one_mul, ← Nat.sub_sub, Nat.sub_add_cancel (Nat.sub_pos_of_lt hlt)]
    have h3 : (if P.appDrains then App.draining else App.sending).w ≤ 1 := by
      cases P.appDrains <;> decide
    have h0 : App.sending.w = 0 := rfl
    rw [happ, h1, h0]
    simp only [fire]
    rw [wsum_inc s.q _ (n := P.m + 1) (Nat.succ_pos _)]
    omega
  | consume i =>
    obtain ⟨hi, hq, -⟩ := he
    simp only [fire]
    rw [wsum_inc s.held _ hi, wsum_dec s.q _ (n := P.m + 1) (Nat.lt_succ_of_lt hi) hq]
    omega
  | emit i =>
    have hpos := emit_held_pos hw he
    obtain ⟨hi, -, -⟩ := he
    simp only [fire]
    rw [wsum_inc s.q _ (Nat.add_lt_add_right hi 1), wsum_dec s.held _ hi hpos]
    omega
  | take =>
    obtain ⟨-, hq⟩ := he
    simp only [fire]
    rw [wsum_dec s.q _ (n := P.m + 1) (Nat.lt_succ_self _) hq]
    omega
  | drained =>
    obtain ⟨happ, _, _⟩ := he
    rw [happ]
    exact Nat.lt_succ_self _

theorem weight_init : weight P init = P.N * (2 * P.m + 4) := by
  unfold weight
  rw [sumTo_zero (f := fun i => init.q i * _) (fun _ _ => Nat.zero_mul _),
    sumTo_zero (f := fun i => init.held i * _) (fun _ _ => Nat.zero_mul _)]
  rfl

theorem chain_terminates (hw : P.WF) {s s' : State} {ops : List Op} (h : run P s ops = some s') :
    ops.length + weight P s' ≤ weight P s := by
  induction ops generalizing s with
  | nil => cases h; exact Nat.le_of_eq (Nat.zero_add _)
  | cons op ops ih =>
    obtain ⟨he, h⟩ := run_cons h
    have h1 := ih h
    have h2 := measure_decreases hw he
    rw [List.length_cons]
    omega

/-- Each picture makes at most `2m+4` moves.  With `pool_sufficient_partial`: every maximal execution of the
    draining application is finite and ends with all `N` pictures delivered. -/
theorem chain_run_length_le (hw : P.WF) {s' : State} {ops : List Op} (h : run P init ops = some s') :
    ops.length ≤ P.N * (2 * P.m + 4) :=
  weight_init (P := P) ▸ Nat.le_trans (Nat.le_add_right _ _) (chain_terminates hw h)

end Chain
