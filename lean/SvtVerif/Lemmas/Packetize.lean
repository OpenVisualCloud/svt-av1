/-
  Lemmas for C03 (`Model/Packetize.lean`).  Two layers: the sequential reference `seqAux` (frames consumed in decode
  order) meets the display process `gopStep` — undisplayed stack, show-existing, EOS movement (`seq_spec`); and the
  circular queue with TU-granular release computes what `seqAux` computes, for every arrival order inside the window
  (`runE_eq_seq`, slot discipline from `Reorder.Slots`).  `run_spec` composes them.
-/
import SvtVerif.Model.Packetize
import SvtVerif.Lemmas.Reorder
import Mathlib.Tactic.Linarith

namespace Packetize

def SortedPts (l : List Buf) : Prop := l.Pairwise (fun a b => a.pts ≤ b.pts)

theorem insertByPts_perm (b : Buf) (l : List Buf) : (insertByPts b l).Perm (b :: l) := by
  induction l with
  | nil => exact List.Perm.refl _
  | cons x xs ih =>
    unfold insertByPts
    split
    · exact List.Perm.refl _
    · exact (List.Perm.cons x ih).trans (List.Perm.swap b x xs)

theorem sortStack_perm (l : List Buf) : (sortStack l).Perm l := by
  induction l with
  | nil => exact List.Perm.refl _
  | cons x xs ih => exact (insertByPts_perm x _).trans (List.Perm.cons x ih)

theorem insertByPts_sorted (b : Buf) (l : List Buf) (h : SortedPts l) : SortedPts (insertByPts b l) := by
  induction l with
  | nil => exact List.pairwise_singleton _ _
  | cons x xs ih =>
    have hx := List.pairwise_cons.1 h
    unfold insertByPts
    split
    · next hle =>
      refine List.pairwise_cons.2 ⟨?_, h⟩
      intro y hy
      rcases List.mem_cons.1 hy with rfl | hy
      · exact hle
      · exact Int.le_trans hle (hx.1 y hy)
    · next hnle =>
      refine List.pairwise_cons.2 ⟨?_, ih hx.2⟩
      intro y hy
      rcases List.mem_cons.1 ((insertByPts_perm b xs).mem_iff.1 hy) with rfl | hy
      · omega
      · exact hx.1 y hy

theorem sortStack_sorted (l : List Buf) : SortedPts (sortStack l) := by
  induction l with
  | nil => exact List.Pairwise.nil
  | cons x xs ih => exact insertByPts_sorted x _ ih

theorem foldl_push_eq (pushed stack : List Buf) (h : stack.length + pushed.length ≤ REF_FRAMES) :
    pushed.foldl push stack = pushed.reverse ++ stack := by
  induction pushed generalizing stack with
  | nil => rfl
  | cons p ps ih =>
    have hlt : ¬ stack.length ≥ REF_FRAMES := by simp only [List.length_cons] at h; omega
    rw [List.foldl_cons, push, if_neg hlt, ih (p :: stack) (by simp only [List.length_cons] at h ⊢; omega)]
    simp

abbrev entryOf (term : Option Nat) (x : Nat × Frame) : Entry := mkEntry term x.1 x.2

/-- display numbers that the frames of the current partial TU will push -/
def curDisps (curP : List (Nat × Frame)) : List Nat :=
  (curP.filter (fun x => !x.2.alt)).map (·.2.disp)

/-- `pend` (specification) versus undisplayed stack + current partial TU (model). -/
structure StackRel (term : Option Nat) (ptsOf : Nat → Int) (pend : List Nat) (stack : List Buf)
    (curP : List (Nat × Frame)) : Prop where
  split   : ∃ pendS : List Nat, pend.Perm (curDisps curP ++ pendS) ∧
              (stack.map (·.pts)).Perm (pendS.map ptsOf)
  sorted  : SortedPts stack
  room    : pend.length ≤ REF_FRAMES
  hidden  : ∀ x ∈ curP, x.2.shown = false
  curPts  : ∀ x ∈ curP, x.2.pts = ptsOf x.2.disp
  curEos  : ∀ x ∈ curP, (term == some x.1) = false
  stDts   : ∀ b ∈ stack, b.dts = b.pts
  stEos   : ∀ b ∈ stack, b.eos = false

/-- packets posted so far display pictures `0 … c−1` -/
structure PkRel (ptsOf : Nat → Int) (c : Nat) (pktsRev : List Buf) : Prop where
  pts : pktsRev.reverse.map (·.pts) = (List.range c).map ptsOf
  dts : ∀ b ∈ pktsRev, b.dts = b.pts

theorem PkRel.snoc {ptsOf : Nat → Int} {c : Nat} {pktsRev : List Buf} (hk : PkRel ptsOf c pktsRev) (b : Buf)
    (hp : b.pts = ptsOf c) (hd : b.dts = b.pts) : PkRel ptsOf (c + 1) (b :: pktsRev) where
  pts := by
    rw [List.reverse_cons, List.map_append, hk.pts, List.range_succ, List.map_append, List.map_cons,
      List.map_cons, hp]
    rfl
  dts := by
    intro y hy
    rcases List.mem_cons.1 hy with rfl | hy
    · exact hd
    · exact hk.dts y hy

theorem StackRel.length_eq {term ptsOf pend stack} (h : StackRel term ptsOf pend stack []) :
    stack.length = pend.length := by
  obtain ⟨pendS, hperm, hst⟩ := h.split
  have h1 := hst.length_eq
  rw [List.length_map, List.length_map] at h1
  exact h1.trans hperm.length_eq.symm

theorem gopStep_hidden {c c' : Nat} {pend pend' : List Nat} {f : Frame} (hs : f.shown = false)
    (hg : gopStep (some (c, pend)) f = some (c', pend')) :
    c' = c ∧ ((f.alt = true ∧ pend' = pend) ∨
      (f.alt = false ∧ pend.length < REF_FRAMES ∧ pend' = f.disp :: pend)) := by
  simp only [gopStep, hs, Bool.not_false, if_true] at hg
  cases halt : f.alt
  · simp only [halt, Bool.false_eq_true, if_false] at hg
    split at hg
    · next hlen =>
      simp only [Option.some.injEq, Prod.mk.injEq] at hg
      exact ⟨hg.1.symm, Or.inr ⟨rfl, hlen, hg.2.symm⟩⟩
    · cases hg
  · simp only [halt, if_true, Option.some.injEq, Prod.mk.injEq] at hg
    exact ⟨hg.1.symm, Or.inl ⟨rfl, hg.2.symm⟩⟩

theorem gopStep_shown {c c' : Nat} {pend pend' : List Nat} {f : Frame} (hs : f.shown = true)
    (hg : gopStep (some (c, pend)) f = some (c', pend')) :
    f.disp = c ∧ ((f.hse = false ∧ c' = c + 1 ∧ pend' = pend) ∨
      (f.hse = true ∧ c + 1 ∈ pend ∧ (∀ d ∈ pend, c + 1 ≤ d) ∧ c' = c + 2 ∧ pend' = pend.erase (c + 1))) := by
  simp only [gopStep, hs, Bool.not_true, Bool.false_eq_true, if_false] at hg
  split at hg
  · cases hg
  next hdisp =>
  refine ⟨Decidable.not_not.1 hdisp, ?_⟩
  cases hhse : f.hse
  · simp only [hhse, Bool.not_false, if_true, Option.some.injEq, Prod.mk.injEq] at hg
    exact Or.inl ⟨rfl, hg.1.symm, hg.2.symm⟩
  · simp only [hhse, Bool.not_true, Bool.false_eq_true, if_false] at hg
    split at hg
    · next hcond =>
      simp only [Option.some.injEq, Prod.mk.injEq] at hg
      exact Or.inr ⟨rfl, hcond.1, fun d hd => of_decide_eq_true (List.all_eq_true.1 hcond.2 d hd),
        hg.1.symm, hg.2.symm⟩
    · cases hg

theorem curDisps_append_hidden (curP : List (Nat × Frame)) (x : Nat × Frame) :
    curDisps (curP ++ [x]) = curDisps curP ++ (if x.2.alt then [] else [x.2.disp]) := by
  unfold curDisps
  rw [List.filter_append, List.map_append]
  cases h : x.2.alt <;> simp [h]

theorem stackRel_hidden {term ptsOf pend stack curP} (x : Nat × Frame)
    (h : StackRel term ptsOf pend stack curP) (hs : x.2.shown = false) (hp : x.2.pts = ptsOf x.2.disp)
    (he : (term == some x.1) = false) {c c' : Nat} {pend' : List Nat}
    (hg : gopStep (some (c, pend)) x.2 = some (c', pend')) :
    c' = c ∧ StackRel term ptsOf pend' stack (curP ++ [x]) := by
  obtain ⟨pendS, hperm, hst⟩ := h.split
  obtain ⟨rfl, hcase⟩ := gopStep_hidden hs hg
  have hsnoc : ∀ {P : Nat × Frame → Prop}, (∀ y ∈ curP, P y) → P x → ∀ y ∈ curP ++ [x], P y := by
    intro P h1 h2 y hy
    rcases List.mem_append.1 hy with hy | hy
    · exact h1 y hy
    · rw [List.mem_singleton.1 hy]; exact h2
  refine ⟨rfl, ⟨⟨pendS, ?_, hst⟩, h.sorted, ?_, hsnoc h.hidden hs, hsnoc h.curPts hp, hsnoc h.curEos he,
    h.stDts, h.stEos⟩⟩
  · rw [curDisps_append_hidden]
    rcases hcase with ⟨halt, rfl⟩ | ⟨halt, _, rfl⟩
    · rw [halt, if_pos rfl, List.append_nil]; exact hperm
    · rw [halt, if_neg (by decide), List.append_assoc]
      exact (List.Perm.cons _ hperm).trans List.perm_middle.symm
  · rcases hcase with ⟨_, rfl⟩ | ⟨_, hlen, rfl⟩
    · exact h.room
    · exact hlen

/-- the buffer a non-shown frame pushes on the undisplayed stack (after `collect_frames_info`) -/
def pbuf (term : Option Nat) (y : Nat × Frame) : Buf := (collect (entryOf term y)).buf

/-- the undisplayed stack after `encode_tu` has pushed the non-alt-ref entries among `revPre` and sorted -/
def tuStack (stack : List Buf) (revPre : List Entry) : List Buf :=
  if revPre.length + 1 > 1 then sortStack (((revPre.filter (fun e => !e.alt)).map (·.buf)).foldl push stack)
  else ((revPre.filter (fun e => !e.alt)).map (·.buf)).foldl push stack

/-- l.547-548, 894-895 -/
def tuBuf (last : Entry) (n : Nat) : Buf :=
  { last.buf with hasTd := true, frames := n, eos := if last.buf.eos && last.hse then false else last.buf.eos }

theorem emitCore_eq (st : Out) (last : Entry) (revPre : List Entry) :
    emitCore st last revPre =
      if last.hse then
        match tuStack st.stack revPre with
        | [] => { stack := [], pktsRev := tuBuf last (revPre.length + 1) :: st.pktsRev }
        | b :: rest =>
          { stack := rest,
            pktsRev := { b with showExt := true, hasTd := true, eos := if last.buf.eos then true else b.eos } ::
              tuBuf last (revPre.length + 1) :: st.pktsRev }
      else { stack := tuStack st.stack revPre, pktsRev := tuBuf last (revPre.length + 1) :: st.pktsRev } := rfl

theorem tuStack_perm (stack : List Buf) (revPre : List Entry)
    (hroom : stack.length + ((revPre.filter (fun e => !e.alt)).map (·.buf)).length ≤ REF_FRAMES) :
    (tuStack stack revPre).Perm (((revPre.filter (fun e => !e.alt)).map (·.buf)).reverse ++ stack) := by
  unfold tuStack
  rw [foldl_push_eq _ _ hroom]
  split
  · exact sortStack_perm _
  · exact List.Perm.refl _

theorem mem_foldl_push {b : Buf} : ∀ (l stack : List Buf), b ∈ l.foldl push stack → b ∈ l ∨ b ∈ stack := by
  intro l
  induction l with
  | nil => intro stack h; exact Or.inr h
  | cons x xs ih =>
    intro stack h
    rw [List.foldl_cons] at h
    rcases ih _ h with h | h
    · exact Or.inl (List.mem_cons_of_mem _ h)
    · unfold push at h
      split at h
      · exact Or.inr h
      · rcases List.mem_cons.1 h with rfl | h
        · exact Or.inl List.mem_cons_self
        · exact Or.inr h

theorem mem_tuStack {b : Buf} {stack : List Buf} {revPre : List Entry} (h : b ∈ tuStack stack revPre) :
    (∃ e ∈ revPre, b = e.buf) ∨ b ∈ stack := by
  unfold tuStack at h
  have h1 : b ∈ ((revPre.filter (fun e => !e.alt)).map (·.buf)).foldl push stack := by
    split at h
    · exact (sortStack_perm _).mem_iff.1 h
    · exact h
  rcases mem_foldl_push _ _ h1 with hb | hb
  · obtain ⟨e, he, rfl⟩ := List.mem_map.1 hb
    exact Or.inl ⟨e, (List.mem_filter.1 he).1, rfl⟩
  · exact Or.inr hb

theorem tuStack_sorted (stack : List Buf) (revPre : List Entry) (h : SortedPts stack) :
    SortedPts (tuStack stack revPre) := by
  unfold tuStack
  split
  · exact sortStack_sorted _
  · next hlen =>
    have : revPre = [] := List.eq_nil_of_length_eq_zero (by omega)
    subst this; exact h

theorem emitTU_snoc (term : Option Nat) (st : Out) (curP : List (Nat × Frame)) (x : Nat × Frame) :
    emitTU st ((curP ++ [x]).map (entryOf term)) =
      emitCore st (collect (entryOf term x)) (curP.map (fun y => collect (entryOf term y))).reverse := by
  unfold emitTU
  simp [List.map_append, List.reverse_append]
  rfl

/-- `encode_tu` moves the frames of the partial TU to the undisplayed stack. -/
theorem stackRel_close {term ptsOf pend stack curP} (h : StackRel term ptsOf pend stack curP) :
    StackRel term ptsOf pend (tuStack stack (curP.map (fun y => collect (entryOf term y))).reverse) [] := by
  obtain ⟨pendS, hperm, hst⟩ := h.split
  -- the pushed buffers, oldest first, are those of the non-alt-ref frames of `curP`
  have hpushed : (((curP.map (fun y => collect (entryOf term y))).reverse.filter (fun e => !e.alt)).map
      (·.buf)).reverse = (curP.filter (fun y => !y.2.alt)).map (pbuf term) := by
    rw [List.filter_reverse, List.map_reverse, List.reverse_reverse, List.filter_map, List.map_map]; rfl
  have hl : ((curP.filter (fun y => !y.2.alt)).map (pbuf term)).length = (curDisps curP).length := by
    rw [curDisps, List.length_map, List.length_map]
  have h1 := hst.length_eq
  rw [List.length_map, List.length_map] at h1
  have h2 := hperm.length_eq
  rw [List.length_append] at h2
  have hroom := h.room
  have hlen := congrArg List.length hpushed
  rw [List.length_reverse] at hlen
  have hP := tuStack_perm stack (curP.map (fun y => collect (entryOf term y))).reverse (by omega)
  rw [hpushed] at hP
  have hmem : ∀ b ∈ tuStack stack (curP.map (fun y => collect (entryOf term y))).reverse,
      (∃ y ∈ curP, b = pbuf term y) ∨ b ∈ stack := by
    intro b hb
    rcases mem_tuStack hb with ⟨e, he, rfl⟩ | hb
    · obtain ⟨y, hy, rfl⟩ := List.mem_map.1 (List.mem_reverse.1 he)
      exact Or.inl ⟨y, hy, rfl⟩
    · exact Or.inr hb
  refine ⟨⟨pend, List.Perm.refl _, ?_⟩, tuStack_sorted _ _ h.sorted, h.room, (fun _ hy => nomatch hy),
    (fun _ hy => nomatch hy), (fun _ hy => nomatch hy), ?_, ?_⟩
  · have hpp : ((curP.filter (fun y => !y.2.alt)).map (pbuf term)).map (·.pts) = (curDisps curP).map ptsOf := by
      rw [curDisps, List.map_map, List.map_map]
      exact List.map_congr_left (fun y hy => h.curPts y (List.mem_filter.1 hy).1)
    refine (hP.map _).trans ?_
    rw [List.map_append, hpp]
    refine (List.Perm.append_left _ hst).trans ?_
    rw [← List.map_append]
    exact (hperm.map ptsOf).symm
  · intro b hb
    rcases hmem b hb with ⟨y, _, rfl⟩ | hb
    · rfl
    · exact h.stDts b hb
  · intro b hb
    rcases hmem b hb with ⟨y, hy, rfl⟩ | hb
    · exact h.curEos y hy
    · exact h.stEos b hb

/-- `pop_undisplayed_frame` on a sorted stack returns the pending frame with the smallest display number. -/
theorem stackRel_pop {term ptsOf pend b rest} {c : Nat} (hmono : ∀ a b, a ≤ b → ptsOf a ≤ ptsOf b)
    (h : StackRel term ptsOf pend (b :: rest) []) (hin : c ∈ pend) (hall : ∀ d ∈ pend, c ≤ d) :
    b.pts = ptsOf c ∧ StackRel term ptsOf (pend.erase c) rest [] := by
  obtain ⟨pendS, hperm, hst⟩ := h.split
  have hpts : ((b :: rest).map (·.pts)).Perm (pend.map ptsOf) := hst.trans (hperm.map ptsOf).symm
  have hsrt := List.pairwise_cons.1 h.sorted
  have hb1 : ptsOf c ≤ b.pts := by
    obtain ⟨d, hd, hde⟩ := List.mem_map.1 (hpts.mem_iff.1 List.mem_cons_self)
    have := hmono _ _ (hall d hd)
    rw [hde] at this; exact this
  have hb2 : b.pts ≤ ptsOf c := by
    obtain ⟨y, hy, hye⟩ := List.mem_map.1 (hpts.mem_iff.2 (List.mem_map.2 ⟨c, hin, rfl⟩))
    rcases List.mem_cons.1 hy with rfl | hy
    · exact Int.le_of_eq hye
    · rw [← hye]; exact hsrt.1 y hy
  have hbpts : b.pts = ptsOf c := Int.le_antisymm hb2 hb1
  refine ⟨hbpts, ⟨⟨pend.erase c, List.Perm.refl _, ?_⟩, hsrt.2, ?_, (fun _ hy => nomatch hy),
    (fun _ hy => nomatch hy), (fun _ hy => nomatch hy), fun y hy => h.stDts y (List.mem_cons_of_mem _ hy),
    fun y hy => h.stEos y (List.mem_cons_of_mem _ hy)⟩⟩
  · have h2 := hpts.trans ((List.perm_cons_erase hin).map ptsOf)
    rw [List.map_cons, List.map_cons, hbpts] at h2
    exact List.Perm.cons_inv h2
  · exact Nat.le_trans List.length_erase_le h.room

/-- A shown frame closes the TU as `gopStep` prescribes; of the new packets only the newest can carry EOS. -/
theorem emit_shown {term : Option Nat} {ptsOf : Nat → Int} {pend : List Nat} {st : Out}
    {curP : List (Nat × Frame)} {c c' : Nat} {pend' : List Nat} (x : Nat × Frame)
    (hmono : ∀ a b, a ≤ b → ptsOf a ≤ ptsOf b)
    (h : StackRel term ptsOf pend st.stack curP) (hk : PkRel ptsOf c st.pktsRev)
    (hs : x.2.shown = true) (hp : x.2.pts = ptsOf x.2.disp)
    (hg : gopStep (some (c, pend)) x.2 = some (c', pend')) :
    StackRel term ptsOf pend' (emitTU st ((curP ++ [x]).map (entryOf term))).stack [] ∧
    PkRel ptsOf c' (emitTU st ((curP ++ [x]).map (entryOf term))).pktsRev ∧
    ∃ p tl, (emitTU st ((curP ++ [x]).map (entryOf term))).pktsRev = p :: (tl ++ st.pktsRev) ∧
      p.eos = (term == some x.1) ∧ ∀ b ∈ tl, b.eos = false := by
  have hcl := stackRel_close h
  obtain ⟨hdisp, hcase⟩ := gopStep_shown hs hg
  have htu : ∀ n, (tuBuf (collect (entryOf term x)) n).pts = ptsOf c := fun n => by rw [← hdisp]; exact hp
  rw [emitTU_snoc, emitCore_eq]
  rcases hcase with ⟨hhse, rfl, rfl⟩ | ⟨hhse, hin, hall, rfl, rfl⟩
  · rw [if_neg (by rw [show (collect (entryOf term x)).hse = x.2.hse from rfl, hhse]; decide)]
    refine ⟨hcl, hk.snoc _ (htu _) rfl, _, [], rfl, ?_, (fun _ hy => nomatch hy)⟩
    show (if ((term == some x.1) && x.2.hse) = true then false else (term == some x.1)) = _
    rw [hhse, Bool.and_false, if_neg (by decide)]
  · rw [if_pos (show (collect (entryOf term x)).hse = true from hhse)]
    cases hs2 : tuStack st.stack (curP.map (fun y => collect (entryOf term y))).reverse with
    | nil =>
      -- picture `c+1` is pending, so the stack is not empty
      rw [hs2] at hcl
      rw [List.eq_nil_of_length_eq_zero hcl.length_eq.symm] at hin
      cases hin
    | cons b rest =>
      rw [hs2] at hcl
      obtain ⟨hbpts, hrel⟩ := stackRel_pop hmono hcl hin hall
      have hbe : b.eos = false := hcl.stEos b List.mem_cons_self
      refine ⟨hrel, (hk.snoc _ (htu _) rfl).snoc _ hbpts (hcl.stDts b List.mem_cons_self), _, [_], rfl, ?_, ?_⟩
      · show (if (term == some x.1) = true then true else b.eos) = _
        rw [hbe]; cases (term == some x.1) <;> rfl
      · intro y hy
        rw [List.mem_singleton.1 hy]
        show (if ((term == some x.1) && x.2.hse) = true then false else (term == some x.1)) = false
        rw [hhse]; cases (term == some x.1) <;> rfl

theorem foldl_gopStep_none (l : List Frame) : l.foldl gopStep none = none := by
  induction l with
  | nil => rfl
  | cons f fs ih => simpa [List.foldl_cons, gopStep] using ih

theorem seqAux_append (st : Out) (cur l1 l2 : List Entry) :
    seqAux st cur (l1 ++ l2) = seqAux (seqAux st cur l1).1 (seqAux st cur l1).2 l2 := by
  induction l1 generalizing st cur with
  | nil => rfl
  | cons e es ih =>
    simp only [List.cons_append, seqAux]
    split
    · exact ih _ _
    · exact ih _ _

/-- All frames but the terminating one: the invariant is preserved and no packet carries EOS. -/
theorem seq_fold {term : Option Nat} {ptsOf : Nat → Int} (hmono : ∀ a b, a ≤ b → ptsOf a ≤ ptsOf b) :
    ∀ (ps : List (Nat × Frame)) (c : Nat) (pend : List Nat) (st : Out) (curP : List (Nat × Frame)),
      StackRel term ptsOf pend st.stack curP → PkRel ptsOf c st.pktsRev → (∀ b ∈ st.pktsRev, b.eos = false) →
      (∀ x ∈ ps, x.2.pts = ptsOf x.2.disp) → (∀ x ∈ ps, (term == some x.1) = false) →
      ∀ (c' : Nat) (pend' : List Nat), (ps.map (·.2)).foldl gopStep (some (c, pend)) = some (c', pend') →
      ∃ st' curP', seqAux st (curP.map (entryOf term)) (ps.map (entryOf term)) = (st', curP'.map (entryOf term)) ∧
        StackRel term ptsOf pend' st'.stack curP' ∧ PkRel ptsOf c' st'.pktsRev ∧
        (∀ b ∈ st'.pktsRev, b.eos = false) := by
  intro ps
  induction ps with
  | nil =>
    intro c pend st curP h hk he _ _ c' pend' hg
    simp only [List.map_nil, List.foldl_nil, Option.some.injEq, Prod.mk.injEq] at hg
    obtain ⟨rfl, rfl⟩ := hg
    exact ⟨st, curP, rfl, h, hk, he⟩
  | cons x rest ih =>
    intro c pend st curP h hk he hpts hterm c' pend' hg
    simp only [List.map_cons, List.foldl_cons] at hg
    have hx := hpts x List.mem_cons_self
    have htx := hterm x List.mem_cons_self
    have hpts' : ∀ y ∈ rest, y.2.pts = ptsOf y.2.disp := fun y hy => hpts y (List.mem_cons_of_mem _ hy)
    have hterm' : ∀ y ∈ rest, (term == some y.1) = false := fun y hy => hterm y (List.mem_cons_of_mem _ hy)
    cases hstep : gopStep (some (c, pend)) x.2 with
    | none => rw [hstep, foldl_gopStep_none] at hg; cases hg
    | some r =>
      obtain ⟨c1, pend1⟩ := r
      rw [hstep] at hg
      have hcat : curP.map (entryOf term) ++ [entryOf term x] = (curP ++ [x]).map (entryOf term) := by
        rw [List.map_append]; rfl
      rw [List.map_cons, seqAux, hcat]
      cases hs : x.2.shown
      · obtain ⟨rfl, h1⟩ := stackRel_hidden x h hs hx htx hstep
        rw [if_neg (by rw [show (entryOf term x).shown = x.2.shown from rfl, hs]; decide)]
        exact ih c1 pend1 st (curP ++ [x]) h1 hk he hpts' hterm' c' pend' hg
      · obtain ⟨h1, hk1, p, tl, hnew, hpe, htl⟩ := emit_shown x hmono h hk hs hx hstep
        rw [if_pos (show (entryOf term x).shown = true from hs)]
        have he1 : ∀ b ∈ (emitTU st ((curP ++ [x]).map (entryOf term))).pktsRev, b.eos = false := by
          intro b hb
          rw [hnew] at hb
          rcases List.mem_cons.1 hb with rfl | hb
          · rw [hpe]; exact htx
          rcases List.mem_append.1 hb with hb | hb
          · exact htl b hb
          · exact he b hb
        exact ih c1 pend1 (emitTU st ((curP ++ [x]).map (entryOf term))) [] h1 hk1 he1 hpts' hterm' c' pend' hg

theorem lastShown_spec : ∀ (fs : List Frame), lastShown fs = true →
    ∀ f, fs[fs.length - 1]? = some f → f.shown = true
  | [], _, _, hf => nomatch hf
  | [_], h, _, hf => by cases hf; exact h
  | _ :: g :: gs, h, f, hf => lastShown_spec (g :: gs) h f hf

theorem indexed_append_singleton (init : List Frame) (last : Frame) :
    indexed (init ++ [last]) = indexed init ++ [(init.length, last)] := by
  unfold indexed
  rw [List.length_append, List.length_singleton, List.range_succ, List.zip_append (by simp)]
  rfl

structure SeqResult (ptsOf : Nat → Int) (N : Nat) (o : Out × List Entry) : Prop where
  leftover : o.2 = []
  stack    : o.1.stack = []
  length   : o.1.pktsRev.length = N
  pts      : o.1.pktsRev.reverse.map (·.pts) = (List.range N).map ptsOf
  dts      : ∀ b ∈ o.1.pktsRev, b.dts = b.pts
  eos      : ∃ lastP rest, o.1.pktsRev = lastP :: rest ∧ lastP.eos = true ∧ ∀ b ∈ rest, b.eos = false

/-- **Sequential packetization**: the stack/EOS half of `C03.packetize_spec`, frames consumed in decode order. -/
theorem seq_spec (term : Option Nat) (ptsOf : Nat → Int) (fs : List Frame) (N : Nat)
    (hmono : ∀ a b, a ≤ b → ptsOf a ≤ ptsOf b) (hne : fs ≠ [])
    (hvalid : validGop fs N = true) (hpts : ∀ f ∈ fs, f.pts = ptsOf f.disp)
    (hterm : term = some (fs.length - 1)) :
    SeqResult ptsOf N (seqAux { stack := [], pktsRev := [] } [] (entriesOf term fs)) := by
  simp only [validGop, Bool.and_eq_true, beq_iff_eq] at hvalid
  obtain ⟨hlast, hfold⟩ := hvalid
  obtain ⟨init, last, rfl⟩ : ∃ init last, fs = init ++ [last] :=
    ⟨fs.dropLast, fs.getLast hne, (List.dropLast_concat_getLast hne).symm⟩
  have hlen : (init ++ [last]).length - 1 = init.length := by
    rw [List.length_append, List.length_singleton, Nat.add_sub_cancel]
  replace hlast : last.shown = true :=
    lastShown_spec _ hlast last (by rw [hlen]; exact List.getElem?_concat_length)
  rw [hlen] at hterm
  rw [List.foldl_append, List.foldl_cons, List.foldl_nil] at hfold
  cases hinit : init.foldl gopStep (some (0, [])) with
  | none => rw [hinit] at hfold; cases hfold
  | some r =>
    obtain ⟨c, pend⟩ := r
    rw [hinit] at hfold
    have h0 : StackRel term ptsOf [] ([] : List Buf) [] :=
      ⟨⟨[], List.Perm.refl _, List.Perm.refl _⟩, List.Pairwise.nil, Nat.zero_le _, (fun _ hy => nomatch hy),
        (fun _ hy => nomatch hy), (fun _ hy => nomatch hy), (fun _ hy => nomatch hy), (fun _ hy => nomatch hy)⟩
    have hk0 : PkRel ptsOf 0 ([] : List Buf) := ⟨rfl, (fun _ hy => nomatch hy)⟩
    have hptsI : ∀ x ∈ indexed init, x.2.pts = ptsOf x.2.disp := fun x hx =>
      hpts x.2 (List.mem_append_left _ (List.of_mem_zip hx).2)
    have htermI : ∀ x ∈ indexed init, (term == some x.1) = false := by
      intro x hx
      have := List.mem_range.1 (List.of_mem_zip hx).1
      rw [hterm, beq_eq_false_iff_ne]
      intro heq
      have := Option.some.inj heq
      omega
    obtain ⟨st', curP', hseq, h1, hk1, he1⟩ :=
      seq_fold hmono (indexed init) 0 [] { stack := [], pktsRev := [] } [] h0 hk0 (fun _ hy => nomatch hy) hptsI htermI c pend
        (by rw [indexed, ← List.unzip_snd, List.unzip_zip (by simp)]; exact hinit)
    have hx : (init.length, last).2.pts = ptsOf (init.length, last).2.disp :=
      hpts last (List.mem_append_right _ List.mem_cons_self)
    obtain ⟨h2, hk2, p, tl, hnew, hpe, htl⟩ := emit_shown (init.length, last) hmono h1 hk1 hlast hx hfold
    have hrun : seqAux { stack := [], pktsRev := [] } [] (entriesOf term (init ++ [last])) =
        (emitTU st' ((curP' ++ [(init.length, last)]).map (entryOf term)), []) := by
      have hseq' : seqAux { stack := [], pktsRev := [] } [] ((indexed init).map (entryOf term)) =
          (st', curP'.map (entryOf term)) := hseq
      show seqAux _ [] ((indexed (init ++ [last])).map (entryOf term)) = _
      rw [indexed_append_singleton, List.map_append, seqAux_append, hseq', List.map_append]
      show seqAux st' _ [entryOf term (init.length, last)] = _
      rw [seqAux, if_pos (show (entryOf term (init.length, last)).shown = true from hlast)]
      rfl
    rw [hrun]
    refine ⟨rfl, List.eq_nil_of_length_eq_zero h2.length_eq, ?_, hk2.pts, hk2.dts, p, tl ++ st'.pktsRev, hnew, ?_, ?_⟩
    · have := congrArg List.length hk2.pts
      rw [List.length_map, List.length_reverse, List.length_map, List.length_range] at this
      exact this
    · rw [hpe, hterm]; exact beq_self_eq_true _
    · intro b hb
      rcases List.mem_append.1 hb with hb | hb
      · exact htl b hb
      · exact he1 b hb

theorem slotAt_set {l : List (Option Entry)} {i j : Nat} {v : Option Entry} (hi : i < l.length) :
    slotAt (l.set i v) j = if i = j then v else slotAt l j := by
  unfold slotAt
  rw [List.getElem?_set]
  by_cases hij : i = j
  · subst hij; simp [hi]
  · simp [hij]

theorem slotAt_set_none {l : List (Option Entry)} {i j : Nat} :
    slotAt (l.set i none) j = if i = j then none else slotAt l j := by
  unfold slotAt
  rw [List.getElem?_set]
  by_cases hij : i = j
  · subst hij; split <;> simp_all
  · simp [hij]

theorem slotAt_set_some {l : List (Option Entry)} {i j : Nat} {v e : Entry}
    (h : slotAt (l.set i (some v)) j = some e) : e = v ∨ slotAt l j = some e := by
  by_cases hi : i < l.length
  · rw [slotAt_set hi] at h
    split at h
    · exact Or.inl (Option.some.inj h).symm
    · exact Or.inr h
  · rw [List.set_eq_of_length_le (Nat.le_of_not_lt hi)] at h
    exact Or.inr h

theorem slotAt_replicate (D i : Nat) : slotAt (List.replicate D none) i = none := by
  unfold slotAt
  rw [List.getElem?_replicate]
  split <;> simp_all

def HiddenAt (es : List Entry) (p : Nat) : Prop := ∃ e, es[p]? = some e ∧ e.shown = false

def RunsLe (T : Nat) (es : List Entry) : Prop :=
  ∀ a n, (∀ j, j < n → HiddenAt es (a + j)) → n ≤ T

/-- the head TU is incomplete -/
def Stuck (D : Nat) (es : List Entry) (seen : List Nat) (h : Nat) : Prop :=
  ∃ k, k < D ∧ h + k ∉ seen ∧ ∀ j, j < k → h + j ∈ seen ∧ HiddenAt es (h + j)

/-- `es` = entries in decode order, `seen` = decode orders that have arrived, `h` = ghost head (a TU boundary):
    frames `< h` have been released and turned into packets exactly as the sequential reference does. -/
structure InvP (D : Nat) (es : List Entry) (seen : List Nat) (h : Nat) (q : Q) : Prop where
  len    : q.slots.length = D
  head   : q.headIdx = h % D
  clob   : q.clobbered = false
  hle    : h ≤ es.length
  out    : seqAux { stack := [], pktsRev := [] } [] (es.take h) = (q.out, [])
  below  : ∀ k, k < h → k ∈ seen
  window : ∀ a, a ∈ seen → a < h + D
  bound  : ∀ a, a ∈ seen → a < es.length
  slot   : ∀ i e, i < D → (slotAt q.slots i = some e ↔ ∃ p, p ∈ seen ∧ h ≤ p ∧ p % D = i ∧ es[p]? = some e)

theorem InvP.slots {D : Nat} {es : List Entry} {seen : List Nat} {h : Nat} {q : Q} (inv : InvP D es seen h q) :
    Reorder.Slots D h (· ∈ seen) (es[·]?) (slotAt q.slots) := inv.slot

theorem invP_init (D : Nat) (es : List Entry) : InvP D es [] 0 (init D) where
  len := by simp [init]
  head := by simp [init]
  clob := rfl
  hle := Nat.zero_le _
  out := by simp [init, seqAux]
  below := by intro k hk; omega
  window := by intro a ha; simp at ha
  bound := by intro a ha; simp at ha
  slot := by intro i e _; simp [init, slotAt_replicate]

theorem invP_insert {D : Nat} {es : List Entry} {seen : List Nat} {h : Nat} {q : Q} (hD : 0 < D)
    (inv : InvP D es seen h q) {a : Nat} {e : Entry} (hnew : a ∉ seen) (hwin : a < h + D)
    (hea : es[a]? = some e) : InvP D es (a :: seen) h (insert D q a e) := by
  have hge : h ≤ a := Nat.le_of_not_lt (fun hlt => hnew (inv.below a hlt))
  have halen : a < es.length := (List.getElem?_eq_some_iff.1 hea).1
  obtain ⟨hempty, hslot⟩ := Reorder.Slots.insert inv.slots hD inv.window hnew hge hwin hea
    (fun _ => List.mem_cons)
    (fun j => slotAt_set (v := some e) (j := j) (by rw [inv.len]; exact Nat.mod_lt _ hD))
  refine ⟨List.length_set.trans inv.len, inv.head, ?_, inv.hle, inv.out,
    fun k hk => List.mem_cons_of_mem _ (inv.below k hk), List.forall_mem_cons.2 ⟨hwin, inv.window⟩,
    List.forall_mem_cons.2 ⟨halen, inv.bound⟩, hslot⟩
  show (q.clobbered || (slotAt q.slots (a % D)).isSome) = false
  rw [inv.clob, hempty]; rfl

/-- what `get_reorder_queue_entry(ctx, i)` finds, `i < D` -/
theorem slot_lookup {D : Nat} {es : List Entry} {seen : List Nat} {h : Nat} {q : Q} (hD : 0 < D)
    (inv : InvP D es seen h q) {i : Nat} (hi : i < D) {e : Entry} :
    slotAt q.slots ((q.headIdx + i) % D) = some e ↔ h + i ∈ seen ∧ es[h + i]? = some e := by
  rw [inv.head, Nat.mod_add_mod]
  exact Reorder.Slots.lookup inv.slots hD inv.window (Nat.le_add_right h i) (Nat.add_lt_add_left hi h)

/-- `count_frames_in_next_tu`: 0 for an incomplete head TU, else its length; the third case is what `RunsLe T`, `T < D`, excludes. -/
theorem count_spec {D : Nat} {es : List Entry} {seen : List Nat} {h : Nat} {q : Q} (hD : 0 < D)
    (inv : InvP D es seen h q) :
    ∀ (fuel i : Nat), i + fuel = D → (∀ j, j < i → h + j ∈ seen ∧ HiddenAt es (h + j)) →
      let n := countFrames D q.slots q.headIdx fuel i
      (n = 0 ∧ Stuck D es seen h) ∨
      (0 < n ∧ n ≤ D ∧ (∀ j, j < n → h + j ∈ seen) ∧ (∀ j, j + 1 < n → HiddenAt es (h + j)) ∧
         ∃ e, es[h + (n - 1)]? = some e ∧ e.shown = true) ∨
      (∀ j, j < D → h + j ∈ seen ∧ HiddenAt es (h + j)) := by
  intro fuel
  induction fuel with
  | zero =>
    intro i hi hprev
    rw [Nat.add_zero] at hi
    subst hi
    exact Or.inr (Or.inr hprev)
  | succ f ih =>
    intro i hi hprev
    have hiD : i < D := by omega
    cases hs : slotAt q.slots ((q.headIdx + i) % D) with
    | none =>
      simp only [countFrames, hs]
      refine Or.inl ⟨trivial, i, hiD, fun hmem => ?_, hprev⟩
      rw [(slot_lookup hD inv hiD).2 ⟨hmem, List.getElem?_eq_getElem (inv.bound _ hmem)⟩] at hs
      cases hs
    | some e =>
      obtain ⟨hmem, he⟩ := (slot_lookup hD inv hiD).1 hs
      cases hsh : e.shown
      · simp only [countFrames, hs, hsh, Bool.false_eq_true, if_false]
        apply ih (i + 1) (by omega)
        intro j hj
        rcases Nat.lt_succ_iff_lt_or_eq.1 hj with hj | rfl
        · exact hprev j hj
        · exact ⟨hmem, e, he, hsh⟩
      · simp only [countFrames, hs, hsh, if_true]
        refine Or.inr (Or.inl ⟨Nat.succ_pos i, hiD, ?_, fun j hj => (hprev j (Nat.lt_of_succ_lt_succ hj)).2,
          e, he, hsh⟩)
        intro j hj
        rcases Nat.lt_succ_iff_lt_or_eq.1 hj with hj | rfl
        · exact (hprev j hj).1
        · exact hmem

theorem takeTU_eq {D : Nat} {es : List Entry} {seen : List Nat} {h : Nat} {q : Q} (hD : 0 < D)
    (inv : InvP D es seen h q) : ∀ n, n ≤ D → (∀ j, j < n → h + j ∈ seen) →
      takeTU D q.slots q.headIdx n = (es.drop h).take n := by
  intro n
  induction n with
  | zero => intro _ _; rfl
  | succ n ih =>
    intro hn hall
    have hmem := hall n (Nat.lt_succ_self n)
    have he := List.getElem?_eq_getElem (inv.bound _ hmem)
    have ih' := ih (Nat.le_of_succ_le hn) (fun j hj => hall j (Nat.lt_succ_of_lt hj))
    unfold takeTU at ih' ⊢
    rw [List.range_succ, List.filterMap_append, ih', List.take_add_one, List.getElem?_drop, he,
      List.filterMap_cons, (slot_lookup hD inv hn).2 ⟨hmem, he⟩]
    rfl

theorem releaseSlots_len (D : Nat) (slots : List (Option Entry)) (hIdx n : Nat) :
    (releaseSlots D slots hIdx n).length = slots.length := by
  unfold releaseSlots
  induction n with
  | zero => simp
  | succ n ih => rw [List.range_succ, List.foldl_append]; simpa using ih

theorem releaseSlots_at (D : Nat) (slots : List (Option Entry)) (hIdx n i : Nat) :
    slotAt (releaseSlots D slots hIdx n) i =
      if ∃ j, j < n ∧ (hIdx + j) % D = i then none else slotAt slots i := by
  unfold releaseSlots
  induction n with
  | zero => simp
  | succ n ih =>
    rw [List.range_succ, List.foldl_append, List.foldl_cons, List.foldl_nil, slotAt_set_none, ih]
    by_cases hl : (hIdx + n) % D = i
    · rw [if_pos hl, if_pos ⟨n, Nat.lt_succ_self n, hl⟩]
    · rw [if_neg hl]
      refine if_congr ⟨fun ⟨j, hj, hje⟩ => ⟨j, Nat.lt_succ_of_lt hj, hje⟩, fun ⟨j, hj, hje⟩ => ?_⟩ rfl rfl
      rcases Nat.lt_succ_iff_lt_or_eq.1 hj with hj | rfl
      · exact ⟨j, hj, hje⟩
      · exact absurd hje hl

theorem seqAux_hidden (st : Out) (cur l : List Entry) (h : ∀ e ∈ l, e.shown = false) :
    seqAux st cur l = (st, cur ++ l) := by
  induction l generalizing cur with
  | nil => rw [List.append_nil]; rfl
  | cons e es ih =>
    rw [seqAux, if_neg (by rw [h e List.mem_cons_self]; decide),
      ih _ (fun x hx => h x (List.mem_cons_of_mem _ hx)), List.append_assoc]
    rfl

theorem seqAux_tu (st : Out) (cur hid : List Entry) (e : Entry) (h : ∀ x ∈ hid, x.shown = false)
    (he : e.shown = true) : seqAux st cur (hid ++ [e]) = (emitTU st (cur ++ hid ++ [e]), []) := by
  rw [seqAux_append, seqAux_hidden st cur hid h, seqAux, if_pos he]
  rfl

theorem take_hidden {es : List Entry} {h n : Nat} (hh : ∀ j, j < n → HiddenAt es (h + j)) :
    ∀ x ∈ (es.drop h).take n, x.shown = false := by
  intro x hx
  obtain ⟨j, hj⟩ := List.mem_iff_getElem?.1 hx
  rw [List.getElem?_take] at hj
  split at hj
  · next hjn =>
    obtain ⟨e, he, hs⟩ := hh j hjn
    rw [List.getElem?_drop, he] at hj
    cases hj; exact hs
  · cases hj

theorem below_add {seen : List Nat} {h n : Nat} (hb : ∀ k, k < h → k ∈ seen) (hall : ∀ j, j < n → h + j ∈ seen) :
    ∀ k, k < h + n → k ∈ seen := by
  intro k hk
  rcases Nat.lt_or_ge k h with hlt | hge
  · exact hb k hlt
  · have := hall (k - h) (by omega)
    rwa [Nat.add_sub_cancel' hge] at this

/-- one iteration of the `while ((frames = count_frames_in_next_tu()))` loop, for a complete head TU of `n` frames -/
theorem invP_release {D : Nat} {es : List Entry} {seen : List Nat} {h : Nat} {q : Q} (hD : 0 < D)
    (inv : InvP D es seen h q) {n : Nat} (hn0 : 0 < n) (hnD : n ≤ D) (hall : ∀ j, j < n → h + j ∈ seen)
    (hhid : ∀ j, j + 1 < n → HiddenAt es (h + j)) (hlast : ∃ e, es[h + (n - 1)]? = some e ∧ e.shown = true) :
    InvP D es seen (h + n)
      { q with slots := releaseSlots D q.slots q.headIdx n, headIdx := (q.headIdx + n) % D,
               out := emitTU q.out (takeTU D q.slots q.headIdx n) } := by
  obtain ⟨eL, heL, hsL⟩ := hlast
  have hlen : h + n ≤ es.length := by
    have := (List.getElem?_eq_some_iff.1 heL).1
    omega
  refine ⟨?_, ?_, inv.clob, hlen, ?_, below_add inv.below hall, ?_, inv.bound, ?_⟩
  · show (releaseSlots D q.slots q.headIdx n).length = D
    rw [releaseSlots_len, inv.len]
  · show (q.headIdx + n) % D = (h + n) % D
    rw [inv.head, Nat.mod_add_mod]
  · -- the released entries are `es[h … h+n−1]`: `n−1` non-shown frames and a shown one
    show seqAux _ [] (es.take (h + n)) = (emitTU q.out (takeTU D q.slots q.headIdx n), [])
    rw [List.take_add, seqAux_append, inv.out, takeTU_eq hD inv n hnD hall]
    obtain ⟨m, rfl⟩ : ∃ m, n = m + 1 := ⟨n - 1, by omega⟩
    rw [Nat.add_sub_cancel] at heL
    rw [List.take_add_one, List.getElem?_drop, heL]
    exact seqAux_tu q.out [] _ eL (take_hidden (fun j hj => hhid j (by omega))) hsL
  · intro a ha; have := inv.window a ha; omega
  · exact Reorder.Slots.release inv.slots inv.window
      (C := fun i => ∃ j, j < n ∧ (q.headIdx + j) % D = i)
      (fun i => by rw [inv.head]; simp only [Nat.mod_add_mod])
      (fun i => releaseSlots_at D q.slots q.headIdx n i)

theorem invP_drain {D T : Nat} {es : List Entry} {seen : List Nat} (hD : 0 < D) (hT : T < D)
    (hrun : RunsLe T es) :
    ∀ (fuel : Nat) {h : Nat} {q : Q}, InvP D es seen h q →
      ∃ h', InvP D es seen h' (drain D fuel q) ∧ (Stuck D es seen h' ∨ h + fuel ≤ h') := by
  intro fuel
  induction fuel with
  | zero => intro h q inv; exact ⟨h, inv, Or.inr (Nat.le_refl _)⟩
  | succ f ih =>
    intro h q inv
    have hc := count_spec hD inv D 0 (Nat.zero_add D) (fun j hj => absurd hj (Nat.not_lt_zero j))
    simp only at hc
    simp only [drain]
    generalize countFrames D q.slots q.headIdx D 0 = n at hc ⊢
    rcases hc with ⟨rfl, hst⟩ | ⟨hn0, hnD, hall, hhid, hlast⟩ | hfull
    · exact ⟨h, by rw [if_pos rfl]; exact inv, Or.inl hst⟩
    · rw [if_neg (Nat.ne_of_gt hn0)]
      obtain ⟨h', inv', hor⟩ := ih (invP_release hD inv hn0 hnD hall hhid hlast)
      exact ⟨h', inv', hor.imp_right (fun hge => by omega)⟩
    · have := hrun h D (fun j hj => (hfull j hj).2)
      omega

theorem invP_step {D T : Nat} {es : List Entry} {seen : List Nat} {h : Nat} {q : Q} (hD : 0 < D)
    (hT : T < D) (hrun : RunsLe T es) (inv : InvP D es seen h q) {a : Nat} {e : Entry}
    (hnew : a ∉ seen) (hwin : a < h + D) (hea : es[a]? = some e) :
    ∃ h', InvP D es (a :: seen) h' (stepE D q (a, e)) ∧ Stuck D es (a :: seen) h' := by
  have inv1 := invP_insert hD inv hnew hwin hea
  obtain ⟨h', inv2, hor⟩ := invP_drain hD hT hrun D inv1
  refine ⟨h', inv2, ?_⟩
  rcases hor with hs | hge
  · exact hs
  · refine ⟨0, hD, ?_, by intro j hj; omega⟩
    intro hmem
    have := inv1.window h' hmem
    omega

/-- The window hypothesis and `RunsLe` together keep every arrival below `h + D`. -/
theorem run_loopP {D T : Nat} {es : List Entry} (hD : 0 < D) (hT : T < D) (hrun : RunsLe T es) :
    ∀ (rest : List (Nat × Entry)) (seen : List Nat) (h : Nat) (q : Q), InvP D es seen h q →
      Stuck D es seen h → (rest.map (·.1)).Nodup → (∀ x, x ∈ rest → x.1 ∉ seen) →
      (∀ x, x ∈ rest → es[x.1]? = some x.2) →
      Reorder.windowedFrom (D - T) seen (rest.map (·.1)) = true →
      ∃ h', InvP D es ((rest.map (·.1)).reverse ++ seen) h' (rest.foldl (stepE D) q) ∧
        Stuck D es ((rest.map (·.1)).reverse ++ seen) h' := by
  intro rest
  induction rest with
  | nil => intro seen h q inv hs _ _ _ _; exact ⟨h, by simpa using inv, by simpa using hs⟩
  | cons x rest ih =>
    intro seen h q inv hs hnd hdisj hes hw
    simp only [List.map_cons] at hnd hw
    obtain ⟨hwa, hwr⟩ := Reorder.windowedFrom_cons.1 hw
    have hnew : x.1 ∉ seen := hdisj x List.mem_cons_self
    obtain ⟨k, hkD, hknot, hkall⟩ := hs
    have hwin : x.1 < h + D := by
      have h1 := (Reorder.windowed_head_iff (below_add inv.below (fun j hj => (hkall j hj).1)) hknot).1 hwa
      have h2 := hrun h k (fun j hj => (hkall j hj).2)
      omega
    obtain ⟨h1, inv1, hs1⟩ := invP_step hD hT hrun inv hnew hwin (hes x List.mem_cons_self)
    have hnd' := List.nodup_cons.1 hnd
    obtain ⟨h', inv', hs'⟩ := ih (x.1 :: seen) h1 (stepE D q x) inv1 hs1 hnd'.2
      (by
        intro y hy hmem
        rcases List.mem_cons.1 hmem with heq | hmem
        · exact hnd'.1 (heq ▸ List.mem_map.2 ⟨y, hy, rfl⟩)
        · exact hdisj y (List.mem_cons_of_mem _ hy) hmem)
      (fun y hy => hes y (List.mem_cons_of_mem _ hy))
      hwr
    refine ⟨h', ?_, ?_⟩
    · simpa [List.foldl_cons, List.reverse_cons, List.append_assoc] using inv'
    · simpa [List.reverse_cons, List.append_assoc] using hs'

/-- **Queue layer**: the queue half of `C03.packetize_spec` — no slot is overwritten, and stack and packets are those of
    the sequential reference. -/
theorem runE_eq_seq {D T : Nat} {es : List Entry} (hD : 0 < D) (hT : T < D) (hrun : RunsLe T es)
    (hlast : ∀ e, es[es.length - 1]? = some e → e.shown = true)
    (arr : List (Nat × Entry)) (hperm : (arr.map (·.1)).Perm (List.range es.length))
    (hes : ∀ x, x ∈ arr → es[x.1]? = some x.2)
    (hwin : Reorder.Windowed (D - T) (arr.map (·.1))) :
    seqAux { stack := [], pktsRev := [] } [] es = ((runE D arr).out, []) ∧ (runE D arr).clobbered = false := by
  have hnd : (arr.map (·.1)).Nodup := (List.Perm.nodup_iff hperm).2 List.nodup_range
  have hs0 : Stuck D es [] 0 := ⟨0, hD, List.not_mem_nil, fun j hj => absurd hj (Nat.not_lt_zero j)⟩
  obtain ⟨h', inv, hst⟩ := run_loopP hD hT hrun arr [] 0 (init D) (invP_init D es) hs0 hnd
    (fun _ _ => List.not_mem_nil) hes hwin
  rw [List.append_nil] at inv hst
  have hmem : ∀ k, k ∈ (arr.map (·.1)).reverse ↔ k < es.length := by
    intro k; rw [List.mem_reverse, hperm.mem_iff, List.mem_range]
  -- everything has arrived, so a head TU that is still incomplete would end in non-shown frames
  have hh : h' = es.length := by
    obtain ⟨k, _, hknot, hkall⟩ := hst
    have hk1 : es.length ≤ h' + k := Nat.le_of_not_lt (fun hc => hknot ((hmem _).2 hc))
    have hle := inv.hle
    by_contra hne
    obtain ⟨e, he, hsh⟩ := (hkall (es.length - 1 - h') (by omega)).2
    rw [show h' + (es.length - 1 - h') = es.length - 1 by omega] at he
    rw [hlast e he] at hsh
    cases hsh
  have hout := inv.out
  rw [hh, List.take_length] at hout
  exact ⟨hout, inv.clob⟩

theorem entriesOf_get (term : Option Nat) (fs : List Frame) (j : Nat) :
    (entriesOf term fs)[j]? = (fs[j]?).map (fun f => mkEntry term j f) := by
  unfold entriesOf indexed
  by_cases hj : j < fs.length
  · simp [hj]
  · simp [hj]

theorem entriesOf_length (term : Option Nat) (fs : List Frame) : (entriesOf term fs).length = fs.length := by
  simp [entriesOf, indexed]

/-- the second conjunct carries the induction: a run at the very start continues the `cur` non-shown frames before `fs` -/
theorem hiddenRuns_spec (T : Nat) : ∀ (fs : List Frame) (cur : Nat), hiddenRunsLe T cur fs = true →
    ∀ a n, (∀ j, j < n → ∃ f, fs[a + j]? = some f ∧ f.shown = false) →
      n ≤ T ∧ (a = 0 → n = 0 ∨ cur + n ≤ T) := by
  intro fs
  induction fs with
  | nil =>
    intro cur _ a n hall
    cases n with
    | zero => exact ⟨Nat.zero_le _, fun _ => Or.inl rfl⟩
    | succ n => obtain ⟨f, hf, _⟩ := hall 0 (Nat.succ_pos _); cases hf
  | cons f rest ih =>
    intro cur hr a n hall
    unfold hiddenRunsLe at hr
    cases a with
    | succ a =>
      have hr' : ∃ c, hiddenRunsLe T c rest = true := by
        split at hr
        · exact ⟨0, hr⟩
        · exact ⟨cur + 1, (Bool.and_eq_true _ _ ▸ hr).2⟩
      obtain ⟨c, hc⟩ := hr'
      refine ⟨(ih c hc a n ?_).1, fun h => absurd h (Nat.succ_ne_zero _)⟩
      intro j hj
      have := hall j hj
      rwa [show a + 1 + j = (a + j) + 1 by omega, List.getElem?_cons_succ] at this
    | zero =>
      cases n with
      | zero => exact ⟨Nat.zero_le _, fun _ => Or.inl rfl⟩
      | succ n =>
        obtain ⟨f0, hf0, hs0⟩ := hall 0 (Nat.succ_pos _)
        cases hf0
        rw [if_neg (by rw [hs0]; decide), Bool.and_eq_true, decide_eq_true_eq] at hr
        have := (ih (cur + 1) hr.2 0 n ?_).2 rfl
        · omega
        · intro j hj
          have := hall (j + 1) (by omega)
          rwa [show 0 + (j + 1) = (0 + j) + 1 by omega, List.getElem?_cons_succ] at this

theorem runsLe_entriesOf (T : Nat) (term : Option Nat) (fs : List Frame) (h : hiddenRunsLe T 0 fs = true) :
    RunsLe T (entriesOf term fs) := by
  intro a n hall
  refine (hiddenRuns_spec T fs 0 h a n ?_).1
  intro j hj
  obtain ⟨e, he, hs⟩ := hall j hj
  rw [entriesOf_get] at he
  obtain ⟨f, hf, rfl⟩ := Option.map_eq_some_iff.1 he
  exact ⟨f, hf, hs⟩

/-- **Combined**: queue layer + stack/EOS layer.  See `C03.packetize_spec`. -/
theorem run_spec (D T : Nat) (hT : T < D) (term : Option Nat) (ptsOf : Nat → Int) (fs : List Frame) (N : Nat)
    (arrivals : List (Nat × Frame))
    (hmono : ∀ a b, a ≤ b → ptsOf a ≤ ptsOf b) (hne : fs ≠ [])
    (hvalid : validGop fs N = true) (hruns : hiddenRunsLe T 0 fs = true)
    (hpts : ∀ f ∈ fs, f.pts = ptsOf f.disp) (hterm : term = some (fs.length - 1))
    (hperm : (arrivals.map (·.1)).Perm (List.range fs.length))
    (hfr : ∀ x, x ∈ arrivals → fs[x.1]? = some x.2)
    (hwin : Reorder.Windowed (D - T) (arrivals.map (·.1))) :
    SeqResult ptsOf N ((runQ D term arrivals).out, []) ∧ (runQ D term arrivals).clobbered = false := by
  have hD : 0 < D := by omega
  have hseq := seq_spec term ptsOf fs N hmono hne hvalid hpts hterm
  have hlastS : lastShown fs = true := by
    simp only [validGop, Bool.and_eq_true] at hvalid; exact hvalid.1
  have hlast : ∀ e, (entriesOf term fs)[(entriesOf term fs).length - 1]? = some e → e.shown = true := by
    intro e he
    rw [entriesOf_length, entriesOf_get] at he
    obtain ⟨f, hf, rfl⟩ := Option.map_eq_some_iff.1 he
    exact lastShown_spec fs hlastS f hf
  have hmapfst : (arrivals.map (fun x => (x.1, mkEntry term x.1 x.2))).map (·.1) = arrivals.map (·.1) := by
    rw [List.map_map]; rfl
  have hq := runE_eq_seq (D := D) (T := T) (es := entriesOf term fs) hD hT (runsLe_entriesOf T term fs hruns) hlast
    (arrivals.map (fun x => (x.1, mkEntry term x.1 x.2)))
    (by rw [entriesOf_length, hmapfst]; exact hperm)
    (by
      intro x hx
      obtain ⟨y, hy, rfl⟩ := List.mem_map.1 hx
      rw [entriesOf_get, hfr y hy]; rfl)
    (by rw [hmapfst]; exact hwin)
  unfold runQ
  rw [← hq.1]
  exact ⟨hseq, hq.2⟩

def OutPriv (S : Nat → Prop) (o : Out) : Prop := (∀ b ∈ o.stack, S b.priv) ∧ ∀ b ∈ o.pktsRev, S b.priv

theorem emitTU_priv (S : Nat → Prop) (st : Out) (tu : List Entry) (ht : ∀ e ∈ tu, S e.outMeta)
    (h : OutPriv S st) : OutPriv S (emitTU st tu) := by
  unfold emitTU
  split
  · exact h
  · next last revPre heq =>
    -- `collect_frames_info` has put `out_meta_data` into every buffer of the TU
    have hall : ∀ e ∈ last :: revPre, S e.buf.priv := by
      intro e he
      rw [← heq] at he
      obtain ⟨e0, he0, rfl⟩ := List.mem_map.1 (List.mem_reverse.1 he)
      exact ht e0 he0
    have h2 : ∀ b ∈ tuStack st.stack revPre, S b.priv := by
      intro b hb
      rcases mem_tuStack hb with ⟨e, he, rfl⟩ | hb
      · exact hall e (List.mem_cons_of_mem _ he)
      · exact h.1 b hb
    have hout : ∀ b ∈ tuBuf last (revPre.length + 1) :: st.pktsRev, S b.priv :=
      List.forall_mem_cons.2 ⟨hall last List.mem_cons_self, h.2⟩
    rw [emitCore_eq]
    split
    · split
      · exact ⟨(fun _ hy => nomatch hy), hout⟩
      · next b rest hst =>
        rw [hst] at h2
        exact ⟨fun y hy => h2 y (List.mem_cons_of_mem _ hy),
          List.forall_mem_cons.2 ⟨h2 b List.mem_cons_self, hout⟩⟩
    · exact ⟨h2, hout⟩

structure PrivInv (S : Nat → Prop) (q : Q) : Prop where
  slots : ∀ i e, slotAt q.slots i = some e → S e.outMeta
  out   : OutPriv S q.out

theorem privInv_drain (S : Nat → Prop) (D : Nat) : ∀ (fuel : Nat) (q : Q), PrivInv S q → PrivInv S (drain D fuel q) := by
  intro fuel
  induction fuel with
  | zero => intro q h; exact h
  | succ f ih =>
    intro q h
    simp only [drain]
    split
    · exact h
    · refine ih _ ⟨fun i e he => ?_, emitTU_priv S q.out _ (fun e he => ?_) h.out⟩
      · rw [releaseSlots_at] at he
        split at he
        · cases he
        · exact h.slots i e he
      · obtain ⟨i, _, hi⟩ := List.mem_filterMap.1 he
        exact h.slots _ e hi

theorem privInv_run (S : Nat → Prop) (D : Nat) : ∀ (arr : List (Nat × Entry)) (q : Q), PrivInv S q →
    (∀ x ∈ arr, S x.2.outMeta) → PrivInv S (arr.foldl (stepE D) q) := by
  intro arr
  induction arr with
  | nil => intro q h _; exact h
  | cons x xs ih =>
    intro q h hx
    refine ih _ (privInv_drain S D D _ ⟨fun i e he => ?_, h.out⟩) (fun y hy => hx y (List.mem_cons_of_mem _ hy))
    rcases slotAt_set_some he with rfl | he
    · exact hx x List.mem_cons_self
    · exact h.slots i e he

end Packetize
