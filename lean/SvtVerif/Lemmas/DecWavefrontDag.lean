/-
  C09 — schedule independence of a task DAG (`dreach_inv`; `C09.dag_confluence`) and the simulation that turns every
  execution of a row wavefront (`DecWf.step`) into an execution of the DAG of its columns.
-/
import SvtVerif.Lemmas.DecWavefrontSched

namespace DecWf

/-- a task DAG: task `t` reads only the cells written by `deps t` and writes only its own cell -/
structure Dag (T V : Type) where
  deps : T → List T
  f : T → (T → V) → V                     -- value task `t` writes, as a function of the store it reads
  rank : T → Nat
  rank_lt : ∀ t d, d ∈ deps t → rank d < rank t           -- acyclic
  footprint : ∀ t σ σ', (∀ d, d ∈ deps t → σ d = σ' d) → f t σ = f t σ'   -- H-footprint

structure DSt (T V : Type) where
  σ : T → V                 -- the store: one cell per task
  pend : T → Option V       -- task running: the value it is going to write
  done : T → Bool

inductive DOp (T : Type) where
  | start (t : T)
  | finish (t : T)

def upd {T α : Type} [DecidableEq T] (f : T → α) (t : T) (v : α) : T → α := fun x => if x = t then v else f x

theorem upd_same {T α : Type} [DecidableEq T] (f : T → α) (t : T) (v : α) : upd f t v t = v := if_pos rfl

theorem upd_col {α : Type} (f : Nat × Nat → α) {r j j' : Nat} (v : α) (h : j' ≠ j) : upd f (r, j) v (r, j') = f (r, j') :=
  if_neg fun e => h (Prod.mk.inj e).2

theorem upd_row {α : Type} (f : Nat × Nat → α) {r r' : Nat} (j j' : Nat) (v : α) (h : r' ≠ r) :
    upd f (r, j) v (r', j') = f (r', j') :=
  if_neg fun e => h (Prod.mk.inj e).1

/-- atomic task steps.  `start t` (allowed once, when every dependency has finished) reads the store; `finish t`
    writes the task's cell.  Any number of tasks may be running at the same time: there is no bound on workers.
    (A task that reads its inputs at several moments between `start` and `finish` reads the same values: the cells
    of finished tasks are never written again.) -/
def dstep {T V : Type} [DecidableEq T] (D : Dag T V) (s : DSt T V) : DOp T → Option (DSt T V)
  | .start t =>
    if s.done t = false ∧ s.pend t = none ∧ (D.deps t).all (fun d => s.done d) = true then
      some { s with pend := upd s.pend t (some (D.f t s.σ)) }
    else none
  | .finish t =>
    match s.pend t with
    | some v => some { σ := upd s.σ t v, pend := upd s.pend t none, done := upd s.done t true }
    | none => none

def dinit {T V : Type} (σ₀ : T → V) : DSt T V := { σ := σ₀, pend := fun _ => none, done := fun _ => false }

inductive DReach {T V : Type} [DecidableEq T] (D : Dag T V) (σ₀ : T → V) : DSt T V → Prop
  | init : DReach D σ₀ (dinit σ₀)
  | step {s s' : DSt T V} {op : DOp T} : DReach D σ₀ s → dstep D s op = some s' → DReach D σ₀ s'

/-- the value of task `t`'s cell in every execution: defined by recursion along the DAG, no schedule involved -/
def val {T V : Type} (D : Dag T V) (σ₀ : T → V) (t : T) : V :=
  D.f t (fun d => if _h : D.rank d < D.rank t then val D σ₀ d else σ₀ d)
termination_by D.rank t

theorem val_eq {T V : Type} (D : Dag T V) (σ₀ : T → V) (t : T) (σ : T → V)
    (h : ∀ d, d ∈ D.deps t → σ d = val D σ₀ d) : D.f t σ = val D σ₀ t := by
  rw [val]
  apply D.footprint
  intro d hd
  rw [h d hd]
  simp [D.rank_lt t d hd]

structure DInv {T V : Type} (D : Dag T V) (σ₀ : T → V) (s : DSt T V) : Prop where
  done_val : ∀ t, s.done t = true → s.σ t = val D σ₀ t
  pend_val : ∀ t v, s.pend t = some v → v = val D σ₀ t
  undone : ∀ t, s.done t = false → s.σ t = σ₀ t

theorem dinv_step {T V : Type} [DecidableEq T] {D : Dag T V} {σ₀ : T → V} {s s' : DSt T V} {op : DOp T}
    (hi : DInv D σ₀ s) (h : dstep D s op = some s') : DInv D σ₀ s' := by
  cases op with
  | start t =>
    simp only [dstep] at h
    split at h
    · rename_i hc
      injection h with h; subst h
      refine ⟨hi.done_val, ?_, hi.undone⟩
      intro t' v hv
      simp only [upd] at hv
      split at hv
      · rename_i e; subst e
        injection hv with hv; subst hv
        apply val_eq
        intro d hd
        have := List.all_eq_true.1 hc.2.2 d hd
        exact hi.done_val d this
      · exact hi.pend_val t' v hv
    · simp at h
  | finish t =>
    simp only [dstep] at h
    split at h
    · rename_i v hv
      injection h with h; subst h
      refine ⟨?_, ?_, ?_⟩
      · intro t' hd
        simp only [upd] at hd ⊢
        split
        · rename_i e; subst e; exact hi.pend_val t' v hv
        · rename_i e; simp only [e, if_false] at hd; exact hi.done_val t' hd
      · intro t' v' hv'
        simp only [upd] at hv'
        split at hv'
        · simp at hv'
        · exact hi.pend_val t' v' hv'
      · intro t' hd
        simp only [upd] at hd ⊢
        split
        · rename_i e; simp [e] at hd
        · rename_i e; simp only [e, if_false] at hd; exact hi.undone t' hd
    · simp at h

theorem dreach_inv {T V : Type} [DecidableEq T] {D : Dag T V} {σ₀ : T → V} {s : DSt T V} (h : DReach D σ₀ s) :
    DInv D σ₀ s := by
  induction h with
  | init => exact ⟨fun t h => by simp [dinit] at h, fun t v h => by simp [dinit] at h, fun t _ => rfl⟩
  | step _ hs ih => exact dinv_step ih hs

/-- the wavefront cone as a decidable predicate -/
def inCone (W : Nat) (t d : Nat × Nat) : Bool :=
  (d.1 == t.1 && decide (d.2 < t.2)) || (decide (d.1 < t.1) && decide (d.2 < min (t.2 + 1 + (t.1 - d.1)) W))

theorem inCone_iff (W : Nat) (t d : Nat × Nat) : inCone W t d = true ↔ cone W t.1 t.2 d.1 d.2 := by
  simp [inCone, cone]

/-- `Link`: the DAG state mirrors the wavefront state -/
structure Link (s : Stage) (st : WSt) {V : Type} (ds : DSt (Nat × Nat) V) : Prop where
  done_iff : ∀ r j, ds.done (r, j) = true ↔ (r < s.H ∧ j < cnt s (lget st.ph r))
  pend_iff : ∀ r j, (ds.pend (r, j)).isSome = true ↔ (r < s.H ∧ lget st.ph r = Ph.busy j)

/-- the DAG step that corresponds to a wavefront step -/
def mapOp (st : WSt) : Op → Option (DOp (Nat × Nat))
  | .dec r => match lget st.ph r with
    | Ph.at j => some (DOp.start (r, j))
    | _ => none
  | .pub r => match lget st.ph r with
    | Ph.busy j => some (DOp.finish (r, j))
    | _ => none
  | _ => none

theorem Link.of_row {s : Stage} {st st' : WSt} {V : Type} {ds ds' : DSt (Nat × Nat) V} (hl : Link s st ds)
    {r : Nat} {p' : Ph} (hr : r < s.H) (hlen : r < st.ph.length) (hph : st'.ph = lset st.ph r p')
    (hd : ∀ j, ds'.done (r, j) = true ↔ j < cnt s p')
    (hp : ∀ j, (ds'.pend (r, j)).isSome = true ↔ p' = Ph.busy j)
    (ho : ∀ r' j, r' ≠ r → ds'.done (r', j) = ds.done (r', j) ∧ ds'.pend (r', j) = ds.pend (r', j)) :
    Link s st' ds' := by
  constructor <;> intro r' j <;> rw [hph] <;> by_cases e : r' = r
  · subst e; rw [lget_lset_self _ _ _ hlen, hd]; exact ⟨fun h => ⟨hr, h⟩, And.right⟩
  · rw [lget_lset_ne _ _ _ _ (Ne.symm e), (ho r' j e).1]; exact hl.done_iff r' j
  · subst e; rw [lget_lset_self _ _ _ hlen, hp]; exact ⟨fun h => ⟨hr, h⟩, And.right⟩
  · rw [lget_lset_ne _ _ _ _ (Ne.symm e), (ho r' j e).2]; exact hl.pend_iff r' j

theorem Link.silent {s : Stage} {st st' : WSt} {V : Type} {ds : DSt (Nat × Nat) V} (hl : Link s st ds)
    {r : Nat} {p p' : Ph} (hr : r < s.H) (hlen : r < st.ph.length) (hph : st'.ph = lset st.ph r p')
    (hp : lget st.ph r = p) (hc : cnt s p' = cnt s p) (hb : ∀ j, p ≠ Ph.busy j ∧ p' ≠ Ph.busy j) :
    Link s st' ds :=
  hl.of_row hr hlen hph
    (fun j => (hl.done_iff r j).trans (by rw [hp, hc]; exact ⟨And.right, fun h => ⟨hr, h⟩⟩))
    (fun j => (hl.pend_iff r j).trans (by rw [hp]; exact ⟨fun h => absurd h.2 (hb j).1, fun h => absurd h (hb j).2⟩))
    (fun _ _ _ => ⟨rfl, rfl⟩)

theorem sim_pub {s : Stage} {V : Type} (D : Dag (Nat × Nat) V) {st st' : WSt} {ds : DSt (Nat × Nat) V}
    (hl : Link s st ds) {r j : Nat} {p' : Ph} (hr : r < s.H) (hlen : r < st.ph.length)
    (hp : lget st.ph r = Ph.busy j) (hph : st'.ph = lset st.ph r p') (hc : cnt s p' = j + 1)
    (hnb : ∀ j', p' ≠ Ph.busy j') :
    ∃ dop ds', mapOp st (Op.pub r) = some dop ∧ dstep D ds dop = some ds' ∧ Link s st' ds' := by
  cases hv : ds.pend (r, j) with
  | none =>
    have := (hl.pend_iff r j).2 ⟨hr, hp⟩
    rw [hv] at this; exact absurd this nofun
  | some v =>
    refine ⟨DOp.finish (r, j), _, by simp only [mapOp, hp], by simp only [dstep, hv]; rfl, ?_⟩
    refine hl.of_row hr hlen hph (fun j' => ?_) (fun j' => ?_) (fun r' j' e => ⟨upd_row _ _ _ _ e, upd_row _ _ _ _ e⟩)
    · show upd ds.done (r, j) true (r, j') = true ↔ _
      rw [hc]
      by_cases hj : j' = j
      · rw [hj, upd_same]; exact ⟨fun _ => Nat.lt_succ_self j, fun _ => rfl⟩
      · rw [upd_col _ _ hj, hl.done_iff, hp]
        exact ⟨fun h => Nat.lt_succ_of_lt h.2, fun h => ⟨hr, Nat.lt_of_le_of_ne (Nat.le_of_lt_succ h) hj⟩⟩
    · show (upd ds.pend (r, j) none (r, j')).isSome = true ↔ _
      by_cases hj : j' = j
      · rw [hj, upd_same]; exact ⟨nofun, fun h => absurd h (hnb j)⟩
      · rw [upd_col _ _ hj, hl.pend_iff, hp]
        exact ⟨fun h => absurd (Ph.busy.inj h.2).symm hj, fun h => absurd h (hnb j')⟩

/-- Simulation: a wavefront step is either invisible to the DAG or is a legal DAG step (in particular a column
    starts only when all its dependencies — assumed to lie in its wavefront cone — have finished), and `Link`
    is preserved. -/
theorem sim_step {s : Stage} {V : Type} (D : Dag (Nat × Nat) V)
    (hdeps : ∀ t d, d ∈ D.deps t → inCone s.W t d = true)
    {st st' : WSt} {g : Nat → Bool} {op : Op} {ds : DSt (Nat × Nat) V}
    (hi : Inv s st) (hw : Wave s st) (hl : Link s st ds) (h : step s g st op = some st') :
    (mapOp st op = none ∧ Link s st' ds) ∨
    (∃ dop ds', mapOp st op = some dop ∧ dstep D ds dop = some ds' ∧ Link s st' ds') := by
  rcases step_cases hi h with b | ⟨r, p, p', hr, hp, t⟩
  · have := b.same.1
    exact Or.inl ⟨by cases b <;> rfl, ⟨by rw [this]; exact hl.done_iff, by rw [this]; exact hl.pend_iff⟩⟩
  · have hlen : r < st.ph.length := hi.len_ph ▸ hr
    have hph := t.ph_eq
    cases t with
    | pick => exact Or.inl ⟨rfl, hl.silent hr hlen hph hp rfl fun _ => ⟨nofun, nofun⟩⟩
    | enter1 => exact Or.inl ⟨rfl, hl.silent hr hlen hph hp rfl fun _ => ⟨nofun, nofun⟩⟩
    | enter2 _ he => exact Or.inl ⟨rfl, hl.silent hr hlen hph hp (Wb_zero he) fun _ => ⟨nofun, nofun⟩⟩
    | finR => exact Or.inl ⟨rfl, hl.silent hr hlen hph hp rfl fun _ => ⟨nofun, nofun⟩⟩
    | finF => exact Or.inl ⟨rfl, hl.silent hr hlen hph hp rfl fun _ => ⟨nofun, nofun⟩⟩
    | @pub1 _ j hj => exact Or.inr (sim_pub D hl hr hlen hp hph rfl nofun)
    | @pub2 _ j hj => exact Or.inr (sim_pub D hl hr hlen hp hph (hi.Wb_last hr hp hj) nofun)
    | @dec _ j hpass =>
      right
      -- the start is enabled
      have h1 : ds.done (r, j) = false := Bool.eq_false_iff.2 fun hd => by
        have := ((hl.done_iff r j).1 hd).2
        rw [hp] at this; exact Nat.lt_irrefl j this
      have h2 : ds.pend (r, j) = none := Option.not_isSome_iff_eq_none.1 fun hs =>
        nomatch hp.symm.trans ((hl.pend_iff r j).1 (by simpa using hs)).2
      have h3 : (D.deps (r, j)).all (fun d => ds.done d) = true :=
        List.all_eq_true.2 fun d hd =>
          (hl.done_iff d.1 d.2).2 (dec_cone hi hw hr hp hpass ((inCone_iff s.W (r, j) d).1 (hdeps (r, j) d hd)))
      refine ⟨DOp.start (r, j), _, by simp only [mapOp, hp],
        by simp only [dstep, h1, h2, h3, and_self, if_true]; rfl, ?_⟩
      refine hl.of_row hr hlen hph (fun j' => ?_) (fun j' => ?_) (fun r' j' e => ⟨rfl, upd_row _ _ _ _ e⟩)
      · exact (hl.done_iff r j').trans (by rw [hp]; exact ⟨And.right, fun h => ⟨hr, h⟩⟩)
      · show (upd ds.pend (r, j) _ (r, j')).isSome = true ↔ _
        by_cases hj : j' = j
        · rw [hj, upd_same]; exact ⟨fun _ => rfl, fun _ => rfl⟩
        · rw [upd_col _ _ hj, hl.pend_iff, hp]
          exact ⟨fun h => absurd h.2 nofun, fun h => absurd (Ph.busy.inj h).symm hj⟩

/-- a wavefront execution together with the DAG execution it induces -/
inductive JReach (s : Stage) {V : Type} (D : Dag (Nat × Nat) V) (σ₀ : Nat × Nat → V) : WSt → DSt (Nat × Nat) V → Prop
  | init : JReach s D σ₀ (initW s) (dinit σ₀)
  | silent {st st' : WSt} {ds : DSt (Nat × Nat) V} {g : Nat → Bool} {op : Op} :
      JReach s D σ₀ st ds → step s g st op = some st' → mapOp st op = none → JReach s D σ₀ st' ds
  | task {st st' : WSt} {ds ds' : DSt (Nat × Nat) V} {g : Nat → Bool} {op : Op} {dop : DOp (Nat × Nat)} :
      JReach s D σ₀ st ds → step s g st op = some st' → mapOp st op = some dop → dstep D ds dop = some ds' →
      JReach s D σ₀ st' ds'

theorem jreach_facts {s : Stage} {V : Type} {D : Dag (Nat × Nat) V} {σ₀ : Nat × Nat → V}
    (hdeps : ∀ t d, d ∈ D.deps t → inCone s.W t d = true)
    {st : WSt} {ds : DSt (Nat × Nat) V} (h : JReach s D σ₀ st ds) :
    Reach s st ∧ DReach D σ₀ ds ∧ Link s st ds := by
  induction h with
  | init =>
    refine ⟨Reach.init, DReach.init, ?_⟩
    constructor <;> intro r j <;> rw [initW_ph]
    · exact ⟨nofun, fun h => absurd h.2 (Nat.not_lt_zero j)⟩
    · exact ⟨nofun, fun h => nomatch h.2⟩
  | silent _ hst hm ih =>
    obtain ⟨h1, h2, h3⟩ := ih
    refine ⟨Reach.step h1 hst, h2, ?_⟩
    rcases sim_step D hdeps (reach_inv h1) (reach_wave h1) h3 hst with ⟨_, hl⟩ | ⟨dop, ds', hm', _, _⟩
    · exact hl
    · rw [hm] at hm'; simp at hm'
  | task _ hst hm hd ih =>
    obtain ⟨h1, h2, h3⟩ := ih
    refine ⟨Reach.step h1 hst, DReach.step h2 hd, ?_⟩
    rcases sim_step D hdeps (reach_inv h1) (reach_wave h1) h3 hst with ⟨hm', _⟩ | ⟨dop', ds'', hm', hd', hl⟩
    · rw [hm] at hm'; simp at hm'
    · rw [hm] at hm'; injection hm' with e; subst e
      rw [hd] at hd'; injection hd' with e; subst e
      exact hl

end DecWf
