/-
  The invariant behind C16/C15 over `Model/Unwind.lean`.  `Ext T c f st f' st'`: running part of the constructor of class
  `c` took members `f`, state `st` to `f'`, `st'` without a crash, the heap grew exactly by the fresh ids of the new
  members, and all that was added is released by class `c`'s destructor, completely (`remain` unchanged) and without a
  nested NULL dereference (`nestedCrash` unchanged).  The induction is over the script: `sub` = nested constructor,
  `next` = rest of this constructor.
-/
import SvtVerif.Model.Unwind

namespace Unwind

def Fresh (st : St) : Prop := ∀ x ∈ st.heap, x < st.nextId

structure Ext (T : Table) (c : Nat) (f : Forest) (st : St) (f' : Forest) (st' : St) : Prop where
  crashed : st'.crashed = st.crashed
  nextId : st.nextId ≤ st'.nextId
  cnt : st.cnt ≤ st'.cnt
  heap : ∃ L, f'.ids = L ++ f.ids ∧ st'.heap = L ++ st.heap ∧ (∀ x ∈ L, st.nextId ≤ x ∧ x < st'.nextId) ∧ L.Nodup
  remain : remain T c f' = remain T c f
  nested : nestedCrash T c f' = nestedCrash T c f

/-- the run returned success: no counted primitive failed on the way -/
structure OkRun (fail : Nat → Bool) (st st' : St) : Prop where
  fired : st'.fired = st.fired
  nofail : ∀ n, st.cnt ≤ n → n < st'.cnt → fail n = false

variable {T : Table} {fail : Nat → Bool} {c : Nat} {f f' f'' : Forest} {st st' st'' : St}

theorem Ext.same (hcr : st'.crashed = st.crashed) (hn : st.nextId ≤ st'.nextId) (hc : st.cnt ≤ st'.cnt)
    (hh : st'.heap = st.heap) : Ext T c f st f st' :=
  ⟨hcr, hn, hc, ⟨[], rfl, hh, nofun, List.nodup_nil⟩, rfl, rfl⟩

theorem Ext.refl : Ext T c f st f st :=
  Ext.same rfl (Nat.le_refl _) (Nat.le_refl _) rfl

theorem Ext.tick {b : Bool} : Ext T c f st f (st.tick b) :=
  Ext.same rfl (Nat.le_refl _) (Nat.le_succ _) rfl

theorem Ext.trans (h1 : Ext T c f st f' st') (h2 : Ext T c f' st' f'' st'') : Ext T c f st f'' st'' := by
  obtain ⟨L1, a1, b1, c1, d1⟩ := h1.heap
  obtain ⟨L2, a2, b2, c2, d2⟩ := h2.heap
  refine ⟨h2.crashed.trans h1.crashed, Nat.le_trans h1.nextId h2.nextId, Nat.le_trans h1.cnt h2.cnt,
    ⟨L2 ++ L1, by rw [a2, a1, List.append_assoc], by rw [b2, b1, List.append_assoc], ?_, ?_⟩,
    h2.remain.trans h1.remain, h2.nested.trans h1.nested⟩
  · intro x hx
    rcases List.mem_append.mp hx with h | h
    · have := c2 x h; have := h1.nextId; omega
    · have := c1 x h; have := h2.nextId; omega
  · refine List.nodup_append.mpr ⟨d2, d1, ?_⟩
    intro x hx y hy hxy
    have := c2 x hx; have := c1 y hy; omega

theorem Ext.alloc {m : Nat} (hr : (T.cls c).releases m = true) :
    Ext T c f st (.node m st.nextId none .nil f) st.push := by
  refine ⟨rfl, Nat.le_succ _, Nat.le_succ _, ⟨[st.nextId], rfl, rfl, ?_, by simp⟩, ?_, ?_⟩
  · intro x hx; rw [List.mem_singleton.mp hx]; exact ⟨Nat.le_refl _, Nat.lt_succ_self _⟩
  · simp [Unwind.remain, hr]
  · simp [Unwind.nestedCrash]

theorem OkRun.refl : OkRun fail st st :=
  ⟨rfl, fun n h1 h2 => by omega⟩

theorem OkRun.trans (h1 : OkRun fail st st') (h2 : OkRun fail st' st'') : OkRun fail st st'' := by
  refine ⟨h2.fired.trans h1.fired, fun n a b => ?_⟩
  by_cases h : n < st'.cnt
  · exact h1.nofail n a h
  · exact h2.nofail n (Nat.le_of_not_lt h) b

theorem OkRun.one (hf : st'.fired = st.fired) (hc : st'.cnt = st.cnt + 1) (h : fail st.cnt = false) :
    OkRun fail st st' :=
  ⟨hf, fun n a b => by rw [show n = st.cnt by omega]; exact h⟩

theorem OkRun.tick (h : fail st.cnt = false) : OkRun fail st (st.tick false) :=
  OkRun.one (Bool.or_false _) rfl h

theorem OkRun.push (h : fail st.cnt = false) : OkRun fail st st.push :=
  OkRun.one rfl rfl h

theorem Fresh.ext (hf : Fresh st) (h : Ext T c f st f' st') : Fresh st' := by
  obtain ⟨L, _, b, cL, _⟩ := h.heap
  intro x hx
  rw [b] at hx
  rcases List.mem_append.mp hx with h1 | h1
  · exact (cL x h1).2
  · have := hf x h1; have := h.nextId; omega

theorem Fresh.push (hf : Fresh st) : Fresh st.push := fun x hx => by
  rcases List.mem_cons.mp hx with rfl | h
  · exact Nat.lt_succ_self _
  · exact Nat.lt_succ_of_lt (hf x h)

def Runs (T : Table) (fail : Nat → Bool) (c : Nat) (f : Forest) (st : St) (o : Out) : Prop :=
  Ext T c f st o.f o.st ∧ (o.ok = true → OkRun fail st o.st) ∧ ((T.cls c).created = [] → o.f = f)

theorem Runs.ret (b : Bool) : Runs T fail c f st ⟨b, f, st⟩ :=
  ⟨Ext.refl, fun _ => OkRun.refl, fun _ => rfl⟩

theorem Runs.failed : Runs T fail c f st ⟨false, f, st.tick true⟩ :=
  ⟨Ext.tick, nofun, fun _ => rfl⟩

theorem Runs.tick {o : Out} (hf : fail st.cnt = false) (h : Runs T fail c f (st.tick false) o) : Runs T fail c f st o :=
  ⟨Ext.tick.trans h.1, fun ok => (OkRun.tick hf).trans (h.2.1 ok), h.2.2⟩

/-- a step that adds a member: only a class that creates something takes it -/
theorem Runs.step {o : Out} (e : Ext T c f st f' st') (k : OkRun fail st st') (hne : (T.cls c).created ≠ [])
    (h : Runs T fail c f' st' o) : Runs T fail c f st o :=
  ⟨e.trans h.1, fun ok => k.trans (h.2.1 ok), fun hc => absurd hc hne⟩

theorem Runs.ite {o : Out} (h : fail st.cnt = false → Runs T fail c f st o) :
    Runs T fail c f st (if fail st.cnt = true then ⟨false, f, st.tick true⟩ else o) := by
  by_cases hf : fail st.cnt = true
  · rw [if_pos hf]; exact Runs.failed
  · rw [if_neg hf]; exact h (Bool.eq_false_iff.mpr hf)

theorem needsMissing_of_nullTol {cd : ClassDef} (h : cd.nullTol = true) (f : Forest) :
    needsMissing cd f = false := by
  refine List.any_eq_false.mpr fun r hr => ?_
  rw [List.isEmpty_iff.mp (List.all_eq_true.mp h r hr)]
  exact Bool.false_ne_true

theorem slot_released {cd : ClassDef} (hcov : cd.covered = true) {e : Ev} {m : Nat}
    (he : e ∈ cd.pre ∨ e ∈ cd.post) (hs : e.slot? = some m) : cd.releases m = true ∧ cd.created ≠ [] :=
  have hm : m ∈ cd.created := List.mem_filterMap.mpr ⟨e, List.mem_append.mpr he, hs⟩
  ⟨List.all_eq_true.mp hcov m hm, List.ne_nil_of_mem hm⟩

theorem good_parts {cd : ClassDef} (h : cd.good = true) :
    (preOK cd.pre = true ∧ (cd.created = [] ∨ cd.hasDctor = true)) ∧ cd.covered = true ∧ cd.nullTol = true := by
  unfold ClassDef.good ClassDef.dctorFirst at h
  simp only [Bool.and_eq_true, Bool.or_eq_true, List.isEmpty_iff] at h
  exact ⟨⟨h.1.1.1, h.1.1.2⟩, h.1.2, h.2⟩

theorem news_mem {cd : ClassDef} {i m d : Nat} (h : cd.post[i]? = some (.new m d)) : d ∈ cd.news := by
  unfold ClassDef.news
  exact List.mem_filterMap.mpr ⟨.new m d, List.mem_of_getElem? h, rfl⟩

theorem runPre_spec (T : Table) (fail : Nat → Bool) (c : Nat) (hcov : (T.cls c).covered = true) :
    ∀ (es : List Ev) (f : Forest) (st : St), (∀ e ∈ es, e ∈ (T.cls c).pre) →
      Runs T fail c f st (runPre fail es f st) ∧
      (preOK es = true → (runPre fail es f st).ok = false →
          (runPre fail es f st).f = f ∧ (runPre fail es f st).st.heap = st.heap) := by
  intro es
  induction es with
  | nil => intro f st _; exact ⟨Runs.ret true, by simp [runPre]⟩
  | cons e es ih =>
    intro f st hsub
    have hsub' : ∀ e' ∈ es, e' ∈ (T.cls c).pre := fun e' he' => hsub e' (List.mem_cons_of_mem _ he')
    by_cases hf : fail st.cnt = true
    · cases e <;> simp only [runPre, hf, if_true]
      · exact ⟨Runs.failed, by simp [St.tick]⟩
      · exact ⟨Runs.failed, by simp [preOK]⟩
      · exact ⟨Runs.failed, by simp [St.tick]⟩
      · exact ⟨Runs.ret false, by simp⟩
    · have hf' : fail st.cnt = false := Bool.eq_false_iff.mpr hf
      cases e <;> simp only [runPre, hf, Bool.false_eq_true, if_false]
      · next m k =>
        obtain ⟨hr, hne⟩ := slot_released hcov (.inl (hsub _ List.mem_cons_self)) (m := m) rfl
        refine ⟨Runs.step (Ext.alloc hr) (OkRun.push hf') hne (ih _ st.push hsub').1, fun hp hk => ?_⟩
        -- `preOK (alloc :: es)` means `es = []`
        rw [List.isEmpty_iff.mp hp] at hk
        exact nomatch hk
      · exact ⟨Runs.tick hf' (ih f _ hsub').1, by simp [preOK]⟩
      · exact ⟨Runs.tick hf' (ih f _ hsub').1, (ih f _ hsub').2⟩
      · exact ⟨Runs.ret false, by simp⟩

/-- `S` is a good set of `T` (Prop form of `goodSet T S = true`) -/
structure GoodSet (T : Table) (S : List Nat) : Prop where
  good : ∀ c ∈ S, (T.cls c).good = true
  closed : ∀ c ∈ S, ∀ d ∈ (T.cls c).news, d ∈ S

theorem GoodSet.of_goodSet (T : Table) (S : List Nat) (h : goodSet T S = true) : GoodSet T S :=
  have h := fun c hc => Bool.and_eq_true_iff.mp (List.all_eq_true.mp h c hc)
  ⟨fun c hc => (h c hc).1, fun c hc d hd => List.contains_iff_mem.mp (List.all_eq_true.mp (h c hc).2 d hd)⟩

/-! A pruning step of `refine` that changes the set shortens it, so `T.length` steps reach a set closed under
"constructs": `goodClasses T` and `reportingClasses T` are good sets for every table. -/

theorem refine_subset : ∀ (n : Nat) (S : List Nat), ∀ c ∈ refine T n S, c ∈ S
  | 0, _, _, h => h
  | n + 1, _, c, h => (List.mem_filter.mp (refine_subset n _ c h)).1

theorem refine_fixed {S : List Nat} (h : ∀ c ∈ S, (T.cls c).news.all (fun d => S.contains d) = true) :
    ∀ n, refine T n S = S
  | 0 => rfl
  | n + 1 => by rw [refine, List.filter_eq_self.mpr h, refine_fixed h n]

theorem refine_closed : ∀ (n : Nat) (S : List Nat), S.length ≤ n →
    ∀ c ∈ refine T n S, (T.cls c).news.all (fun d => (refine T n S).contains d) = true
  | 0, S, hn, c, hc => by
    rw [List.eq_nil_of_length_eq_zero (Nat.le_zero.mp hn)] at hc; cases hc
  | n + 1, S, hn, c, hc => by
    by_cases h : ∀ c ∈ S, (T.cls c).news.all (fun d => S.contains d) = true
    · rw [refine_fixed h] at hc ⊢; exact h c hc
    · have hlt : (S.filter fun c => (T.cls c).news.all (fun d => S.contains d)).length < S.length :=
        Nat.lt_of_le_of_ne (List.length_filter_le ..) (mt List.length_filter_eq_length_iff.mp h)
      exact refine_closed n _ (by omega) c hc

theorem goodSet_refine (T : Table) (p : Nat → Bool) (hp : ∀ c, p c = true → (T.cls c).good = true) :
    goodSet T (refine T T.length ((List.range T.length).filter p)) = true := by
  have hlen : ((List.range T.length).filter p).length ≤ T.length := by
    simpa using List.length_filter_le p (List.range T.length)
  refine List.all_eq_true.mpr fun c hc => Bool.and_eq_true_iff.mpr ⟨hp c ?_, refine_closed _ _ hlen c hc⟩
  exact (List.mem_filter.mp (refine_subset _ _ c hc)).2

theorem goodSet_goodClasses (T : Table) : goodSet T (goodClasses T) = true :=
  goodSet_refine T _ fun _ h => h

theorem reportSet_reportingClasses (T : Table) : reportSet T (reportingClasses T) = true := by
  refine Bool.and_eq_true_iff.mpr ⟨goodSet_refine T _ fun _ h => (Bool.and_eq_true_iff.mp h).1, ?_⟩
  refine List.all_eq_true.mpr fun c hc => ?_
  exact (Bool.and_eq_true_iff.mp (List.mem_filter.mp (refine_subset _ _ c hc)).2).2

/-- `EB_NEW` of a member object of class `d` (allocation `id`, members `ck`) succeeded, from state `st1` to `st3` -/
structure ChildOk (T : Table) (fail : Nat → Bool) (d id : Nat) (st1 : St) (ck : Forest) (st3 : St) : Prop where
  heap : st3.heap = ck.ids ++ st1.heap
  bounds : ∀ x ∈ ck.ids, st1.nextId ≤ x ∧ x < st3.nextId
  nodup : ck.ids.Nodup
  crashed : st3.crashed = st1.crashed
  nextId : st1.nextId ≤ st3.nextId
  cnt : st1.cnt ≤ st3.cnt
  kept : (if (T.cls d).hasDctor then remain T d ck else ck.ids) = []
  nocrash : crashes T d ck = false
  okrun : OkRun fail st1 st3

/-- it failed and the object was deleted again: the heap is back to `H` -/
structure ChildFail (st1 st3 : St) (H : List Nat) : Prop where
  heap : st3.heap = H
  crashed : st3.crashed = st1.crashed
  nextId : st1.nextId ≤ st3.nextId
  cnt : st1.cnt ≤ st3.cnt

theorem deleteObj_clean {d id : Nat} {dset : Bool} {ck : Forest} {H : List Nat}
    (hheap : st.heap = ck.ids ++ id :: H) (hH : ∀ x ∈ H, x < id) (hck : ∀ x ∈ ck.ids, id ≤ x)
    (hkept : (if dset then remain T d ck else ck.ids) = []) (hcr : dset = true → crashes T d ck = false) :
    (deleteObj T d id dset ck st).heap = H ∧ (deleteObj T d id dset ck st).crashed = st.crashed ∧
    (deleteObj T d id dset ck st).nextId = st.nextId ∧ (deleteObj T d id dset ck st).cnt = st.cnt := by
  unfold deleteObj
  simp only [hkept, hheap]
  refine ⟨?_, ?_, by simp, by simp⟩
  · rw [List.filter_append, List.filter_eq_nil_iff.mpr (by simp +contextual), List.nil_append, List.filter_cons]
    simp only [List.contains_cons, BEq.rfl, Bool.true_or, Bool.not_true, Bool.false_eq_true, if_false]
    refine List.filter_eq_self.mpr fun a ha => ?_
    have h1 := hH a ha
    have h2 : a ∉ ck.ids := fun h => by have := hck a h; omega
    simp [h2, Nat.ne_of_lt h1]
  · cases dset with
    | false => simp
    | true => simp [hcr rfl]

theorem newBody_spec {S : List Nat} (hS : GoodSet T S) {d : Nat} (hd : d ∈ S)
    {run : Forest → St → Out} (hrun : ∀ pk s, Fresh s → Runs T fail d pk s (run pk s))
    (id : Nat) (st1 : St) (H : List Nat) (hheap : st1.heap = id :: H) (hH : ∀ x ∈ H, x < id)
    (hid : id < st1.nextId) :
    match newBody T fail d id run st1 with
    | (some ck, st3) => ChildOk T fail d id st1 ck st3
    | (none, st3) => ChildFail st1 st3 H := by
  obtain ⟨⟨hpre, hdc⟩, hcov, hnt⟩ := good_parts (hS.good d hd)
  obtain ⟨⟨pe, pok, pnc⟩, pfail⟩ := runPre_spec T fail d hcov (T.cls d).pre .nil st1 fun _ he => he
  have hfresh1 : Fresh st1 := by
    intro x hx; rw [hheap] at hx
    rcases List.mem_cons.mp hx with h | h
    · omega
    · have := hH x h; omega
  unfold newBody
  simp only
  generalize runPre fail (T.cls d).pre .nil st1 = p at pe pok pfail pnc ⊢
  by_cases hp : p.ok = true
  · simp only [hp, if_true]
    obtain ⟨re, rok, rnc⟩ := hrun p.f p.st (hfresh1.ext pe)
    generalize run p.f p.st = r at re rok rnc ⊢
    have ext := pe.trans re
    obtain ⟨L, hL1, hL2, hL3, hL4⟩ := ext.heap
    rw [Forest.ids, List.append_nil] at hL1
    have hnocrash : crashes T d r.f = false := by
      unfold crashes; rw [needsMissing_of_nullTol hnt, ext.nested]; rfl
    -- members exist only if the class has a destructor
    have hkept : (if (T.cls d).hasDctor then remain T d r.f else r.f.ids) = [] := by
      cases hh : (T.cls d).hasDctor with
      | true => exact ext.remain
      | false =>
        rcases hdc with hc | hc
        · rw [if_neg Bool.false_ne_true, rnc hc, pnc hc]; rfl
        · rw [hh] at hc; cases hc
    by_cases hr : r.ok = true
    · simp only [hr, if_true]
      exact ⟨by rw [hL2, hL1], hL1 ▸ hL3, hL1 ▸ hL4, ext.crashed, ext.nextId, ext.cnt, hkept, hnocrash,
        (pok hp).trans (rok hr)⟩
    · simp only [hr, Bool.false_eq_true, if_false]
      obtain ⟨a, b, c, e⟩ := deleteObj_clean (dset := (T.cls d).hasDctor) (by rw [hL2, hL1, hheap]) hH
        (fun x hx => by have := (hL3 x (hL1 ▸ hx)).1; omega) hkept (fun _ => hnocrash)
      exact ⟨a, b.trans ext.crashed, c ▸ ext.nextId, e ▸ ext.cnt⟩
  · simp only [hp, Bool.false_eq_true, if_false]
    obtain ⟨hf, hh⟩ := pfail hpre (Bool.eq_false_iff.mpr hp)
    obtain ⟨a, b, c, e⟩ := deleteObj_clean (d := d) (dset := false) (ck := p.f) (st := p.st) (by rw [hh, hf, hheap]; rfl) hH
      (by rw [hf]; nofun) (by rw [hf]; rfl) nofun
    exact ⟨a, b.trans pe.crashed, c ▸ pe.nextId, e ▸ pe.cnt⟩

theorem Ext.obj {m d : Nat} {ck : Forest} {st3 : St}
    (hr : (T.cls c).releases m = true) (hc : ChildOk T fail d st.nextId st.push ck st3) :
    Ext T c f st (.node m st.nextId (some (d, (T.cls d).hasDctor)) ck f) st3 := by
  have hn : st.nextId + 1 ≤ st3.nextId := hc.nextId
  have hb : ∀ x ∈ ck.ids, st.nextId + 1 ≤ x ∧ x < st3.nextId := hc.bounds
  refine ⟨hc.crashed, by omega, Nat.le_trans (Nat.le_succ _) hc.cnt,
    ⟨ck.ids ++ [st.nextId], by simp [Forest.ids], by rw [hc.heap]; simp [St.push], ?_, ?_⟩, ?_, ?_⟩
  · intro x hx
    rcases List.mem_append.mp hx with h | h
    · have := hb x h; omega
    · rw [List.mem_singleton.mp h]; omega
  · refine List.nodup_append.mpr ⟨hc.nodup, by simp, ?_⟩
    intro x hx y hy hxy
    rw [List.mem_singleton.mp hy] at hxy
    have := hb x hx; omega
  · have hk := hc.kept
    simp only [Unwind.remain, hr, if_true]
    cases hh : (T.cls d).hasDctor <;> rw [hh] at hk <;> simp at hk <;> simp [hk]
  · simp only [Unwind.nestedCrash, hr, Bool.true_and]
    cases hh : (T.cls d).hasDctor with
    | true =>
      have := hc.nocrash
      unfold crashes at this
      simp [this]
    | false => simp

theorem runScript_spec {S : List Nat} (hS : GoodSet T S) :
    ∀ (script : Script) (c : Nat), c ∈ S → ∀ (f : Forest) (st : St), Fresh st →
      Runs T fail c f st (runScript T fail c script f st) := by
  intro script
  induction script with
  | stop => intro c _ f st _; exact Runs.ret true
  | ev i sub next ihsub ihnext =>
    intro c hc f st hfresh
    obtain ⟨_, hcov, _⟩ := good_parts (hS.good c hc)
    have hslot : ∀ {e m}, (T.cls c).post[i]? = some e → e.slot? = some m →
        (T.cls c).releases m = true ∧ (T.cls c).created ≠ [] :=
      fun he hm => slot_released hcov (.inr (List.mem_of_getElem? he)) hm
    unfold runScript
    split
    · exact Runs.ret true
    · next m k hev =>
      obtain ⟨hr, hne⟩ := hslot hev rfl
      exact Runs.ite fun hf => Runs.step (Ext.alloc hr) (OkRun.push hf) hne (ihnext c hc _ _ hfresh.push)
    · exact Runs.ite fun hf => Runs.tick hf (ihnext c hc f _ hfresh)
    · exact Runs.ret false
    · next m d hev =>
      obtain ⟨hr, hne⟩ := hslot hev rfl
      have hd : d ∈ S := hS.closed c hc d (news_mem hev)
      refine Runs.ite fun hf => ?_
      have hnb := newBody_spec hS hd (ihsub d hd) st.nextId st.push st.heap rfl hfresh (Nat.lt_succ_self _)
      split
      · -- nested constructor succeeded
        next ck st3 hres =>
        rw [hres] at hnb
        have hnb : ChildOk T fail d st.nextId st.push ck st3 := hnb
        have e1 := Ext.obj (f := f) hr hnb
        exact Runs.step e1 ((OkRun.push hf).trans hnb.okrun) hne (ihnext c hc _ st3 (hfresh.ext e1))
      · -- nested constructor failed: the object was deleted, the heap is as before
        next st3 hres =>
        rw [hres] at hnb
        have hnb : ChildFail st.push st3 st.heap := hnb
        exact ⟨Ext.same hnb.crashed (Nat.le_trans (Nat.le_succ _) hnb.nextId)
          (Nat.le_trans (Nat.le_succ _) hnb.cnt) hnb.heap, nofun, fun _ => rfl⟩

structure ConstructSpec (T : Table) (fail : Nat → Bool) (r : Result) : Prop where
  nocrash : r.st.crashed = false
  err_clean : r.ok = false → r.st.heap = [] ∧ r.root = .nil
  ok_owned : r.ok = true → r.st.heap = r.root.ids ∧ r.root.ids.Nodup
  ok_teardown : r.ok = true → (destroy T r).heap = [] ∧ (destroy T r).crashed = false
  ok_nofail : r.ok = true → r.st.fired = false ∧ ∀ n, n < r.st.cnt → fail n = false

theorem construct_spec (T : Table) (fail : Nat → Bool) (S : List Nat) (hS : GoodSet T S) (c : Nat) (hc : c ∈ S)
    (script : Script) : ConstructSpec T fail (construct T fail c script) := by
  unfold construct
  by_cases hf : fail St.init.cnt = true
  · simp only [hf, if_true]
    exact ⟨rfl, fun _ => ⟨rfl, rfl⟩, nofun, nofun, nofun⟩
  · simp only [hf, Bool.false_eq_true, if_false]
    have hnb := newBody_spec hS hc (runScript_spec (fail := fail) hS script c hc) St.init.nextId
      St.init.push [] rfl nofun (Nat.lt_succ_self _)
    split
    · next ck st3 hres =>
      rw [hres] at hnb
      have hnb : ChildOk T fail c 0 St.init.push ck st3 := hnb
      have hheap : st3.heap = ck.ids ++ [0] := hnb.heap
      have hids : (Forest.node 0 0 (some (c, (T.cls c).hasDctor)) ck .nil).ids = ck.ids ++ [0] := rfl
      have o2 : OkRun fail St.init st3 :=
        (OkRun.push (st := St.init) (Bool.eq_false_iff.mpr hf)).trans hnb.okrun
      refine ⟨hnb.crashed, nofun, fun _ => ⟨hheap.trans hids.symm, hids ▸ ?_⟩, fun _ => ?_,
        fun _ => ⟨o2.fired, fun n hn => o2.nofail n (Nat.zero_le _) hn⟩⟩
      · refine List.nodup_append.mpr ⟨hnb.nodup, by simp, ?_⟩
        intro x hx y hy hxy
        rw [List.mem_singleton.mp hy] at hxy
        have : 1 ≤ x := (hnb.bounds x hx).1
        omega
      · obtain ⟨a, b, _, _⟩ := deleteObj_clean (dset := (T.cls c).hasDctor) hheap nofun
          (fun _ _ => Nat.zero_le _) hnb.kept (fun _ => hnb.nocrash)
        exact ⟨a, b.trans hnb.crashed⟩
    · next st3 hres =>
      rw [hres] at hnb
      have hnb : ChildFail St.init.push st3 [] := hnb
      exact ⟨hnb.crashed, fun _ => ⟨hnb.heap, rfl⟩, nofun, nofun, nofun⟩

theorem findWitness_sound (T : Table) (depth c k : Nat) (h : findWitness T depth c = some k) :
    badOutcome T (if k = 0 then noFail else failAt (k - 1)) c (straight T depth c) = true := by
  unfold findWitness at h
  dsimp only at h
  have := List.find?_some h
  simpa using this

/-- `findWitness` with the faults at the constructor's own first events tried first -/
def findWitnessEarly (T : Table) (depth c : Nat) : Option Nat :=
  ((List.range ((T.cls c).pre.length + (T.cls c).post.length)).find? fun k =>
      badOutcome T (failAt k) c (straight T depth c)).map (· + 1) <|> findWitness T depth c

theorem findWitnessEarly_sound (T : Table) (depth c k : Nat) (h : findWitnessEarly T depth c = some k) :
    badOutcome T (if k = 0 then noFail else failAt (k - 1)) c (straight T depth c) = true := by
  unfold findWitnessEarly at h
  generalize hf : List.find? _ _ = r at h
  cases r with
  | none => exact findWitness_sound T depth c k h
  | some j =>
    cases h
    simpa using List.find?_some hf
end Unwind
