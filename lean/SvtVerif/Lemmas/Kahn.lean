/-
  C04 / C27 (part A) — the Kahn-network argument, machine-checked over the abstract stage network of
  `Model/Kahn.lean`: for a prefix-monotone network (hypothesis H-kahn / H-footprint, explicit and NOT
  discharged here) the channel histories of every completed run are the same, whatever the thread
  interleaving, the application's pacing of `send_picture` / `get_packet` calls, and the queue capacities.
-/
import SvtVerif.Model.Kahn

namespace Kahn

variable {M : Type} {N : Net M} {s : State M}

theorem hist_write (N : Net M) (s : State M) (c c' : Nat) : (fire N s (.write c)).hist c' =
    if c' = c then (N.F c (seen s)).take ((s.hist c).length + 1) else s.hist c' := rfl

theorem rd_read (N : Net M) (s : State M) (c c' : Nat) :
    (fire N s (.read c)).rd c' = if c' = c then s.rd c + 1 else s.rd c' := rfl

theorem write_appends {c : Nat} (h : DataEnabled N s c) :
    ∃ x, (fire N s (.write c)).hist c = s.hist c ++ [x] := by
  obtain ⟨⟨t, ht⟩, hlen⟩ := h
  rw [hist_write, if_pos rfl, ← ht]
  cases t with
  | nil => rw [← ht, List.append_nil] at hlen; exact absurd hlen (Nat.lt_irrefl _)
  | cons x t => exact ⟨x, List.take_length_add_append 1⟩

theorem seen_write {c : Nat} (hrd : s.rd c ≤ (s.hist c).length) (hp : s.hist c <+: N.F c (seen s)) :
    seen (fire N s (.write c)) = seen s := by
  funext c'
  show ((fire N s (.write c)).hist c').take (s.rd c') = (s.hist c').take (s.rd c')
  by_cases h : c' = c
  · subst h
    obtain ⟨t, ht⟩ := hp
    rw [hist_write, if_pos rfl, List.take_take, Nat.min_eq_left (Nat.le_succ_of_le hrd), ← ht,
      List.take_append_of_le_length hrd]
  · rw [hist_write, if_neg h]

theorem seen_read_le (N : Net M) (s : State M) (c c' : Nat) :
    seen s c' <+: seen (fire N s (.read c)) c' := by
  show (s.hist c').take (s.rd c') <+: (s.hist c').take ((fire N s (.read c)).rd c')
  by_cases h : c' = c
  · subst h
    rw [rd_read, if_pos rfl]
    exact List.take_prefix_take_left (Nat.le_succ _)
  · rw [rd_read, if_neg h]
    exact List.prefix_refl _

theorem inv_of_reachable (hm : N.Monotone) (hr : Reachable N s) :
    ∀ c, s.rd c ≤ (s.hist c).length ∧ s.hist c <+: N.F c (seen s) := by
  induction hr with
  | init => exact fun _ => ⟨Nat.le_refl _, List.nil_prefix⟩
  | @step s op _ he ih =>
    intro c
    cases op with
    | write c₀ =>
      -- `hist c₀` grows by one message of `F c₀ (seen s)`, and `seen` stays as it is
      rw [seen_write (ih c₀).1 he.1.1]
      by_cases h : c = c₀
      · subst h
        rw [hist_write, if_pos rfl]
        exact ⟨Nat.le_trans (ih c).1 (List.prefix_take_iff.2 ⟨he.1.1, Nat.le_succ _⟩).length_le,
          List.take_prefix _ _⟩
      · rw [hist_write, if_neg h]
        exact ih c
    | read c₀ =>
      -- `seen` grows, so by monotonicity what the producers may write only grows
      refine ⟨?_, (ih c).2.trans (hm c _ _ (seen_read_le N s c₀))⟩
      show (fire N s (.read c₀)).rd c ≤ (s.hist c).length
      by_cases h : c = c₀
      · subst h
        rw [rd_read, if_pos rfl]
        exact he
      · rw [rd_read, if_neg h]
        exact (ih c).1

/-- Safety.  In every reachable state (any interleaving, any pacing, any capacities): a consumer
    never reads past what was written; everything written on `c` is a prefix of what `c`'s producer is
    entitled to write given what the stages have consumed so far; hence also a prefix of what it is entitled
    to write given everything written so far.  No stage ever has to retract a message. -/
theorem safety_inv (hm : N.Monotone) (hr : Reachable N s) :
    (∀ c, s.rd c ≤ (s.hist c).length) ∧ (∀ c, s.hist c <+: N.F c (seen s)) ∧
      (∀ c, s.hist c <+: N.F c s.hist) := by
  have h := inv_of_reachable hm hr
  exact ⟨fun c => (h c).1, fun c => (h c).2,
    fun c => (h c).2.trans (hm c _ _ fun _ => List.take_prefix _ _)⟩

/-- If `H` solves the full-history equations `H c = F c H` (e.g. the histories of a completed
    run), then under every schedule every channel history is always a prefix of `H c`. -/
theorem below_fixpoint (hm : N.Monotone) {H : Hist M} (hH : ∀ c, H c = N.F c H)
    (hr : Reachable N s) : ∀ c, s.hist c <+: H c := by
  induction hr with
  | init => exact fun _ => List.nil_prefix
  | @step s' op _ he ih =>
    cases op with
    | read c => exact ih
    | write c =>
      intro c'
      by_cases h : c' = c
      · subst h
        rw [hist_write, if_pos rfl, hH c']
        exact (List.take_prefix _ _).trans
          (hm c' _ _ fun c'' => (List.take_prefix _ _).trans (ih c''))
      · rw [hist_write, if_neg h]
        exact ih c'

theorem Net.Monotone.of_F_eq {N₁ N₂ : Net M} (hm : N₁.Monotone) (hF : N₁.F = N₂.F) : N₂.Monotone :=
  fun c h h' hh => hF ▸ hm c h h' hh

theorem prefix_of_result {N₁ N₂ : Net M} (hm : N₁.Monotone) (hF : N₁.F = N₂.F) {s r : State M}
    (hs : Reachable N₁ s) (hc : Complete N₂ r) : ∀ c, s.hist c <+: r.hist c :=
  below_fixpoint hm (H := r.hist) (fun c => hF ▸ hc c) hs

/-- Determinism of the encoder network.  Two completed runs of a prefix-monotone network — reached
    by ANY two schedules (thread interleavings), ANY pacing of the application's send / poll calls, and even
    two DIFFERENT capacity assignments (pool sizes) — have identical message sequences on every channel.  The
    output sequences are a function of the stage functions and the input sequence alone. -/
theorem network_output_deterministic {N₁ N₂ : Net M} (hm : N₁.Monotone) (hF : N₁.F = N₂.F)
    {s₁ s₂ : State M} (h₁ : Reachable N₁ s₁) (h₂ : Reachable N₂ s₂)
    (c₁ : Complete N₁ s₁) (c₂ : Complete N₂ s₂) : s₁.hist = s₂.hist :=
  funext fun c => (prefix_of_result hm hF h₁ c₂ c).eq_of_length_le
    (prefix_of_result (hm.of_F_eq hF) hF.symm h₂ c₁ c).length_le

theorem quiescent_complete (hm : N.Monotone) (hr : Reachable N s)
    (hread : ∀ c, s.rd c = (s.hist c).length) (hq : ∀ c, ¬ DataEnabled N s c) : Complete N s := by
  have hs : seen s = s.hist := by
    funext c
    show (s.hist c).take (s.rd c) = s.hist c
    rw [hread c, List.take_length]
  intro c
  have hp := (inv_of_reachable hm hr c).2
  have e := hp.eq_of_length_le (Nat.le_of_not_lt fun hl => hq c ⟨hp, hl⟩)
  rwa [hs] at e

/-- Any fair interleaving ends `Complete`.  If every capacity is positive, a reachable state in
    which NO step at all is enabled (a maximal = fair finite run has ended) is `Complete`: all reads being
    disabled means every queue is drained, so no write is blocked by back-pressure, so every write being
    disabled means no producer has data left.  (In this model a consumer takes messages as soon as they are
    available; deadlock-freedom under real finite stage buffers is the subject of `Chain`.) -/
theorem terminal_complete (hm : N.Monotone) (hcap : ∀ c, 0 < N.cap c) (hr : Reachable N s)
    (hstuck : ∀ op, ¬ Enabled N s op) : Complete N s := by
  have hread : ∀ c, s.rd c = (s.hist c).length := fun c =>
    Nat.le_antisymm (inv_of_reachable hm hr c).1 (Nat.le_of_not_lt (hstuck (.read c)))
  refine quiescent_complete hm hr hread (fun c hd => hstuck (.write c) ⟨hd, ?_⟩)
  rw [hread c, Nat.sub_self]
  exact hcap c

/-- For a prefix-monotone network with positive capacities, any two maximal runs
    (runs that ended because nothing was enabled any more), under any two schedules and any two capacity
    assignments, end with identical histories on every channel. -/
theorem maximal_runs_agree {N₁ N₂ : Net M} (hm : N₁.Monotone) (hF : N₁.F = N₂.F)
    (hcap₁ : ∀ c, 0 < N₁.cap c) (hcap₂ : ∀ c, 0 < N₂.cap c) {s₁ s₂ : State M}
    (h₁ : Reachable N₁ s₁) (h₂ : Reachable N₂ s₂)
    (t₁ : ∀ op, ¬ Enabled N₁ s₁ op) (t₂ : ∀ op, ¬ Enabled N₂ s₂ op) : s₁.hist = s₂.hist :=
  network_output_deterministic hm hF h₁ h₂ (terminal_complete hm hcap₁ h₁ t₁)
    (terminal_complete (hm.of_F_eq hF) hcap₂ h₂ t₂)

theorem F_eq_of_inputs {N₁ N₂ : Net M} (ins : Nat → Prop) (inp : Nat → List M)
    (hin₁ : ∀ c, ins c → ∀ h, N₁.F c h = inp c) (hin₂ : ∀ c, ins c → ∀ h, N₂.F c h = inp c)
    (hstage : ∀ c, ¬ ins c → N₁.F c = N₂.F c) : N₁.F = N₂.F := by
  funext c
  by_cases hc : ins c
  · exact funext fun h => (hin₁ c hc h).trans (hin₂ c hc h).symm
  · exact hstage c hc

/-- Output does not depend on how the application paces its calls.  `ins` = the input channels
    (written by `svt_av1_enc_send_picture`; their `F` is the constant input sequence `inp c`), `outs` = the
    application-facing output channels (read by `svt_av1_enc_get_packet` / `get_recon`).  Two runs of
    networks with the same stage functions and the same input sequences that both completed deliver the same
    message sequence on every output channel — regardless of how `write` steps on `ins` (submission pacing),
    `read` steps on `outs` (polling pattern) and all internal steps (thread scheduling) were interleaved, and
    regardless of the pool sizes `cap`. -/
theorem output_indep_of_polling {N₁ N₂ : Net M} (ins outs : Nat → Prop) (inp : Nat → List M)
    (hm : N₁.Monotone)
    (hin₁ : ∀ c, ins c → ∀ h, N₁.F c h = inp c) (hin₂ : ∀ c, ins c → ∀ h, N₂.F c h = inp c)
    (hstage : ∀ c, ¬ ins c → N₁.F c = N₂.F c)
    {s₁ s₂ : State M} (h₁ : Reachable N₁ s₁) (h₂ : Reachable N₂ s₂)
    (c₁ : Complete N₁ s₁) (c₂ : Complete N₂ s₂) :
    ∀ c, outs c → s₁.hist c = s₂.hist c :=
  fun c _ => congrFun
    (network_output_deterministic hm (F_eq_of_inputs ins inp hin₁ hin₂ hstage) h₁ h₂ c₁ c₂) c

theorem hist_nil_of_F_nil {c : Nat} (hF : ∀ h, N.F c h = []) (hr : Reachable N s) : s.hist c = [] := by
  induction hr with
  | init => rfl
  | @step s' op _ he ih =>
    cases op with
    | read c₀ => exact ih
    | write c₀ =>
      by_cases h : c = c₀
      · subst h
        rw [hist_write, if_pos rfl, hF, List.take_nil]
      · rw [hist_write, if_neg h]
        exact ih

section Exec
variable [DecidableEq M]

theorem run_cons (N : Net M) (s : State M) (op : Op) (ops : List Op) :
    run N s (op :: ops) = (step N s op).bind (run N · ops) := by
  show (match step N s op with | some s' => run N s' ops | none => none) = _
  cases step N s op <;> rfl

theorem run_reachable {s s' : State M} {ops : List Op} (hr : Reachable N s)
    (h : run N s ops = some s') : Reachable N s' := by
  induction ops generalizing s with
  | nil => exact Option.some.inj h ▸ hr
  | cons op ops ih =>
    rw [run_cons] at h
    obtain ⟨s₁, hst, h⟩ := Option.bind_eq_some_iff.1 h
    obtain ⟨he, rfl⟩ := Option.ite_some_none_eq_some.1 hst
    exact ih (hr.step op he) h

theorem run_append (N : Net M) (s : State M) (a b : List Op) :
    run N s (a ++ b) = (run N s a).bind (fun s' => run N s' b) := by
  induction a generalizing s with
  | nil => rfl
  | cons op a ih =>
    rw [List.cons_append, run_cons, run_cons]
    cases step N s op with
    | none => rfl
    | some s' => exact ih s'

theorem reachable_iff_run : Reachable N s ↔ ∃ ops, run N init ops = some s := by
  constructor
  · intro hr
    induction hr with
    | init => exact ⟨[], rfl⟩
    | @step s' op _ he ih =>
      obtain ⟨ops, h⟩ := ih
      refine ⟨ops ++ [op], ?_⟩
      rw [run_append, h, Option.bind_some, run_cons, step, if_pos he]
      rfl
  · rintro ⟨ops, h⟩
    exact run_reachable Reachable.init h

/-- `network_output_deterministic` over schedules (thread interleaving + application pacing). -/
theorem run_output_deterministic {N₁ N₂ : Net M} (hm : N₁.Monotone) (hF : N₁.F = N₂.F)
    {ops₁ ops₂ : List Op} {s₁ s₂ : State M}
    (h₁ : run N₁ init ops₁ = some s₁) (h₂ : run N₂ init ops₂ = some s₂)
    (c₁ : Complete N₁ s₁) (c₂ : Complete N₂ s₂) : s₁.hist = s₂.hist :=
  network_output_deterministic hm hF (run_reachable Reachable.init h₁)
    (run_reachable Reachable.init h₂) c₁ c₂

/-- Reads a `decide`d `summary` back: a schedule reported complete on the first `n` channels, of a net whose
    other channels never carry anything, reaches a `Complete` state with the reported histories. -/
theorem complete_of_run_summary {ops : List Op} {n : Nat} {q : Bool} {hs : List (List M)}
    (hF : ∀ k h, N.F (k + n) h = [])
    (h : (run N init ops).map (summary N n) = some (true, q, hs)) :
    ∃ s, Reachable N s ∧ Complete N s ∧ ∀ c, c < n → hs[c]? = some (s.hist c) := by
  obtain ⟨s, hrun, hsum⟩ := Option.map_eq_some_iff.1 h
  have hr := run_reachable Reachable.init hrun
  have hb : CompleteBelow N n s := of_decide_eq_true (congrArg Prod.fst hsum)
  refine ⟨s, hr, fun c => (Nat.lt_or_ge c n).elim (hb c) fun hc => ?_, fun c hc => ?_⟩
  · obtain ⟨k, rfl⟩ := Nat.exists_eq_add_of_le' hc
    exact (hist_nil_of_F_nil (hF k) hr).trans (hF k _).symm
  · have hh : (List.range n).map s.hist = hs := congrArg (·.2.2) hsum
    rw [← hh, List.getElem?_map, List.getElem?_range hc]
    rfl

end Exec

theorem scan_prefix {l l' : List Nat} (a : Nat) (h : l <+: l') : scan a l <+: scan a l' := by
  obtain ⟨t, rfl⟩ := h
  induction l generalizing a with
  | nil => exact List.nil_prefix
  | cons x xs ih =>
    simp only [List.cons_append, scan]
    exact List.cons_prefix_cons.2 ⟨rfl, ih _⟩

/-- The concrete pipeline satisfies hypothesis H-kahn. -/
theorem pipe_monotone (inp : List Nat) (cap : Nat) : (pipe inp cap).Monotone := by
  intro c h h' hh
  match c with
  | 0 => exact List.prefix_refl _
  | 1 => exact (hh 0).map _
  | 2 => exact scan_prefix _ (hh 1)
  | n + 3 => exact List.prefix_refl _

def w (c : Nat) : Op := .write c
def r (c : Nat) : Op := .read c

/-- Schedule A: capacity 1, strict lock-step. -/
def schedA : List Op :=
  [w 0, r 0, w 1, r 1, w 2, r 2, w 0, r 0, w 1, r 1, w 2, r 2, w 0, r 0, w 1, r 1, w 2, r 2]
/-- Schedule B: capacity 3, the application submits everything first, each stage runs to completion. -/
def schedB : List Op :=
  [w 0, w 0, w 0, r 0, r 0, r 0, w 1, w 1, w 1, r 1, r 1, r 1, w 2, w 2, w 2, r 2, r 2, r 2]
/-- Schedule C: capacity 2, interleaved, lazy polling of the output. -/
def schedC : List Op :=
  [w 0, w 0, r 0, w 1, r 0, w 1, r 1, w 0, w 2, r 1, w 2, r 2, r 0, w 1, r 1, w 2, r 2, r 2]

theorem pipe_schedA : (run (pipe [1, 2, 3] 1) init schedA).map (summary (pipe [1, 2, 3] 1) 3)
    = some (true, true, [[1, 2, 3], [2, 4, 6], [2, 6, 12]]) := by decide +kernel
theorem pipe_schedB : (run (pipe [1, 2, 3] 3) init schedB).map (summary (pipe [1, 2, 3] 3) 3)
    = some (true, true, [[1, 2, 3], [2, 4, 6], [2, 6, 12]]) := by decide +kernel
theorem pipe_schedC : (run (pipe [1, 2, 3] 2) init schedC).map (summary (pipe [1, 2, 3] 2) 3)
    = some (true, true, [[1, 2, 3], [2, 4, 6], [2, 6, 12]]) := by decide +kernel

/-- Back-pressure: with capacity 1 a second submission before the first was consumed is not enabled. -/
example : (run (pipe [1, 2, 3] 1) init [w 0, w 0]).isSome = false := by decide +kernel
/-- A partial run is not complete (and is a channel-wise prefix of the result, cf. `prefix_of_result`). -/
example : (run (pipe [1, 2, 3] 2) init [w 0, w 0, r 0, w 1]).map (summary (pipe [1, 2, 3] 2) 3)
    = some (false, false, [[1, 2], [2], []]) := by decide +kernel

/-- Non-vacuity of `network_output_deterministic`: two schedules under two capacities. -/
theorem pipe_nonvacuous :
    ∃ s₁ s₂, Reachable (pipe [1, 2, 3] 1) s₁ ∧ Reachable (pipe [1, 2, 3] 3) s₂ ∧
      Complete (pipe [1, 2, 3] 1) s₁ ∧ Complete (pipe [1, 2, 3] 3) s₂ ∧ s₁.hist = s₂.hist := by
  obtain ⟨s₁, r₁, c₁, -⟩ := complete_of_run_summary (fun _ _ => rfl) pipe_schedA
  obtain ⟨s₂, r₂, c₂, -⟩ := complete_of_run_summary (fun _ _ => rfl) pipe_schedB
  exact ⟨s₁, s₂, r₁, r₂, c₁, c₂,
    network_output_deterministic (N₁ := pipe [1, 2, 3] 1) (N₂ := pipe [1, 2, 3] 3)
      (pipe_monotone _ _) rfl r₁ r₂ c₁ c₂⟩

theorem racy_not_monotone : ¬ racy.Monotone := by
  intro hm
  have h := hm 1 (fun _ => []) (fun c => if c = 0 then [5] else []) (fun _ => List.nil_prefix)
  exact absurd h (by decide)

/-- Schedule "input first": the stage sees its input and emits 7; the run ends quiescent and complete. -/
theorem racy_sched1 : (run racy init [w 0, r 0, w 1, r 1]).map (summary racy 2)
    = some (true, true, [[5], [7]]) := by decide +kernel
/-- Schedule "stage first": the stage runs before the input arrived and emits 8; the run ends quiescent
    (nothing enabled on the live channels) with a DIFFERENT output. -/
theorem racy_sched2 : (run racy init [w 1, w 0, r 0, r 1]).map (summary racy 2)
    = some (false, true, [[5], [8]]) := by decide +kernel

theorem latch_sched1 : (run latch init [w 0, r 0, w 1, r 1]).map (summary latch 2)
    = some (true, true, [[5], [7]]) := by decide +kernel
theorem latch_sched2 : (run latch init [w 1, r 1, w 0, r 0]).map (summary latch 2)
    = some (true, true, [[5], [8]]) := by decide +kernel

/-- The Monotone hypothesis of `network_output_deterministic` is necessary. -/
theorem monotone_needed :
    ∃ (N : Net Nat) (s₁ s₂ : State Nat), Reachable N s₁ ∧ Reachable N s₂ ∧ Complete N s₁ ∧
      Complete N s₂ ∧ s₁.hist 1 ≠ s₂.hist 1 := by
  obtain ⟨s₁, r₁, c₁, e₁⟩ := complete_of_run_summary (fun _ _ => rfl) latch_sched1
  obtain ⟨s₂, r₂, c₂, e₂⟩ := complete_of_run_summary (fun _ _ => rfl) latch_sched2
  refine ⟨latch, s₁, s₂, r₁, r₂, c₁, c₂, fun h => ?_⟩
  have f := e₁ 1 (by decide)
  rw [h, ← e₂ 1 (by decide)] at f
  exact absurd f (by decide)

end Kahn
