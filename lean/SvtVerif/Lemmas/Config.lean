/- A rule of verify_settings stays silent exactly when its conjunct of `Spec.ConfigDomain.CodeDomain` holds: the few shapes
   most rules have, over variables, then the rules on derived quantities (some need the C types of the members, the tile
   product the log2 range tested by the rule before it). -/
import SvtVerif.Lemmas.ConfigArith
import Mathlib.Tactic.Tauto
import Mathlib.Tactic.IntervalCases
namespace Lemmas.Config
open Gen.Config CSem Spec.ConfigDomain

theorem all_eq_all {α β : Type} {p : α → Bool} {q : β → Bool} {l₁ : List α} {l₂ : List β}
    (h : List.Forall₂ (fun a b => p a = q b) l₁ l₂) : l₁.all p = l₂.all q := by
  induction h with
  | nil => rfl
  | cons hab _ ih => rw [List.all_cons, List.all_cons, hab, ih]

theorem all_eq_false_at {α : Type} {p : α → Bool} {l : List α} (i : Nat) {a : α} (h : l[i]? = some a) (ha : p a = false) :
    l.all p = false :=
  List.all_eq_false.2 ⟨a, List.mem_of_getElem? h, by rw [ha]; decide⟩

theorem not_eq_decide_of_iff {b : Bool} {p : Prop} [Decidable p] (h : b = false ↔ p) : (!b) = decide p := by
  cases b <;> simp_all

theorem le_rule (x b : Int) : (!decide (x > b)) = decide (x ≤ b) := not_eq_decide_of_iff (by simp)

theorem ge_rule (x a : Int) : (!decide (x < a)) = decide (a ≤ x) := not_eq_decide_of_iff (by simp)

theorem ne_rule (x a : Int) : (!(x != a)) = decide (x = a) := not_eq_decide_of_iff (by simp)

theorem range_rule (x a b : Int) : (!(decide (x > b) || decide (x < a))) = decide (a ≤ x ∧ x ≤ b) :=
  not_eq_decide_of_iff (by simp; omega)

theorem range_rule' (x a b : Int) : (!(decide (x < a) || decide (x > b))) = decide (a ≤ x ∧ x ≤ b) :=
  not_eq_decide_of_iff (by simp)

theorem le_le_rule (x y a b : Int) : (!(decide (x > a) || decide (y > b))) = decide (x ≤ a ∧ y ≤ b) :=
  not_eq_decide_of_iff (by simp)

theorem pos_rule (x b : Int) : (!(decide (x > b) || x == 0)) = decide (x ≤ b ∧ x ≠ 0) := not_eq_decide_of_iff (by simp)

theorem two_rule (x y a b : Int) : (!(x != a && y != b)) = decide (x = a ∨ y = b) := not_eq_decide_of_iff (by simp; tauto)

theorem tri_rule (x a b c : Int) : (!((x != a && x != b) && x != c)) = decide (x = a ∨ x = b ∨ x = c) :=
  not_eq_decide_of_iff (by simp; tauto)

theorem twopass_rule (x b u v : Int) : (!(decide (x > b) && (u != 0 || v != 0))) = decide (x ≤ b ∨ (u = 0 ∧ v = 0)) :=
  not_eq_decide_of_iff (by simp; omega)

theorem guard_rule (e : Int) (r : Bool) (p : Prop) [Decidable p] (h : (!r) = decide p) :
    (!(e != 0 && r)) = decide (e ≠ 0 → p) := by
  by_cases he : e = 0 <;> simp [he, ← h]

theorem multiple_rule (x n : Int) : (!(cmod (wrapU 16 x) n != 0)) = decide (x % 65536 % n = 0) := by
  rw [cmod_wrapU16]; exact ne_rule _ _

theorem multiple_rule' (x n y : Int) :
    (!(cmod (wrapU 16 x) n != 0 && y == 1)) = decide (¬(x % 65536 % n ≠ 0 ∧ y = 1)) := by
  rw [cmod_wrapU16]; exact not_eq_decide_of_iff (by simp)

/-- with a manual prediction structure copy_api_from_app replaces the levels by log2 of the entry count -/
theorem levels_rule (e n hl : Int) :
    (!decide ((if (e != 0) then (if (n == 1) then (0 : Int) else (if (n == 2) then 1 else (if (n == 4) then 2 else
      (if (n == 8) then 3 else (if (n == 16) then 4 else (if (n == 32) then 5 else 0)))))) else hl) > 5))
      = decide (if e ≠ 0 then True else hl ≤ 5) := by
  by_cases he : e = 0
  · simp only [he, bne_self_eq_false, Bool.false_eq_true, if_false, ne_eq, not_true_eq_false]; exact le_rule _ _
  · simp only [bne_iff_ne, ne_eq, he, not_false_eq_true, if_true, decide_true, beq_iff_eq, Bool.not_eq_true',
      decide_eq_false_iff_not]
    omega

theorem qp_rule (rc mx mn : Int) :
    (!(if (decide ((if (rc != 0) then mx else 63) > 63)) then true else (if (decide ((if (rc != 0) then mn else 1) >= 63)) then true
      else (decide ((if (rc != 0) then mn else 1) > (if (rc != 0) then mx else 63))))))
      = decide (if rc ≠ 0 then mx ≤ 63 ∧ mn < 63 ∧ mn ≤ mx else True) := by
  by_cases h : rc = 0
  · simp [h]
  · simp only [bne_iff_ne, ne_eq, h, not_false_eq_true, if_true]
    exact not_eq_decide_of_iff (by simp)

theorem rate_est_rule (lp x : Int) :
    (!((((if (decide (lp > 1)) then 0 else x) != 0) && ((if (decide (lp > 1)) then 0 else x) != 1)) &&
      ((if (decide (lp > 1)) then 0 else x) != -1))) = decide (1 < lp ∨ x = 0 ∨ x = 1 ∨ x = -1) := by
  by_cases h : 1 < lp
  · simp [h]
  · simp only [gt_iff_lt, h, decide_false, Bool.false_eq_true, if_false, false_or]; exact tri_rule _ _ _ _

theorem hme_rule (idx total : Int) (src dst : List Int) (h : src.length = dst.length) (n : Int) :
    (!(h_verify_hme_dimension idx total (copyPrefix n src dst) n != 0)) = decide (hmeSum n src = total) := by
  rw [hme_dim, copyPrefix_eq_copied _ _ _ h, hmeSum_copied_same _ _ h]; exact ne_rule _ _

/-- `m` cells were copied, `n` are summed -/
theorem hme_rule_l12 (idx : Int) (src dst : List Int) (h : src.length = dst.length) (n m : Int) :
    (!(h_verify_hme_dimension_l1_l2 idx (copyPrefix m src dst) n != 0))
      = decide (1 ≤ hmeSum n (copied m src dst) ∧ hmeSum n (copied m src dst) ≤ 480) := by
  rw [hme_dim_l12, copyPrefix_eq_copied _ _ _ h, Bool.not_not]

theorem hme_rule_l12_same (idx : Int) (src dst : List Int) (h : src.length = dst.length) (n : Int) :
    (!(h_verify_hme_dimension_l1_l2 idx (copyPrefix n src dst) n != 0))
      = decide (1 ≤ hmeSum n src ∧ hmeSum n src ≤ 480) := by
  rw [hme_rule_l12 _ _ _ h, hmeSum_copied_same _ _ h]

theorem rej12_iff (s : Scs) (c : Cfg) (hc : c.WellTyped) :
    rej12 s c = false ↔ (c.rate_control_mode = 0 → -2 ≤ intraPeriod c ∧ intraPeriod c ≤ 2147483646) := by
  have e : (CSem.wrapS 32 ((2 : Int) * (CSem.wrapS 32 ((CSem.wrapS 32 ((1 : Int) * 2 ^ ((30 : Int)).toNat)) - (1 : Int))))) = 2147483646 := by decide
  simp only [rej12, gen_frameRate c hc, gen_ip s c hc, e, Bool.and_eq_false_iff, Bool.or_eq_false_iff, decide_eq_false_iff_not,
    beq_eq_false_iff_ne]
  omega

theorem rej13_iff (s : Scs) (c : Cfg) (hc : c.WellTyped) :
    rej13 s c = false ↔ (1 ≤ c.rate_control_mode → -2 ≤ intraPeriod c ∧ intraPeriod c ≤ 255) := by
  simp only [rej13, gen_frameRate c hc, gen_ip s c hc, Bool.and_eq_false_iff, Bool.or_eq_false_iff, decide_eq_false_iff_not]
  omega

theorem rej35_iff (s : Scs) (c : Cfg) (hc : c.WellTyped) : rej35 s c = false ↔ (frameRate c ≤ 15728640) := by
  have e : (CSem.wrapU 32 (CSem.wrapS 32 ((240 : Int) * 2 ^ ((16 : Int)).toNat))) = 15728640 := by decide
  simp only [rej35, gen_frameRate c hc, e, decide_eq_false_iff_not, Int.not_lt, gt_iff_lt]

theorem rej36_iff (s : Scs) (c : Cfg) (hc : c.WellTyped) : rej36 s c = false ↔ (frameRate c ≠ 0) := by
  simp only [rej36, gen_frameRate c hc]; simp

theorem rej38_iff (s : Scs) (c : Cfg) (hc : c.WellTyped) :
    rej38 s c = false ↔ ((c.rate_control_mode = 2 ∨ c.rate_control_mode = 3) → 0 ≤ intraPeriod c → lookAhead c = intraPeriod c) := by
  have hr := intraPeriod_range c hc
  simp only [rej38, gen_frameRate c hc, gen_ip s c hc, gen_lookAhead_base s c hc, gen_lookAhead_tpl, lookAhead_of_base c _ rfl]
  simp only [Bool.and_eq_false_iff, Bool.or_eq_false_iff, decide_eq_false_iff_not, beq_eq_false_iff_ne, bne_eq_false_iff_eq,
    wrapU32_eq]
  by_cases h0 : 0 ≤ intraPeriod c
  · rw [u32_of_range _ h0 (by omega)]; omega
  · omega

theorem rej39_iff (s : Scs) (c : Cfg) (hc : c.WellTyped) :
    rej39 s c = false ↔ (lookAhead c ≤ 120 ∨ lookAhead c = 4294967295) := by
  have e : (CSem.wrapU 32 (CSem.wrapS 32 (- (0 : Int) - 1))) = 4294967295 := by decide
  simp only [rej39, gen_frameRate c hc, gen_ip s c hc, gen_lookAhead_base s c hc, gen_lookAhead_tpl, lookAhead_of_base c _ rfl]
  simp only [e, Bool.and_eq_false_iff, decide_eq_false_iff_not, bne_eq_false_iff_eq]
  omega

theorem rej41_iff (s : Scs) (c : Cfg) (hc : c.WellTyped)
    (h40 : c.tile_rows % 4294967296 ≤ 6 ∧ c.tile_columns % 4294967296 ≤ 6) :
    rej41 s c = false ↔ (c.tile_columns ≤ 4 ∧ c.tile_rows + c.tile_columns ≤ 7) := by
  have hr := hc.tile_rows
  have hcl := hc.tile_columns
  have r0 : 0 ≤ c.tile_rows ∧ c.tile_rows ≤ 6 := by omega
  have c0 : 0 ≤ c.tile_columns ∧ c.tile_columns ≤ 6 := by omega
  unfold rej41
  generalize c.tile_rows = r at *
  generalize c.tile_columns = k at *
  obtain ⟨r1, r2⟩ := r0
  obtain ⟨k1, k2⟩ := c0
  interval_cases r <;> interval_cases k <;> decide

theorem wrapU32_small : wrapU 32 0 = 0 ∧ wrapU 32 1 = 1 ∧ wrapU 32 2 = 2 ∧ wrapU 32 3 = 3 := by decide

theorem gen_colorFormat (c : Cfg) : (if (c.encoder_color_format == 0) then 1 else c.encoder_color_format) = colorFormat c := by
  unfold colorFormat; by_cases h : c.encoder_color_format = 0 <;> simp [h]

theorem rej52_iff (s : Scs) (c : Cfg) : rej52 s c = false ↔ ¬((c.profile = 0 ∨ c.profile = 1) ∧ 10 < c.encoder_bit_depth) := by
  simp [rej52]

theorem rej53_iff (s : Scs) (c : Cfg) : rej53 s c = false ↔ (c.encoder_color_format = 0 ∨ c.encoder_color_format = 1) := by
  simp only [rej53, wrapU32_small, gen_colorFormat, colorFormat]; split <;> simp [*]

theorem rej54_iff (s : Scs) (c : Cfg) : rej54 s c = false ↔ (c.profile = 0 → colorFormat c ≤ 1) := by
  simp only [rej54, wrapU32_small, gen_colorFormat]; simp

theorem rej55_iff (s : Scs) (c : Cfg) : rej55 s c = false ↔ (c.profile = 1 → colorFormat c = 3) := by
  simp only [rej55, wrapU32_small, gen_colorFormat]; simp

theorem rej56_iff (s : Scs) (c : Cfg) : rej56 s c = false ↔ (c.profile = 2 ∧ c.encoder_bit_depth ≤ 10 → colorFormat c = 2) := by
  simp only [rej56, wrapU32_small, gen_colorFormat]; simp

theorem andU64_top (x : Int) : (andU64 x 9223372036854775808 != 0) = decide (9223372036854775808 ≤ x % 18446744073709551616) := by
  unfold andU64
  have hx0 : 0 ≤ x % 18446744073709551616 := Int.emod_nonneg _ (by decide)
  have hx1 : x % 18446744073709551616 < 18446744073709551616 := Int.emod_lt_of_pos _ (by decide)
  have e1 : (BitVec.ofInt 64 9223372036854775808).toNat = 2 ^ 63 := by decide
  have e2 : (BitVec.ofInt 64 x).toNat = (x % 18446744073709551616).toNat := by
    rw [BitVec.toNat_ofInt]; norm_num
  rw [BitVec.toNat_and, e1, e2, Bits.nat_and_two_pow, Bool.eq_iff_iff, bne_iff_ne, decide_eq_true_eq]
  omega

theorem rej59_iff (s : Scs) (c : Cfg) : rej59 s c = false ↔ (c.use_cpu_flags % 18446744073709551616 < 9223372036854775808) := by
  unfold rej59
  have e : (CSem.wrapU 64 (CSem.shlRaw (1 : Int) (CSem.wrapU 64 ((CSem.wrapU 64 ((8 : Int) * (8 : Int))) - (1 : Int))))) = 9223372036854775808 := by decide
  rw [e, andU64_top]; simp

theorem rej69_iff (s : Scs) (c : Cfg) (hc : c.WellTyped) :
    rej69 s c = false ↔ (8 < c.encoder_bit_depth → -1 ≤ c.enable_hbd_mode_decision ∧ c.enable_hbd_mode_decision ≤ 2) := by
  unfold rej69
  have hh := hc.enable_hbd_mode_decision
  by_cases h : 8 < c.encoder_bit_depth
  · have h' : decide (c.encoder_bit_depth > (8 : Int)) = true := by simp; omega
    have e : CSem.wrapS 8 c.enable_hbd_mode_decision = c.enable_hbd_mode_decision :=
      wrapS_of_range (n := 8) (by omega) (by omega) (by decide)
    simp only [h', if_true, e]
    simp [h]
  · have h' : decide (c.encoder_bit_depth > (8 : Int)) = false := by simp; omega
    simp only [h', Bool.false_eq_true, if_false]
    have e0 : CSem.wrapS 8 (0 : Int) = 0 := by decide
    simp [h, e0]

theorem rej92_iff (s : Scs) (c : Cfg) (hs : s.WellTyped) (hc : c.WellTyped) :
    rej92 s c = false ↔ (c.enable_manual_pred_struct = 0 ∨ validManualPredStruct c.manual_pred_struct_entry_num c.pred_struct) := by
  unfold rej92
  by_cases he : c.enable_manual_pred_struct = 0
  · have he' : (c.enable_manual_pred_struct != 0) = false := by simp [he]
    simp only [he', Bool.false_eq_true, if_false]
    refine (block92_spec _ ?_ ?_).trans (by simp [he])
    · exact hs.static_config_pred_struct.1
    · exact fun i _ => getD_mem_or _ _ _ hs.static_config_pred_struct.2 default_wt i
  · have he' : (c.enable_manual_pred_struct != 0) = true := by simp [he]
    simp only [he', if_true]
    have hsp := copyPrefixE_spec (CSem.wrapU 64 c.manual_pred_struct_entry_num) c.pred_struct s.static_config_pred_struct
    have hmem := copyPrefixE_mem PredEntry.WellTyped (CSem.wrapU 64 c.manual_pred_struct_entry_num) c.pred_struct s.static_config_pred_struct
      hc.pred_struct.2 hs.static_config_pred_struct.2 default_wt
    refine (block92_spec _ (hsp.1.trans hs.static_config_pred_struct.1) ?_).trans ?_
    · exact fun i _ => getD_mem_or _ _ _ hmem default_wt i
    simp only [he, false_or]
    unfold validManualPredStruct
    -- only the first `entry_num` entries are looked at, and those were copied
    refine and_congr_right fun h32 => forall₂_congr fun i hi => ?_
    have ew : wrapU 64 c.manual_pred_struct_entry_num = c.manual_pred_struct_entry_num := wrapU_of_range (by omega) (by omega)
    rw [ew] at hsp ⊢
    rw [hsp.2 i hi (by rw [hs.static_config_pred_struct.1]; omega)]

end Lemmas.Config
