/- Lemmas for C01 / C08: one decoder step and the decoder's output list; the encoder-side machine refines the decoder-side
   one (AV1 §7.20/§7.21); the film-grain random-seed rule. -/
import SvtVerif.Lemmas.Dpb

namespace Dpb

variable {P S : Type}

/-- AV1 §7.20 (reference update) and §7.18 (output) for a coded header. -/
theorem decStep_coded (R : P → List S → S) (d : State S) (f : Frame P) (h : f.showExisting = none) :
    let s : Slot S := { pic := R f.payload (refsOf d f), frameType := f.frameType, showable := f.showableFrame }
    (∀ j : Fin 8, (decStep R d f).1 j = if (effRefresh f).testBit j.val then s else d j) ∧
    (decStep R d f).2 = if f.showFrame then some s.pic else none := by
  unfold decStep
  rw [h]
  exact ⟨fun _ => rfl, rfl⟩

/-- AV1 §7.21 followed by §7.20 with `refresh_frame_flags = allFrames` when the shown slot holds a key frame. -/
theorem decStep_showExisting (R : P → List S → S) (d : State S) (f : Frame P) (i : Fin 8) (h : f.showExisting = some i) :
    ((d i).frameType = .key → decStep R d f = (fun _ => d i, some (d i).pic)) ∧
    ((d i).frameType ≠ .key → decStep R d f = (d, some (d i).pic)) := by
  unfold decStep
  rw [h]
  exact ⟨fun hk => if_pos hk, fun hk => if_neg hk⟩

theorem runDec_nil (R : P → List S → S) (d : State S) : runDec R d ([] : List (Frame P)) = (d, []) := rfl

theorem runDec_cons (R : P → List S → S) (d : State S) (f : Frame P) (fs : List (Frame P)) :
    runDec R d (f :: fs) = ((runDec R (decStep R d f).1 fs).1, (decStep R d f).2 :: (runDec R (decStep R d f).1 fs).2) := rfl

theorem runDec_length (R : P → List S → S) (d : State S) (fs : List (Frame P)) :
    (runDec R d fs).2.length = fs.length := by
  induction fs generalizing d with
  | nil => rfl
  | cons f fs ih => simp [runDec_cons, ih]

theorem runDec_getElem? (R : P → List S → S) (d : State S) (fs : List (Frame P)) (i : Nat) (f : Frame P)
    (h : fs[i]? = some f) :
    (runDec R d fs).2[i]? = some (decStep R (runDec R d (fs.take i)).1 f).2 := by
  induction fs generalizing d i with
  | nil => simp at h
  | cons g gs ih =>
    cases i with
    | zero =>
      simp only [List.getElem?_cons_zero, Option.some.injEq] at h
      subst h
      simp only [runDec_cons, List.getElem?_cons_zero, List.take_zero, runDec_nil]
    | succ k =>
      simp only [List.getElem?_cons_succ] at h
      simp only [runDec_cons, List.getElem?_cons_succ, List.take_succ_cons]
      exact ih _ k h

theorem runDec_output_at (R : P → List S → S) (d : State S) (fs : List (Frame P)) (i : Nat) (f : Frame P)
    (h : fs[i]? = some f) :
    (runDec R d fs).2[i]? = some
      (match f.showExisting with
       | some k => some ((runDec R d (fs.take i)).1 k).pic
       | none => if f.showFrame then some (R f.payload (refsOf (runDec R d (fs.take i)).1 f)) else none) := by
  rw [runDec_getElem? R d fs i f h]
  unfold decStep
  cases f.showExisting with
  | some k => simp only; split <;> rfl
  | none => rfl

theorem runDec_outputs (R : P → List S → S) (d : State S) (fs : List (Frame P)) :
    (runDec R d fs).2.map Option.isSome = fs.map producesOutput ∧
    (outputs (runDec R d fs).2).length = (fs.filter producesOutput).length :=
  ⟨runDec_isSome R d fs, outputs_length R d fs⟩

theorem decStep_pics (R : P → List S → S) (d : State S) (f : Frame P) (x : S)
    (hx : (∃ j, x = ((decStep R d f).1 j).pic) ∨ (decStep R d f).2 = some x) :
    (∃ i, x = (d i).pic) ∨ (f.showExisting = none ∧ x = R f.payload (refsOf d f)) := by
  unfold decStep at hx
  cases h : f.showExisting with
  | some i =>
    rw [h] at hx
    simp only at hx
    split at hx <;> rcases hx with ⟨j, rfl⟩ | hx
    · exact Or.inl ⟨i, rfl⟩
    · exact Or.inl ⟨i, (Option.some.inj hx).symm⟩
    · exact Or.inl ⟨j, rfl⟩
    · exact Or.inl ⟨i, (Option.some.inj hx).symm⟩
  | none =>
    rw [h] at hx
    simp only at hx
    rcases hx with ⟨j, rfl⟩ | hx
    · split
      · exact Or.inr ⟨rfl, rfl⟩
      · exact Or.inl ⟨j, rfl⟩
    · split at hx
      · exact Or.inr ⟨rfl, (Option.some.inj hx).symm⟩
      · cases hx

theorem recons_cons_coded (R : P → List S → S) (d : State S) (f : Frame P) (fs : List (Frame P)) (h : f.showExisting = none) :
    recons R d (f :: fs) = R f.payload (refsOf d f) :: recons R (decStep R d f).1 fs := by
  simp only [recons, h]

theorem recons_cons_existing (R : P → List S → S) (d : State S) (f : Frame P) (fs : List (Frame P)) (i : Fin 8)
    (h : f.showExisting = some i) : recons R d (f :: fs) = recons R (decStep R d f).1 fs := by
  simp only [recons, h]

theorem mem_outputs {x : S} {os : List (Option S)} : x ∈ outputs os ↔ some x ∈ os := by
  simp [outputs, List.mem_filterMap]

theorem output_mem (R : P → List S → S) (d : State S) (fs : List (Frame P)) (x : S)
    (hx : x ∈ outputs (runDec R d fs).2) : (∃ i, x = (d i).pic) ∨ x ∈ recons R d fs := by
  induction fs generalizing d with
  | nil => exact absurd hx List.not_mem_nil
  | cons f fs ih =>
    rw [mem_outputs, runDec_cons, List.mem_cons] at hx
    -- `x` is output by this step or sits in the DPB after it, or it is reconstructed later
    have hstep : ((∃ j, x = ((decStep R d f).1 j).pic) ∨ (decStep R d f).2 = some x) ∨ x ∈ recons R (decStep R d f).1 fs := by
      rcases hx with ho | hx
      · exact Or.inl (Or.inr ho.symm)
      · exact (ih _ (mem_outputs.2 hx)).imp_left Or.inl
    rcases hstep with h | hr
    · rcases decStep_pics R d f x h with h1 | ⟨hs, rfl⟩
      · exact Or.inl h1
      · right; rw [recons_cons_coded R d f fs hs]; exact List.mem_cons_self
    · right
      cases hs : f.showExisting with
      | some i => rw [recons_cons_existing R d f fs i hs]; exact hr
      | none => rw [recons_cons_coded R d f fs hs]; exact List.mem_cons_of_mem _ hr

theorem runDec_congr (R R' : P → List S → S) (d : State S) (fs : List (Frame P))
    (h : ∀ f ∈ fs, ∀ refs, R f.payload refs = R' f.payload refs) : runDec R d fs = runDec R' d fs := by
  induction fs generalizing d with
  | nil => rfl
  | cons f fs ih =>
    have hstep : decStep R d f = decStep R' d f := by
      unfold decStep
      rw [h f List.mem_cons_self]
    rw [runDec_cons, runDec_cons, hstep, ih _ (fun g hg => h g (List.mem_cons_of_mem _ hg))]

theorem maskBit_eq_testBit (m j : Nat) : maskBit m j = m.testBit j := by
  unfold maskBit
  rw [Nat.testBit_eq_decide_div_mod_eq, Nat.shiftRight_eq_div_pow]

theorem encRefs_eq (d : State S) (p : EncPic P) : encRefs d p = refsOf d p.toFrame := by
  unfold encRefs refsOf EncPic.toFrame
  cases p.frameType <;> simp

/-- `hkey`: the header of a displayed key frame does not transmit the mask; the decoder infers `0xFF` (§5.9.2). -/
theorem encStep_eq_decStep (R : P → List S → S) (d : State S) (p : EncPic P)
    (hkey : p.showExistingLoc = none → p.frameType = .key → p.showFrame = true → p.refreshFrameMask % 256 = 0xFF) :
    encStep R d p = decStep R d p.toFrame := by
  unfold encStep decStep
  cases hs : p.showExistingLoc with
  | some i => simp [EncPic.toFrame, hs]
  | none =>
    have hr : effRefresh p.toFrame = p.refreshFrameMask % 256 := by
      have e1 : p.toFrame.frameType = p.frameType := rfl
      have e2 : p.toFrame.showFrame = p.showFrame := rfl
      have e3 : p.toFrame.refreshFlags = p.refreshFrameMask := rfl
      unfold effRefresh
      rw [e1, e2, e3]
      by_cases hk : p.frameType = .key ∧ p.showFrame = true
      · rw [if_pos hk]
        exact (hkey hs hk.1 hk.2).symm
      · rw [if_neg hk]
    simp only [EncPic.toFrame, hs, encRefs_eq]
    have : ∀ j : Fin 8, maskBit (p.refreshFrameMask % 256) j.val = (effRefresh p.toFrame).testBit j.val := by
      intro j; rw [hr, maskBit_eq_testBit]
    simp only [this]
    rfl

theorem runEnc_eq_runDec (R : P → List S → S) (d : State S) (fs : List (EncPic P))
    (hkey : ∀ p ∈ fs, p.showExistingLoc = none → p.frameType = .key → p.showFrame = true → p.refreshFrameMask % 256 = 0xFF) :
    runEnc R d fs = runDec R d (fs.map EncPic.toFrame) := by
  induction fs generalizing d with
  | nil => rfl
  | cons p ps ih =>
    rw [List.map_cons, runDec_cons, ← encStep_eq_decStep R d p (hkey p List.mem_cons_self),
      ← ih _ fun q hq => hkey q (List.mem_cons_of_mem _ hq)]
    rfl

theorem fgSeedNext_ne_zero (s : BitVec 16) : fgSeedNext s ≠ 0#16 := by
  unfold fgSeedNext
  by_cases h : s + 3381#16 = 0#16
  · simp only [h, if_true]; decide
  · simp only [h, if_false]; exact h

theorem fgSeed_ne_zero (n : Nat) : fgSeed n ≠ 0#16 := by
  cases n with
  | zero => decide
  | succ k => exact fgSeedNext_ne_zero _

end Dpb
