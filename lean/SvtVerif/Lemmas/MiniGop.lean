/-
  Lemmas for `Model/MiniGop.lean` (C03, pre-assignment buffer): conservation of pictures, stated with `List.count`
  (so that the order inside mini-GOPs, which the model leaves arbitrary, does not matter).
-/
import SvtVerif.Model.MiniGop
import Mathlib.Tactic.Linarith

namespace MiniGop

/-- Pictures that have left the buffer or are parked in `prev_delayed_intra`. -/
def released (s : St) : List Pic := s.sent ++ s.delayed.toList

theorem sendOne_fields (delay : Pic → Bool) (s : St) (p : Pic) :
    (sendOne delay s p).buf = s.buf ∧ (sendOne delay s p).intraCt = s.intraCt ∧ (sendOne delay s p).eosFlag = s.eosFlag := by
  unfold sendOne; split <;> simp

theorem fold_sendOne_nodelay (delay : Pic → Bool) (g : List Pic) (s : St) (h : ∀ q ∈ g, delay q = false) :
    g.foldl (sendOne delay) s = { s with sent := s.sent ++ g } := by
  induction g generalizing s with
  | nil => simp
  | cons q g ih =>
    have hq : delay q = false := h q (List.mem_cons_self)
    rw [List.foldl_cons, ih _ (fun x hx => h x (List.mem_cons_of_mem _ hx))]
    simp [sendOne, hq, List.append_assoc]

/-- A picture that `is_delayed_intra` could delay: intra and not the EOS picture. -/
def cand (p : Pic) : Bool := p.intra && !p.eos

/-- A group with at most one candidate picture, entered with `prev_delayed_intra = NULL`: nothing is lost. -/
theorem fold_sendOne_count (delay : Pic → Bool) (hdelay : ∀ p, delay p = true → cand p = true)
    (g : List Pic) (s : St) (hd : s.delayed = none) (h1 : (g.filter cand).length ≤ 1) (x : Pic) :
    (released (g.foldl (sendOne delay) s)).count x = s.sent.count x + g.count x ∧
    ((∀ a ∈ g, cand a = false) → (g.foldl (sendOne delay) s).delayed = none) ∧
    (g.foldl (sendOne delay) s).buf = s.buf := by
  induction g generalizing s with
  | nil => simp [released, hd]
  | cons q g ih =>
    rw [List.foldl_cons]
    by_cases hq : delay q = true
    · -- `q` is the one candidate, so the rest of the group is sent
      have hg : ∀ y ∈ g, delay y = false := by
        intro y hy
        by_contra hc
        have hcy := hdelay y (by simpa using hc)
        rw [List.filter_cons_of_pos (hdelay q hq), List.length_cons] at h1
        have : 0 < (g.filter cand).length := List.length_pos_of_mem (List.mem_filter.2 ⟨hy, hcy⟩)
        omega
      rw [fold_sendOne_nodelay delay g _ hg]
      refine ⟨?_, fun hnc => ?_, ?_⟩
      · simp only [released, sendOne, hq, if_true, Option.toList_some, List.count_append, List.count_cons, List.count_nil]
        omega
      · have := hnc q List.mem_cons_self
        rw [hdelay q hq] at this; cases this
      · simp [sendOne, hq]
    · have hq' : delay q = false := by simpa using hq
      have hs : (sendOne delay s q) = { s with sent := s.sent ++ [q] } := by simp [sendOne, hq']
      obtain ⟨c, dn, bf⟩ := ih (sendOne delay s q) (by rw [hs]; exact hd)
        (le_trans ((List.sublist_cons_self q g).filter cand).length_le h1)
      refine ⟨?_, fun hnc => dn (fun a ha => hnc a (List.mem_cons_of_mem _ ha)), ?_⟩
      · rw [c, hs]; simp only [List.count_append, List.count_cons, List.count_nil]; omega
      · rw [bf, hs]

/-- One mini-GOP (l.5570-5585). -/
theorem sendGroup_count (delay : Nat → Pic → Bool) (hdelay : ∀ n p, delay n p = true → cand p = true)
    (s : St) (g : List Pic) (h1 : (g.filter cand).length ≤ 1) (x : Pic) :
    (released (sendGroup delay s g)).count x = (released s).count x + g.count x ∧
    ((∀ a ∈ g, cand a = false) → (sendGroup delay s g).delayed = none) ∧
    (sendGroup delay s g).buf = s.buf := by
  unfold sendGroup
  cases hd : s.delayed with
  | none =>
    obtain ⟨c, r⟩ := fold_sendOne_count (delay g.length) (hdelay g.length) g s hd h1 x
    exact ⟨by rw [c]; simp [released, hd], r⟩
  | some q =>
    obtain ⟨c, r⟩ := fold_sendOne_count (delay g.length) (hdelay g.length) g
      { s with delayed := none, sent := s.sent ++ [q] } rfl h1 x
    exact ⟨by rw [c]; simp only [released, hd, Option.toList_some, List.count_append], r⟩

theorem fold_sendGroup_count (delay : Nat → Pic → Bool) (hdelay : ∀ n p, delay n p = true → cand p = true)
    (G : List (List Pic)) (s : St)
    (h1 : (G.flatten.filter cand).length ≤ 1) (x : Pic) :
    (released (G.foldl (sendGroup delay) s)).count x = (released s).count x + G.flatten.count x ∧
    ((∀ a ∈ G.flatten, cand a = false) → G ≠ [] → (G.foldl (sendGroup delay) s).delayed = none) ∧
    (G.foldl (sendGroup delay) s).buf = s.buf := by
  induction G generalizing s with
  | nil => simp
  | cons g G ih =>
    rw [List.foldl_cons]
    rw [List.flatten_cons, List.filter_append, List.length_append] at h1
    obtain ⟨c1, d1, b1⟩ := sendGroup_count delay hdelay s g (by omega) x
    obtain ⟨c2, d2, b2⟩ := ih (sendGroup delay s g) (by omega)
    refine ⟨?_, ?_, ?_⟩
    · rw [c2, c1]; simp only [List.flatten_cons, List.count_append]; omega
    · intro hnc _
      rw [List.flatten_cons] at hnc
      cases G with
      | nil => exact d1 (fun a ha => hnc a (List.mem_append_left _ ha))
      | cons g' G' => exact d2 (fun a ha => hnc a (List.mem_append_right _ ha)) (List.cons_ne_nil _ _)
    · rw [b2, b1]

/-- The invariant between two pictures: nothing lost, the buffer holds no intra and no EOS picture, the counters are reset. -/
structure Inv (s : St) (seen : List Pic) : Prop where
  cons  : ∀ x, (released s).count x + s.buf.count x = seen.count x
  clean : ∀ q ∈ s.buf, q.intra = false ∧ q.eos = false
  ic    : s.intraCt = 0
  ef    : s.eosFlag = false

theorem inv_init : Inv init [] := ⟨by intro x; simp [released, init], by intro q hq; simp [init] at hq, rfl, rfl⟩

/-- `step` from a state whose counters are reset (as they are between two pictures). -/
theorem step_eq (levels : Nat) (lowDelay : Bool) (delay : Nat → Pic → Bool) (split : List Pic → List (List Pic))
    (s : St) (p : Pic) (hic : s.intraCt = 0) (hef : s.eosFlag = false) :
    step levels lowDelay delay split s p =
      if releaseNow levels lowDelay (s.buf ++ [p]).length (if p.intra then 1 else 0) p.eos then
        { ((split (s.buf ++ [p])).foldl (sendGroup delay)
            { s with buf := s.buf ++ [p], intraCt := (if p.intra then 1 else 0), eosFlag := p.eos }) with
          buf := [], intraCt := 0, eosFlag := false }
      else { s with buf := s.buf ++ [p], intraCt := (if p.intra then 1 else 0), eosFlag := p.eos } := by
  unfold step
  simp only [hic, hef, Bool.false_or, Nat.zero_add]

theorem releaseNow_eq_false {levels : Nat} {lowDelay : Bool} {count : Nat} {p : Pic}
    (h : ¬ releaseNow levels lowDelay count (if p.intra then 1 else 0) p.eos = true) :
    p.intra = false ∧ p.eos = false := by
  unfold releaseNow at h
  cases hi : p.intra <;> cases he : p.eos <;> simp [hi, he] at h ⊢

theorem step_inv (levels : Nat) (lowDelay : Bool) (delay : Nat → Pic → Bool) (split : List Pic → List (List Pic))
    (hsplit : ∀ b, ((split b).flatten).Perm b)
    (hdelay : ∀ n p, delay n p = true → cand p = true)
    (s : St) (seen : List Pic) (p : Pic) (h : Inv s seen) :
    Inv (step levels lowDelay delay split s p) (seen ++ [p]) ∧
    (p.eos = true → (step levels lowDelay delay split s p).buf = [] ∧ (step levels lowDelay delay split s p).delayed = none) := by
  have hbufnc : ∀ q ∈ s.buf, cand q = false := by
    intro q hq; simp [cand, (h.clean q hq).1]
  -- among the released pictures only `p` can be a candidate
  have hfil : ((split (s.buf ++ [p])).flatten.filter cand).length ≤ 1 := by
    rw [((hsplit (s.buf ++ [p])).filter cand).length_eq, List.filter_append,
      List.filter_eq_nil_iff.2 (by intro q hq; simpa using hbufnc q hq), List.nil_append]
    exact List.length_filter_le cand [p]
  rw [step_eq levels lowDelay delay split s p h.ic h.ef]
  by_cases hrel : releaseNow levels lowDelay (s.buf ++ [p]).length (if p.intra then 1 else 0) p.eos = true
  · rw [if_pos hrel]
    have F := fun x => fold_sendGroup_count delay hdelay (split (s.buf ++ [p]))
      { s with buf := s.buf ++ [p], intraCt := (if p.intra then 1 else 0), eosFlag := p.eos } hfil x
    refine ⟨⟨?_, ?_, rfl, rfl⟩, ?_⟩
    · intro x
      have hc := (F x).1
      have hperm := (hsplit (s.buf ++ [p])).count_eq x
      have hcons := h.cons x
      simp only [released, List.count_append, List.count_nil, Nat.add_zero] at hc hcons ⊢
      rw [hperm] at hc
      simp only [List.count_append] at hc
      omega
    · intro q hq; simp at hq
    · intro he
      refine ⟨rfl, ?_⟩
      have hnc : cand p = false := by simp [cand, he]
      have hnil : ∀ a ∈ (split (s.buf ++ [p])).flatten, cand a = false := by
        intro a ha
        rcases List.mem_append.1 ((hsplit (s.buf ++ [p])).mem_iff.1 ha) with ha | ha
        · exact hbufnc a ha
        · rw [List.mem_singleton.1 ha]; exact hnc
      have hne : split (s.buf ++ [p]) ≠ [] := by
        intro hE
        have := (hsplit (s.buf ++ [p])).length_eq
        rw [hE] at this; simp at this
      exact (F p).2.1 hnil hne
  · -- no release: `p` is neither intra nor EOS
    rw [if_neg hrel]
    obtain ⟨hpi, hpe⟩ := releaseNow_eq_false hrel
    refine ⟨⟨?_, ?_, ?_, ?_⟩, ?_⟩
    · intro x
      have hcons := h.cons x
      simp only [released, List.count_append] at hcons ⊢
      omega
    · intro q hq
      rcases List.mem_append.1 hq with hq | hq
      · exact h.clean q hq
      · have : q = p := by simpa using hq
        subst this; exact ⟨hpi, hpe⟩
    · simp [hpi]
    · exact hpe
    · intro he; rw [hpe] at he; exact absurd he (by decide)

theorem run_inv (levels : Nat) (lowDelay : Bool) (delay : Nat → Pic → Bool) (split : List Pic → List (List Pic))
    (hsplit : ∀ b, ((split b).flatten).Perm b)
    (hdelay : ∀ n p, delay n p = true → cand p = true)
    (ps : List Pic) (s : St) (seen : List Pic) (h : Inv s seen) :
    Inv (ps.foldl (step levels lowDelay delay split) s) (seen ++ ps) := by
  induction ps generalizing s seen with
  | nil => simpa using h
  | cons p ps ih =>
    rw [List.foldl_cons]
    have := ih _ _ (step_inv levels lowDelay delay split hsplit hdelay s seen p h).1
    simpa [List.append_assoc] using this

/-- The transcribed `is_delayed_intra` only ever delays an intra picture that does not carry the EOS flag. -/
theorem isDelayedIntra_cand (P : Int) (period : Nat) (n : Nat) (p : Pic) (h : isDelayedIntra P period n p = true) :
    cand p = true := by
  unfold isDelayedIntra at h
  unfold cand Pic.intra
  by_cases hi : (p.idr || p.cra) = true
  · rw [if_pos hi] at h
    by_cases he : (P == 0 || p.eos) = true
    · rw [if_pos he] at h; exact absurd h (by decide)
    · have : p.eos = false := by
        cases hpe : p.eos with
        | false => rfl
        | true => simp [hpe] at he
      simp [hi, this]
  · rw [if_neg hi] at h; exact absurd h (by decide)

theorem flush_complete_cand (levels : Nat) (lowDelay : Bool) (delay : Nat → Pic → Bool) (split : List Pic → List (List Pic))
    (hsplit : ∀ b, ((split b).flatten).Perm b) (hdelay : ∀ n p, delay n p = true → cand p = true)
    (ps : List Pic) (last : Pic) (hlast : last.eos = true) :
    (run levels lowDelay delay split (ps ++ [last])).sent.Perm (ps ++ [last]) ∧
    (run levels lowDelay delay split (ps ++ [last])).buf = [] ∧
    (run levels lowDelay delay split (ps ++ [last])).delayed = none := by
  have hrun : run levels lowDelay delay split (ps ++ [last]) =
      step levels lowDelay delay split (ps.foldl (step levels lowDelay delay split) init) last := by
    unfold run; rw [List.foldl_append]; rfl
  have hinv := run_inv levels lowDelay delay split hsplit hdelay ps init [] inv_init
  obtain ⟨hI, hE⟩ := step_inv levels lowDelay delay split hsplit hdelay _ _ last hinv
  obtain ⟨hb, hd⟩ := hE hlast
  rw [hrun]
  refine ⟨?_, hb, hd⟩
  rw [List.perm_iff_count]
  intro x
  have := hI.cons x
  simp only [released, hb, hd, Option.toList_none, List.append_nil, List.count_nil, Nat.add_zero, List.nil_append] at this
  exact this

end MiniGop
