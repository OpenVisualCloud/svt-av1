/-
  The generated inventory `Gen.Globals.all` against the reviewed table of `Spec/GlobalsClass.lean`.
-/
import SvtVerif.Gen.Globals
import SvtVerif.Spec.GlobalsClass

namespace SvtVerif.Spec.GlobalsClass
open SvtVerif.NonInterf SvtVerif.Gen.Globals

def harmfulReviewed : List String := (table.filter fun e => harmful e.cls).map (·.name)

/-- every global is classified, and (rule 3) no harmful entry of the reviewed table has gone stale -/
theorem inventory_classes :
    (∀ g ∈ all, classOf g ≠ .unclassified) ∧
    (∀ n ∈ (all.filter fun g => harmful (classOf g) && !isRtcdPointer g).map (·.name), n ∈ harmfulReviewed) ∧
    (∀ n ∈ harmfulReviewed, n ∈ (all.filter fun g => harmful (classOf g) && !isRtcdPointer g).map (·.name)) := by
  decide +kernel

end SvtVerif.Spec.GlobalsClass
