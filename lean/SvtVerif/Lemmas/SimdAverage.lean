/-
  C07a / K3, K4 — `svt_picture_average_kernel_sse2_intrin` = `svt_picture_average_kernel_c` and the one-line variant:
  one SSE2 chunk of `n ≤ 16` bytes, the 16-byte column loop with its `& 8` / `& 4` tails, the row loops.
-/
import SvtVerif.Lemmas.SimdResidual

namespace Simd

theorem avg8_eq_avgC (x y : BitVec 8) : avg8 x y = avgC x y := by
  apply BitVec.eq_of_toNat_eq
  have hx := x.isLt
  have hy := y.isLt
  have h1 : (1 : BitVec 9).toNat = 1 := rfl
  simp only [avg8, avgC, BitVec.truncate_eq_setWidth, BitVec.toNat_setWidth, BitVec.toNat_ushiftRight,
    BitVec.toNat_add, BitVec.toNat_ofNat, Nat.shiftRight_eq_div_pow, h1]
  omega

theorem avg_c_eq (s0 : Mem 8) (st0 a0 : Nat) (s1 : Mem 8) (st1 a1 : Nat) (dst : Mem 8) (ds da w h : Nat) :
    avg_c s0 st0 a0 s1 st1 a1 dst ds da w h = rows2 avgC s0 st0 s1 st1 ds w h a0 a1 da dst :=
  rows_loop avgC s0 st0 s1 st1 ds w h (fun a0 a1 da m => avg_c_cols s0 a0 s1 a1 da w w 0 m)
    (fun a0 a1 da m => cols_loop avgC s0 a0 s1 a1 da w _ (fun _ _ => rfl) (fun _ _ _ => rfl) w 0 m (Nat.le_refl _))
    (avg_c_rows s0 st0 s1 st1 ds w h) (fun _ _ _ _ _ => rfl) (fun _ _ _ _ _ _ => rfl) h 0 a0 a1 da dst (Nat.le_refl _)

theorem avg_epu8_chunk (n : Nat) (s0 : Mem 8) (a0 : Nat) (s1 : Mem 8) (a1 : Nat) (dst : Mem 8) (da : Nat) :
    storeBytes dst da (avg_epu8 (loadBytes s0 a0 n 16) (loadBytes s1 a1 n 16)) n = storeL dst da (row2 avgC s0 a0 s1 a1 n) := by
  -- the zero fill beyond the `n` loaded bytes is averaged too, and cut off by the store
  rw [storeBytes, avg_epu8, map2_8, loadBytes, loadBytes, List.zipWith_append (by rw [loadL_length, loadL_length]),
    zipWith_loadL, List.take_left' (row2_length ..),
    show avg8 = avgC from funext fun x => funext (avg8_eq_avgC x)]

theorem avg_sse2_cols16_eq (s0 : Mem 8) (a0 : Nat) (s1 : Mem 8) (a1 da w : Nat) :
    ∀ (q fuel y : Nat) (dst : Mem 8), q ≤ fuel → y + 16 * q ≤ w → w < y + 16 * q + 16 →
      avg_sse2_cols16 s0 a0 s1 a1 da w fuel y dst =
        (y + 16 * q, storeL dst (da + y) (row2 avgC s0 (a0 + y) s1 (a1 + y) (16 * q))) := by
  intro q
  induction q with
  | zero =>
    intro fuel y dst _ _ h2
    have hc : ¬ y + 15 < w := by omega
    have e : (y, dst) = (y + 16 * 0, storeL dst (da + y) (row2 avgC s0 (a0 + y) s1 (a1 + y) (16 * 0))) :=
      congrArg (Prod.mk y) (storeL_nil dst (da + y)).symm
    cases fuel with
    | zero => exact e
    | succ f => rw [avg_sse2_cols16, if_neg hc]; exact e
  | succ q ih =>
    intro fuel y dst hf h1 h2
    obtain ⟨f, rfl⟩ : ∃ f, fuel = f + 1 := ⟨fuel - 1, by omega⟩
    unfold avg_sse2_cols16
    simp only [show y + 15 < w by omega, if_true]
    rw [avg_epu8_chunk, ih f (y + 16) _ (by omega) (by omega) (by omega),
      storeL_append _ _ _ _ _ (by rw [row2_length, Nat.add_assoc]), ← Nat.add_assoc a0, ← Nat.add_assoc a1, ← row2_add,
      Nat.add_assoc y, Nat.mul_succ, Nat.add_comm (16 * q)]

theorem land_mod16 (w c : Nat) (hc : 15 &&& c = c) : w &&& c = (w % 16) &&& c := by
  have h : w % 16 = w &&& (2 ^ 4 - 1) := (Nat.and_two_pow_sub_one_eq_mod w 4).symm
  rw [h, Nat.and_assoc]
  have : (2 ^ 4 - 1) &&& c = c := hc
  rw [this]

/-- for a multiple of 4, bits 3 and 2 are what is left over after the 16-byte chunks -/
theorem tail_bits (w : Nat) (hw : w % 4 = 0) :
    (w &&& 8 = 0 ∨ w &&& 8 = 8) ∧ (w &&& 4 = 0 ∨ w &&& 4 = 4) ∧ w = 16 * (w / 16) + (w &&& 8) + (w &&& 4) := by
  have key : ∀ r, r < 16 → r % 4 = 0 →
      (r &&& 8 = 0 ∨ r &&& 8 = 8) ∧ (r &&& 4 = 0 ∨ r &&& 4 = 4) ∧ r = (r &&& 8) + (r &&& 4) := by decide
  obtain ⟨h8, h4, hs⟩ := key (w % 16) (by omega) (by omega)
  rw [land_mod16 w 8 (by decide), land_mod16 w 4 (by decide)]
  exact ⟨h8, h4, by omega⟩

/-- holds for every multiple of 4, not only for `area_width >= 16` -/
theorem avg_sse2_row16_eq (s0 : Mem 8) (a0 : Nat) (s1 : Mem 8) (a1 da w : Nat) (dst : Mem 8) (hw : w % 4 = 0) :
    avg_sse2_row16 s0 a0 s1 a1 da w dst = storeL dst da (row2 avgC s0 a0 s1 a1 w) := by
  obtain ⟨h8, h4, hsum⟩ := tail_bits w hw
  -- each tail writes `w &&& 8` resp. `w &&& 4` further bytes, which is nothing when the bit is clear
  have t8 (y : Nat) (m : Mem 8) :
      (if w &&& 8 ≠ 0 then
          (y + 8, storeBytes m (da + y) (avg_epu8 (loadBytes s0 (a0 + y) 8 16) (loadBytes s1 (a1 + y) 8 16)) 8)
        else (y, m)) = (y + (w &&& 8), storeL m (da + y) (row2 avgC s0 (a0 + y) s1 (a1 + y) (w &&& 8))) := by
    rcases h8 with e | e <;> rw [e]
    · exact congrArg (Prod.mk y) (storeL_nil m (da + y)).symm
    · rw [if_pos (by decide), avg_epu8_chunk]
  have t4 (y : Nat) (m : Mem 8) :
      (if w &&& 4 ≠ 0 then storeBytes m (da + y) (avg_epu8 (loadBytes s0 (a0 + y) 4 16) (loadBytes s1 (a1 + y) 4 16)) 4
        else m) = storeL m (da + y) (row2 avgC s0 (a0 + y) s1 (a1 + y) (w &&& 4)) := by
    rcases h4 with e | e <;> rw [e]
    · exact (storeL_nil m (da + y)).symm
    · rw [if_pos (by decide), avg_epu8_chunk]
  unfold avg_sse2_row16
  rw [avg_sse2_cols16_eq s0 a0 s1 a1 da w (w / 16) w 0 dst (by omega) (by omega) (by omega)]
  simp only [t8, t4, Nat.add_zero, Nat.zero_add]
  rw [storeL_append _ _ _ _ _ (by rw [row2_length, Nat.add_assoc]), storeL_append _ _ _ _ _ (by rw [row2_length]),
    ← Nat.add_assoc a0, ← Nat.add_assoc a1, ← row2_add, ← row2_add, ← Nat.add_assoc, ← hsum]

theorem avg_sse2_rows16_eq (s0 : Mem 8) (st0 : Nat) (s1 : Mem 8) (st1 ds w h : Nat) (hw : w % 4 = 0)
    (a0 a1 da : Nat) (dst : Mem 8) :
    avg_sse2_rows16 s0 st0 s1 st1 ds w h h 0 a0 a1 da dst = rows2 avgC s0 st0 s1 st1 ds w h a0 a1 da dst :=
  rows_loop avgC s0 st0 s1 st1 ds w h (fun a0 a1 da m => avg_sse2_row16 s0 a0 s1 a1 da w m)
    (fun a0 a1 da m => avg_sse2_row16_eq s0 a0 s1 a1 da w m hw)
    (avg_sse2_rows16 s0 st0 s1 st1 ds w h) (fun _ _ _ _ _ => rfl) (fun _ _ _ _ _ _ => rfl) h 0 a0 a1 da dst (Nat.le_refl _)

/-- `area_width == 4`: nbytes = 4, `area_width == 8`: nbytes = 8 -/
theorem avg_sse2_rows2_eq (nbytes : Nat) (s0 : Mem 8) (st0 : Nat) (s1 : Mem 8) (st1 ds h : Nat) :
    ∀ (n fuel y a0 a1 da : Nat) (dst : Mem 8), h - y = 2 * n → n ≤ fuel →
      avg_sse2_rows2 nbytes s0 st0 s1 st1 ds h fuel y a0 a1 da dst = rows2 avgC s0 st0 s1 st1 ds nbytes (2 * n) a0 a1 da dst := by
  intro n
  induction n with
  | zero =>
    intro fuel y a0 a1 da dst hy hf
    have hc : ¬ y < h := by omega
    cases fuel with
    | zero => simp [avg_sse2_rows2, rows2]
    | succ f => simp [avg_sse2_rows2, hc, rows2]
  | succ m ih =>
    intro fuel y a0 a1 da dst hy hf
    obtain ⟨f, rfl⟩ : ∃ f, fuel = f + 1 := ⟨fuel - 1, by omega⟩
    have hc : y < h := by omega
    unfold avg_sse2_rows2
    simp only [hc, if_true]
    rw [ih f (y + 2) _ _ _ _ (by omega) (by omega), avg_epu8_chunk, avg_epu8_chunk, Nat.mul_two, Nat.mul_two, Nat.mul_two,
      ← Nat.add_assoc, ← Nat.add_assoc, ← Nat.add_assoc]
    rfl

theorem avg_sse2_rows2_even (nbytes : Nat) (s0 : Mem 8) (st0 : Nat) (s1 : Mem 8) (st1 ds h : Nat) (h2 : h % 2 = 0)
    (a0 a1 da : Nat) (dst : Mem 8) :
    avg_sse2_rows2 nbytes s0 st0 s1 st1 ds h h 0 a0 a1 da dst = rows2 avgC s0 st0 s1 st1 ds nbytes h a0 a1 da dst := by
  rw [avg_sse2_rows2_eq nbytes s0 st0 s1 st1 ds h (h / 2) h 0 a0 a1 da dst (by omega) (by omega),
    show 2 * (h / 2) = h by omega]

theorem avg1_c_eq (s0 : Mem 8) (a0 : Nat) (s1 : Mem 8) (a1 : Nat) (dst : Mem 8) (da w : Nat) :
    avg1_c s0 a0 s1 a1 dst da w = storeL dst da (row2 avgC s0 a0 s1 a1 w) := by
  -- `/ 2` and `>> 1` agree
  rw [← show avgC2 = avgC from funext fun x => funext fun y => by simp [avgC2, avgC, Nat.shiftRight_eq_div_pow]]
  exact cols_loop avgC2 s0 a0 s1 a1 da w _ (fun _ _ => rfl) (fun _ _ _ => rfl) w 0 dst (Nat.le_refl _)

/-- each branch of `svt_picture_average_kernel1_line_sse2_intrin` on the width it is written for -/
theorem avg1_sse2_eq {w : Nat} (hw : w = 4 ∨ w = 8 ∨ w = 12 ∨ w = 16 ∨ w = 32 ∨ w = 64)
    (s0 : Mem 8) (a0 : Nat) (s1 : Mem 8) (a1 : Nat) (dst : Mem 8) (da : Nat) :
    avg1_sse2 s0 a0 s1 a1 dst da w = storeL dst da (row2 avgC s0 a0 s1 a1 w) := by
  rcases hw with rfl | rfl | rfl | rfl | rfl | rfl <;>
    simp only [avg1_sse2, avg_epu8_chunk, storeL_row2, Nat.reduceAdd, Nat.reduceGT, Nat.reduceEqDiff, if_true, if_false]

end Simd
