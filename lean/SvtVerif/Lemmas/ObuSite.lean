/-
  Helper lemmas for the OBU framing sites (C02): soundness of the linear normal form, the buffer layout produced by
  the reserve – move – encode sequence, and what `Site.consistent` implies for every header / payload size.
-/
import SvtVerif.Model.ObuSite
import SvtVerif.Lemmas.Obu

namespace ObuSiteLemmas
open Leb128 Obu ObuSite ObuLemmas

theorem lin_add_eval (a b : Lin) (h p : Nat) : (a.add b).eval h p = a.eval h p + b.eval h p := by
  simp only [Lin.add, Lin.eval]; ring

theorem lin_sub_eval (a b : Lin) (h p : Nat) : (a.sub b).eval h p = a.eval h p - b.eval h p := by
  simp only [Lin.sub, Lin.eval]; ring

theorem ulebSum_append (h p : Nat) (a b : List Lin) : ulebSum h p (a ++ b) = ulebSum h p a + ulebSum h p b := by
  induction a with
  | nil => simp [ulebSum]
  | cons x xs ih => simp only [List.cons_append, ulebSum, ih]; ring

theorem norm_sound (e : SzExpr) : ∀ n, norm e = some n → ∀ h p, e.eval h p = n.eval h p := by
  induction e with
  | other s => exact fun n hn => nomatch hn
  | add a b iha ihb =>
    intro n hn h p
    simp only [norm] at hn
    split at hn
    · rename_i x y hx hy
      cases hn
      simp only [SzExpr.eval, iha x hx h p, ihb y hy h p, LinU.eval, lin_add_eval, ulebSum_append]; ring
    · cases hn
  | sub a b iha ihb =>
    intro n hn h p
    simp only [norm] at hn
    split at hn
    · rename_i x l hx hy
      cases hn
      simp only [SzExpr.eval, iha x hx h p, ihb _ hy h p, LinU.eval, lin_sub_eval, ulebSum]; ring
    · cases hn
  | ulebLen a iha =>
    intro n hn h p
    simp only [norm] at hn
    split at hn
    · rename_i l hx
      cases hn
      simp only [SzExpr.eval, iha _ hx h p, LinU.eval, Lin.eval, ulebSum]; simp
    · cases hn
  | _ =>
    intro n hn h p
    cases hn
    simp [SzExpr.eval, LinU.eval, Lin.eval, ulebSum]

theorem form_eval (h p k : Nat) :
    formP.eval h p = p ∧ formH.eval h p = h ∧ (formLit k).eval h p = k ∧
    formDst.eval h p = ((h + sizeInBytes p : Nat) : Int) ∧ formTotal.eval h p = ((h + p + sizeInBytes p : Nat) : Int) := by
  simp [formP, formH, formLit, formDst, formTotal, LinU.eval, Lin.eval, ulebSum]

theorem sizeGo_le_fuel (fuel v : Nat) : sizeGo fuel v ≤ fuel + 1 := by
  induction fuel generalizing v with
  | zero => simp [sizeGo]
  | succ f ih => simp only [sizeGo]; split; · omega
                 · have := ih (v >>> 7); omega

theorem sizeInBytes_le_slack (v : Nat) : sizeInBytes v ≤ slack := by
  have := sizeGo_le_fuel 10 v; simp only [sizeInBytes, slack]; omega

theorem writeAt_length (buf bs : List UInt8) (off : Nat) (h : off + bs.length ≤ buf.length) :
    (writeAt buf off bs).length = buf.length := by
  simp only [writeAt, List.length_append, List.length_take, List.length_drop]; omega

theorem memmove_length (buf : List UInt8) (dst src n : Nat) (hd : dst + n ≤ buf.length) (hs : src + n ≤ buf.length) :
    (memmove buf dst src n).length = buf.length := by
  have hc : ((buf.drop src).take n).length = n := by rw [List.length_take, List.length_drop]; omega
  rw [memmove, writeAt_length _ _ _ (by rw [hc]; exact hd)]

/-- The buffer after steps 3 and 4, cut at `total`, when `L` bytes are reserved, `L` bytes are written and the
    move copies the payload plus `e` bytes of what lies behind it. -/
theorem layout_core (hdr payload enc : List UInt8) (L e : Nat) (hLe : L + e ≤ slack) (henc : enc.length = L) :
    (writeAt (memmove (hdr ++ payload ++ List.replicate slack 0) (hdr.length + L) hdr.length (payload.length + e))
        hdr.length enc).take (hdr.length + payload.length + L) = hdr ++ enc ++ payload := by
  have hZ : (List.replicate slack (0 : UInt8)).length = slack := List.length_replicate
  generalize hZdef : List.replicate slack (0 : UInt8) = Z at hZ
  have hchunk : ((hdr ++ payload ++ Z).drop hdr.length).take (payload.length + e) = payload ++ Z.take e := by
    rw [List.append_assoc, List.drop_left, List.take_append, List.take_of_length_le (Nat.le_add_right _ _),
      Nat.add_sub_cancel_left]
  have hpre : (hdr ++ payload ++ Z).take (hdr.length + L) = hdr ++ (payload ++ Z).take L := by
    rw [List.append_assoc, List.take_append, List.take_of_length_le (Nat.le_add_right _ _),
      Nat.add_sub_cancel_left]
  have hXlen : ((payload ++ Z).take L).length = L := by
    simp only [List.length_take, List.length_append, hZ]; omega
  have hElen : (Z.take e).length = e := by simp only [List.length_take, hZ]; omega
  simp only [memmove, hchunk, writeAt, hpre]
  -- after the move: hdr ++ X ++ payload ++ E ++ R
  generalize hR : (hdr ++ payload ++ Z).drop (hdr.length + L + (payload ++ Z.take e).length) = R
  generalize hX : (payload ++ Z).take L = X at hXlen
  generalize hE : Z.take e = E at hElen
  have h1 : (hdr ++ X ++ (payload ++ E) ++ R).take hdr.length = hdr := by
    rw [List.append_assoc, List.append_assoc]; exact List.take_left' rfl
  have h2 : (hdr ++ X ++ (payload ++ E) ++ R).drop (hdr.length + enc.length) = payload ++ E ++ R := by
    rw [List.append_assoc (hdr ++ X)]
    apply List.drop_left'
    simp only [List.length_append, hXlen, henc]
  rw [h1, h2]
  have h3 : hdr ++ enc ++ (payload ++ E ++ R) = (hdr ++ enc ++ payload) ++ (E ++ R) := by
    simp only [List.append_assoc]
  rw [h3]
  apply List.take_left'
  simp only [List.length_append, henc]; omega

theorem layout_length (hdr payload enc : List UInt8) (L e : Nat) (hLe : L + e ≤ slack) (henc : enc.length ≤ slack) :
    ((writeAt (memmove (hdr ++ payload ++ List.replicate slack 0) (hdr.length + L) hdr.length (payload.length + e))
        hdr.length enc).take (hdr.length + payload.length + L)).length = hdr.length + payload.length + L := by
  have hb : (hdr ++ payload ++ List.replicate slack (0 : UInt8)).length = hdr.length + payload.length + slack := by
    simp only [List.length_append, List.length_replicate]
  have hm := memmove_length (hdr ++ payload ++ List.replicate slack 0) (hdr.length + L) hdr.length (payload.length + e)
    (by omega) (by omega)
  rw [List.length_take, writeAt_length _ _ _ (by omega), hm, hb]
  omega

theorem consistent_moving (s : Site) (r : SzExpr) (hr : s.reserved = some r) (hc : s.consistent = true) (h p : Nat) :
    s.avail = 4 ∧ s.encodeAt.eval h p = h ∧ s.encoded.eval h p = p ∧ s.moveSrc.eval h p = h ∧
    s.moveSize.eval h p = p ∧ s.moveDst.eval h p = ((h + sizeInBytes p : Nat) : Int) ∧
    s.total.eval h p = ((h + p + sizeInBytes p : Nat) : Int) := by
  simp only [Site.consistent, hr, Bool.and_eq_true, decide_eq_true_eq] at hc
  obtain ⟨⟨⟨⟨⟨⟨⟨c1, c2⟩, _⟩, c4⟩, c5⟩, c6⟩, c7⟩, c8⟩ := hc
  obtain ⟨eP, eH, _, eD, eT⟩ := form_eval h p 0
  exact ⟨c1, (norm_sound _ _ c2 h p).trans eH, (norm_sound _ _ c4 h p).trans eP, (norm_sound _ _ c5 h p).trans eH,
    (norm_sound _ _ c6 h p).trans eP, (norm_sound _ _ c7 h p).trans eD, (norm_sound _ _ c8 h p).trans eT⟩

theorem layout_consistent (s : Site) (hres : s.reserved.isSome = true) (hc : s.consistent = true)
    (hdr payload : List UInt8) (hp : payload.length < 2 ^ 28) :
    layoutSite s hdr payload =
      hdr ++ encodeBytes (sizeInBytes payload.length) payload.length ++ payload := by
  obtain ⟨r, hr⟩ := Option.isSome_iff_exists.mp hres
  obtain ⟨c1, c2, c4, c5, c6, c7, c8⟩ := consistent_moving s r hr hc hdr.length payload.length
  simp only [layoutSite, hr, c1, c2, c4, c5, c6, c7, c8, Int.toNat_natCast,
    ulebEncode_eq _ 4 (Nat.lt_of_lt_of_le hp (by decide)) (sizeInBytes_le_4 _ hp)]
  have := layout_core hdr payload (encodeBytes (sizeInBytes payload.length) payload.length)
    (sizeInBytes payload.length) 0 (by have := sizeInBytes_le_slack payload.length; omega) (encodeBytes_length _ _)
  simpa using this

theorem layout_consistent_empty (s : Site) (hres : s.reserved = none) (hc : s.consistent = true)
    (hdr : List UInt8) (k : Nat) (hk : s.hdrSize = some k) (hlen : hdr.length = k) :
    layoutSite s hdr [] = hdr ++ [0] := by
  simp only [Site.consistent, hres, hk, Bool.and_eq_true, decide_eq_true_eq] at hc
  obtain ⟨⟨⟨c1, c2⟩, c3⟩, c4⟩ := hc
  have e2 := (norm_sound _ _ c2 hdr.length 0).trans (form_eval hdr.length 0 0).2.1
  have e3 := (norm_sound _ _ c3 hdr.length 0).trans (form_eval hdr.length 0 0).2.2.1
  have e4 := (norm_sound _ _ c4 hdr.length 0).trans (form_eval hdr.length 0 (k + 1)).2.2.1
  have henc : ulebEncode 0 4 = some [0] := by decide
  simp only [layoutSite, hres, c1, List.length_nil, e2, e3, e4, Int.toNat_natCast, henc, writeAt, List.append_nil]
  rw [List.take_left' rfl]
  have h1 : hdr ++ [0] ++ List.drop (hdr.length + [(0 : UInt8)].length) (hdr ++ List.replicate slack 0)
      = (hdr ++ [0]) ++ List.drop (hdr.length + 1) (hdr ++ List.replicate slack 0) := by simp
  rw [h1]
  apply List.take_left'
  simp [hlen]

theorem mismatched_eval (h p : Nat) :
    mismatchedSite.moveDst.eval h p = ((h + sizeInBytes (h + p) : Nat) : Int) ∧
    mismatchedSite.moveSrc.eval h p = h ∧ mismatchedSite.moveSize.eval h p = ((p + h : Nat) : Int) ∧
    mismatchedSite.encoded.eval h p = p ∧ mismatchedSite.encodeAt.eval h p = h ∧
    mismatchedSite.total.eval h p = ((h + p + sizeInBytes (h + p) : Nat) : Int) := by
  have hn : ((h : Int) + p).toNat = h + p := by omega
  simp only [mismatchedSite, SzExpr.eval, hn]
  refine ⟨?_, trivial, ?_, trivial, trivial, ?_⟩ <;> (push_cast; ring)

/-- `sizeInBytes (h + p)` bytes reserved, the payload and `h` more bytes moved -/
theorem mismatched_layout (hdr payload : List UInt8) (hp : payload.length < 2 ^ 28) :
    layoutSite mismatchedSite hdr payload =
      (writeAt (memmove (hdr ++ payload ++ List.replicate slack 0)
        (hdr.length + sizeInBytes (hdr.length + payload.length)) hdr.length (payload.length + hdr.length)) hdr.length
        (encodeBytes (sizeInBytes payload.length) payload.length)).take
        (hdr.length + payload.length + sizeInBytes (hdr.length + payload.length)) := by
  obtain ⟨e1, e2, e3, e4, e5, e6⟩ := mismatched_eval hdr.length payload.length
  have hrs : mismatchedSite.reserved = some (.add .hdr .payload) := rfl
  have hav : mismatchedSite.avail = 4 := rfl
  simp only [layoutSite, hrs, hav, e1, e2, e3, e4, e5, e6, Int.toNat_natCast,
    ulebEncode_eq _ 4 (Nat.lt_of_lt_of_le hp (by decide)) (sizeInBytes_le_4 _ hp)]

/-- if the two LEB128 lengths differ the kept length differs; if they agree it is the consistent layout with
    `hdr.length` extra bytes moved -/
theorem mismatched_layout_iff (hdr payload : List UInt8) (hh : hdr.length ≤ 2) (hp : payload.length < 2 ^ 28) :
    layoutSite mismatchedSite hdr payload = hdr ++ encodeBytes (sizeInBytes payload.length) payload.length ++ payload ↔
      sizeInBytes (hdr.length + payload.length) = sizeInBytes payload.length := by
  have hL : sizeInBytes (hdr.length + payload.length) ≤ 5 :=
    (sizeInBytes_le_iff _ 5 (by omega) (by decide)).2 (by omega)
  have hs : sizeInBytes (hdr.length + payload.length) + hdr.length ≤ slack := Nat.le_trans (Nat.add_le_add hL hh) (by decide)
  rw [mismatched_layout hdr payload hp]
  constructor
  · intro h
    have hlen := congrArg List.length h
    rw [layout_length _ _ _ _ _ hs (by rw [encodeBytes_length]; exact sizeInBytes_le_slack _)] at hlen
    simp only [List.length_append, encodeBytes_length] at hlen
    omega
  · intro h
    rw [h] at hs ⊢
    exact layout_core _ _ _ _ _ hs (encodeBytes_length _ _)

end ObuSiteLemmas
