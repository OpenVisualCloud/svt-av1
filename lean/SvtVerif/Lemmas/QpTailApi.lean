/- C18: ties the hand-written `QpTail.effCfg` to the generated model of `copy_api_from_app` / `verify_settings`
   (`Gen/Config.lean`, regenerated from EbEncHandle.c on every run). -/
import SvtVerif.Lemmas.QpTail
import SvtVerif.Gen.Config

namespace QpTail
open CSem Gen.Config

theorem verify_bounds (s : Scs) (h : verify s = true) :
    s.static_config_max_qp_allowed ≤ 63 ∧ s.static_config_min_qp_allowed < 63 ∧
    s.static_config_min_qp_allowed ≤ s.static_config_max_qp_allowed := by
  -- the rule(s) printing this message (EbEncHandle.c:2717-2728), found by message so that their position in the list does not
  -- matter: none of them fires, since no rule does
  have h1 : (verifyChecks.filter (fun p => p.1 == "MaxQpAllowed must be [0 - %d]")).any (fun p => p.2 s) = false :=
    List.any_eq_false.mpr fun p hp => by simpa using List.all_eq_true.mp h p (List.mem_of_mem_filter hp)
  -- evaluates the filter on the messages only
  simp only [verifyChecks, List.filter, String.reduceBEq, List.any, Bool.or_false] at h1
  simpa using h1

theorem copyApi_qp_fields (s : Scs) (c : Cfg) :
    (copyApi s c).static_config_min_qp_allowed = (if (c.rate_control_mode != 0) then c.min_qp_allowed else 1) ∧
    (copyApi s c).static_config_max_qp_allowed = (if (c.rate_control_mode != 0) then c.max_qp_allowed else 63) ∧
    (copyApi s c).static_config_enable_qp_scaling_flag = (if (c.use_fixed_qindex_offsets == 1) then 0 else 1) ∧
    (copyApi s c).static_config_use_qp_file = (if (c.use_fixed_qindex_offsets == 1) then 0 else c.use_qp_file) ∧
    (copyApi s c).static_config_use_fixed_qindex_offsets = c.use_fixed_qindex_offsets :=
  ⟨rfl, rfl, rfl, rfl, rfl⟩

def apiOf (c : Cfg) : ApiCfg :=
  { rcMode := c.rate_control_mode, minQp := c.min_qp_allowed, maxQp := c.max_qp_allowed,
    fixedOffsets := c.use_fixed_qindex_offsets, useQpFile := c.use_qp_file }

theorem effCfg_eq_copyApi (s : Scs) (c : Cfg) (hc : c.WellTyped) :
    (copyApi s c).static_config_min_qp_allowed = (effCfg (apiOf c)).minQp ∧
    (copyApi s c).static_config_max_qp_allowed = (effCfg (apiOf c)).maxQp ∧
    (copyApi s c).static_config_enable_qp_scaling_flag = (effCfg (apiOf c)).qpScaling ∧
    (copyApi s c).static_config_use_qp_file = (effCfg (apiOf c)).useQpFile := by
  obtain ⟨e1, e2, e3, e4, _⟩ := copyApi_qp_fields s c
  rw [e1, e2, e3, e4]
  have r := hc.rate_control_mode
  have mn := hc.min_qp_allowed
  have mx := hc.max_qp_allowed
  have fx := hc.use_fixed_qindex_offsets
  have uq := hc.use_qp_file
  -- every member read is in the range of its C type, so the conversions in `effCfg` are identities; the generated code tests
  -- `!=` / `==` (Bool) where `effCfg` tests `≠` / `=`
  simp (disch := omega) only [effCfg, apiOf, wrapU_of_range, bne_iff_ne, beq_iff_eq, ne_eq, and_self]

end QpTail
