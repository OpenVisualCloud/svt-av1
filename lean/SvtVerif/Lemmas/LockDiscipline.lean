/-
  C23 — what `LockDiscipline.disciplinedPath` means, stated without reference to the checker's state:
  on a disciplined event list, every access of a mutex-guarded member (that is not on the allow-list) is
  preceded by a `lock` of its guard with no `unlock` of that guard in between.
-/
import SvtVerif.Model.LockDiscipline

namespace LockDiscipline

/-- Declarative "mutex `m` is held after the events `hist`": some `lock m` in `hist` has no `unlock m` after it. -/
def HeldAfter (hist : List Ev) (m : Path) : Prop :=
  ∃ a b, hist = a ++ Ev.lock m :: b ∧ Ev.unlock m ∉ b

structure HeldInv (st : St) (hist : List Ev) : Prop where
  nodup : (st.held.map (·.1)).Nodup
  held : ∀ m, m ∈ st.held.map (·.1) → HeldAfter hist m

theorem HeldAfter.snoc {hist : List Ev} {m : Path} (h : HeldAfter hist m) {e : Ev} (he : e ≠ Ev.unlock m) :
    HeldAfter (hist ++ [e]) m := by
  obtain ⟨a, b, rfl, hb⟩ := h
  refine ⟨a, b ++ [e], by simp, ?_⟩
  intro hmem
  rcases List.mem_append.1 hmem with h1 | h1
  · exact hb h1
  · simp at h1; exact he h1.symm

theorem any_fst_eq {held : List (Path × MxKind)} {m : Path} :
    held.any (fun h => h.1 == m) = true ↔ m ∈ held.map (·.1) := by
  induction held with
  | nil => simp
  | cons x xs ih =>
    simp only [List.any_cons, Bool.or_eq_true, ih, List.map_cons, List.mem_cons, beq_iff_eq]
    exact or_congr_left eq_comm

theorem stepEv_inv {fn : Fn} {st st' : St} {hist : List Ev} {e : Ev}
    (hi : HeldInv st hist) (hs : stepEv fn st e = some st') : HeldInv st' (hist ++ [e]) := by
  cases e
  case lock m =>
    simp only [stepEv] at hs
    split at hs
    · cases hs
    · rename_i k hk
      split at hs
      · cases hs
      · rename_i hnot
        have hnm : m ∉ st.held.map (·.1) := by
          intro hm; exact hnot (any_fst_eq.2 hm)
        have hst' : st'.held = (m, k) :: st.held := by
          -- whichever kind `k` is, the only successful branch pushes `(m, k)`
          cases k <;> simp only at hs <;> split at hs <;> cases hs <;> rfl
        constructor
        · rw [hst']; simp only [List.map_cons, List.nodup_cons]; exact ⟨hnm, hi.nodup⟩
        · intro m' hm'
          rw [hst'] at hm'
          simp only [List.map_cons, List.mem_cons] at hm'
          rcases hm' with rfl | hm'
          · exact ⟨hist, [], rfl, by simp⟩
          · exact (hi.held m' hm').snoc (by simp)
  case unlock m =>
    simp only [stepEv] at hs
    split at hs
    · rename_i m' k rest hheld
      split at hs
      · rename_i heq
        have hmm : m' = m := by simpa using heq
        cases hs
        have hnd := hi.nodup
        rw [hheld] at hnd
        simp only [List.map_cons, List.nodup_cons] at hnd
        constructor
        · exact hnd.2
        · intro m'' hm''
          have hne : m'' ≠ m := by
            intro h; subst h; rw [hmm] at hnd; exact hnd.1 hm''
          have : m'' ∈ st.held.map (·.1) := by rw [hheld]; simp [hm'']
          exact (hi.held m'' this).snoc (by intro h; injection h with h; exact hne h.symm)
      · cases hs
    · cases hs
  all_goals
    -- the other events leave `held` alone
    have hh : st'.held = st.held := by
      simp only [stepEv] at hs
      repeat' split at hs
      all_goals cases hs <;> rfl
    exact ⟨hh ▸ hi.nodup, fun m hm => (hi.held m (hh ▸ hm)).snoc (by simp)⟩

theorem accessOk_held {fn : Fn} {st : St} {w : Bool} {p m : Path}
    (h : accessOk fn st w p = true) (hg : guardOf p = .mutex m) (ha : allowed fn w p = false) :
    m ∈ st.held.map (·.1) := by
  simp only [accessOk, hg, ha, Bool.or_false] at h
  exact any_fst_eq.1 h

theorem runEvs_sound {fn : Fn} : ∀ (evs : List Ev) (st : St) (hist : List Ev), HeldInv st hist → runEvs fn st evs = true →
    ∀ pre post (w : Bool) (p m : Path), evs = pre ++ (if w then Ev.write p else Ev.read p) :: post →
      guardOf p = .mutex m → allowed fn w p = false → HeldAfter (hist ++ pre) m := by
  intro evs
  induction evs with
  | nil => intro st hist _ _ pre post w p m h; simp at h
  | cons e es ih =>
    intro st hist hi hr pre post w p m hsplit hg ha
    simp only [runEvs] at hr
    cases hstep : stepEv fn st e with
    | none => rw [hstep] at hr; cases hr
    | some st' =>
      rw [hstep] at hr
      cases pre with
      | nil =>
        simp only [List.nil_append, List.cons.injEq] at hsplit
        obtain ⟨he, _⟩ := hsplit
        simp only [List.append_nil]
        have hacc : accessOk fn st w p = true := by
          cases w <;> simp only [Bool.false_eq_true, ↓reduceIte] at he <;> subst he <;> simp only [stepEv] at hstep <;>
            split at hstep
          · assumption
          · cases hstep
          · assumption
          · cases hstep
        exact hi.held m (accessOk_held hacc hg ha)
      | cons e' pre' =>
        simp only [List.cons_append, List.cons.injEq] at hsplit
        obtain ⟨he, hrest⟩ := hsplit
        subst he
        have := ih st' (hist ++ [e]) (stepEv_inv hi hstep) hr pre' post w p m hrest hg ha
        simpa using this

/-- **Meaning of `disciplinedPath`.**  On an accepted event list, every read or write of a member whose guard is
    mutex `m` (and that is not on the reviewed allow-list) happens after a `lock m` that has not been followed by
    an `unlock m`: the access is inside a critical section of its guard. -/
theorem disciplinedPath_sound {fn : Fn} {evs : List Ev} (h : disciplinedPath fn evs = true)
    {pre post : List Ev} {w : Bool} {p m : Path}
    (hsplit : evs = pre ++ (if w then Ev.write p else Ev.read p) :: post)
    (hg : guardOf p = .mutex m) (ha : allowed fn w p = false) : HeldAfter pre m := by
  have := runEvs_sound evs ⟨[], []⟩ [] ⟨by simp, by intro m hm; simp at hm⟩ h pre post w p m hsplit hg ha
  simpa using this

end LockDiscipline
