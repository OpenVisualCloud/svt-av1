/-
  Theorems about the circular reorder queue model (`Model/Reorder.lean`), for streams of ANY length.
-/
import SvtVerif.Model.Reorder
import Mathlib.Tactic.Linarith

namespace Reorder

/-- Two numbers in a common window of width `D` with the same residue are equal. -/
theorem eq_of_emod_eq_of_window {D h x y : Int} (hx0 : h ≤ x) (hx1 : x < h + D)
    (hy0 : h ≤ y) (hy1 : y < h + D) (hm : x % D = y % D) : x = y := by
  have ex : (x - h) % D = x - h := Int.emod_eq_of_lt (by omega) (by omega)
  have ey : (y - h) % D = y - h := Int.emod_eq_of_lt (by omega) (by omega)
  rw [Int.sub_emod, hm, ← Int.sub_emod, ey] at ex
  omega

theorem eq_of_mod_eq_of_window {D h x y : Nat} (hx0 : h ≤ x) (hx1 : x < h + D)
    (hy0 : h ≤ y) (hy1 : y < h + D) (hm : x % D = y % D) : x = y := by
  have := eq_of_emod_eq_of_window (D := D) (h := h) (x := x) (y := y) (by omega) (by omega) (by omega) (by omega)
    (by rw [← Int.natCast_mod, ← Int.natCast_mod, hm])
  exact Int.ofNat_inj.1 this

/-- The picture-decision style index `(pn − head.pn) + head_index` with a single wrap equals `pn % D`
    as long as the head entry sits at `head.pn % D` and `pn` is inside the window `[head.pn, head.pn + D)`.
    So both indexing styles address the same slot, for picture numbers of any size. -/
theorem windowIndex_eq (D pn headPn : Nat) (hD : 0 < D) (h1 : headPn ≤ pn) (h2 : pn < headPn + D) :
    windowIndex D (headPn % D) (pn - headPn) = pn % D := by
  have hr : headPn % D < D := Nat.mod_lt _ hD
  have e : pn % D = (headPn % D + (pn - headPn)) % D := by
    rw [Nat.mod_add_mod, Nat.add_sub_cancel' h1]
  rw [e]
  unfold windowIndex
  generalize headPn % D = r at hr ⊢
  split
  · rw [Nat.mod_eq_sub_mod (by omega), Nat.mod_eq_of_lt (by omega)]
  · rw [Nat.mod_eq_of_lt (by omega)]

/-- Head advance `head == D−1 ? 0 : head+1` is `(head + 1) % D`, i.e. the head entry stays at `head.pn % D`. -/
theorem nextHead_eq (D h : Nat) (hD : 0 < D) : nextHead D (h % D) = (h + 1) % D := by
  have hr : h % D < D := Nat.mod_lt _ hD
  rw [← Nat.mod_add_mod]
  unfold nextHead
  split
  · next he => rw [he, Nat.sub_add_cancel hD, Nat.mod_self]
  · next hne => exact (Nat.mod_eq_of_lt (by omega)).symm

/-! `get i` is what slot `i` holds, `mem p` says picture `p` has arrived, `val p` is the entry of picture `p`. -/

section Slots
variable {α : Type} {D h : Nat} {mem : Nat → Prop} {val get get' : Nat → Option α}

/-- Slot `i` holds `v` iff `v` is the entry of an arrived picture `p ≥ h` with `p % D = i`. -/
def Slots (D h : Nat) (mem : Nat → Prop) (val get : Nat → Option α) : Prop :=
  ∀ i v, i < D → (get i = some v ↔ ∃ p, mem p ∧ h ≤ p ∧ p % D = i ∧ val p = some v)

theorem Slots.lookup (hs : Slots D h mem val get) (hD : 0 < D) (hwin : ∀ p, mem p → p < h + D)
    {p : Nat} (hp0 : h ≤ p) (hp1 : p < h + D) {v : α} : get (p % D) = some v ↔ mem p ∧ val p = some v := by
  rw [hs _ v (Nat.mod_lt _ hD)]
  constructor
  · rintro ⟨p', hp', hp0', hpm, hv⟩
    obtain rfl := eq_of_mod_eq_of_window hp0' (hwin p' hp') hp0 hp1 hpm
    exact ⟨hp', hv⟩
  · rintro ⟨hp, hv⟩; exact ⟨p, hp, hp0, rfl, hv⟩

theorem Slots.insert (hs : Slots D h mem val get) (hD : 0 < D) (hwin : ∀ p, mem p → p < h + D)
    {a : Nat} {v : α} (hnew : ¬ mem a) (hge : h ≤ a) (ha : a < h + D) (hv : val a = some v)
    {mem' : Nat → Prop} (hmem : ∀ p, mem' p ↔ p = a ∨ mem p)
    (hget : ∀ j, get' j = if a % D = j then some v else get j) :
    get (a % D) = none ∧ Slots D h mem' val get' := by
  have hlook := fun w => hs.lookup (v := w) hD hwin hge ha
  refine ⟨?_, fun i w hi => ?_⟩
  · cases hg : get (a % D) with
    | none => rfl
    | some w => exact absurd ((hlook w).1 hg).1 hnew
  · rw [hget]
    split
    · next hij =>
      constructor
      · intro e; exact ⟨a, (hmem a).2 (Or.inl rfl), hge, hij, hv.trans e⟩
      · rintro ⟨p, hp, hp0, hpm, hpe⟩
        rcases (hmem p).1 hp with rfl | hp
        · exact hv.symm.trans hpe
        · exact absurd ((hlook w).1 ((hs _ w (Nat.mod_lt _ hD)).2 ⟨p, hp, hp0, hpm.trans hij.symm, hpe⟩)).1 hnew
    · next hij =>
      rw [hs i w hi]
      constructor
      · rintro ⟨p, hp, r⟩; exact ⟨p, (hmem p).2 (Or.inr hp), r⟩
      · rintro ⟨p, hp, hp0, hpm, hpe⟩
        rcases (hmem p).1 hp with rfl | hp
        · exact absurd hpm hij
        · exact ⟨p, hp, hp0, hpm, hpe⟩

theorem Slots.release (hs : Slots D h mem val get) (hwin : ∀ p, mem p → p < h + D) {n : Nat}
    {C : Nat → Prop} [∀ j, Decidable (C j)] (hC : ∀ j, C j ↔ ∃ k, k < n ∧ (h + k) % D = j)
    (hget : ∀ j, get' j = if C j then none else get j) : Slots D (h + n) mem val get' := by
  intro i v hi
  rw [hget]
  constructor
  · intro hg
    split at hg
    · cases hg
    · next hc =>
      obtain ⟨p, hp, hp0, hpm, hpe⟩ := (hs i v hi).1 hg
      refine ⟨p, hp, ?_, hpm, hpe⟩
      by_contra hlt
      exact hc ((hC i).2 ⟨p - h, by omega, by rw [Nat.add_sub_cancel' hp0]; exact hpm⟩)
  · rintro ⟨p, hp, hp0, hpm, hpe⟩
    rw [if_neg, hs i v hi]
    · exact ⟨p, hp, by omega, hpm, hpe⟩
    · -- a cleared slot `(h + k) % D` is not the slot of a picture at or after the new head
      intro hc
      obtain ⟨k, hk, hke⟩ := (hC i).1 hc
      have hpw := hwin p hp
      have := eq_of_mod_eq_of_window (h := h) (by omega) hpw (Nat.le_add_right h k) (by omega)
        (hpm.trans hke.symm)
      omega

theorem slots_iff {get : Nat → Option Nat} :
    (∀ i p, i < D → (get i = some p ↔ (mem p ∧ h ≤ p ∧ p % D = i))) ↔ Slots D h mem some get := by
  refine forall_congr' fun i => forall_congr' fun p => imp_congr_right fun _ => iff_congr Iff.rfl ?_
  exact ⟨fun ⟨a, b, c⟩ => ⟨p, a, b, c, rfl⟩, fun ⟨p', a, b, c, e⟩ => Option.some.inj e ▸ ⟨a, b, c⟩⟩

end Slots

theorem slotAt_set {l : List (Option Nat)} {i j : Nat} {v : Option Nat} (hi : i < l.length) :
    slotAt (l.set i v) j = if i = j then v else slotAt l j := by
  unfold slotAt
  rw [List.getElem?_set]
  by_cases hij : i = j
  · subst hij; simp [hi]
  · simp [hij]

theorem slotAt_replicate (D i : Nat) : slotAt (List.replicate D none) i = none := by
  unfold slotAt
  rw [List.getElem?_replicate]
  split <;> simp_all

/-- `seen` = pictures that have arrived; `h` = ghost "head picture number": everything below it has been emitted. -/
structure Inv (D : Nat) (seen : List Nat) (h : Nat) (q : Q) : Prop where
  len    : q.slots.length = D
  head   : q.headIdx = h % D
  out    : q.outRev = (List.range h).reverse
  clob   : q.clobbered = false
  below  : ∀ k, k < h → k ∈ seen
  window : ∀ a, a ∈ seen → a < h + D
  slot   : ∀ i p, i < D → (slotAt q.slots i = some p ↔ (p ∈ seen ∧ h ≤ p ∧ p % D = i))

theorem Inv.slots {D : Nat} {seen : List Nat} {h : Nat} {q : Q} (inv : Inv D seen h q) :
    Slots D h (· ∈ seen) some (slotAt q.slots) := slots_iff.1 inv.slot

theorem inv_init (D : Nat) : Inv D [] 0 (init D) where
  len := by simp [init]
  head := by simp [init]
  out := by simp [init]
  clob := rfl
  below := by intro k hk; omega
  window := by intro a ha; simp at ha
  slot := by
    intro i p _
    simp [init, slotAt_replicate]

theorem inv_insert {D : Nat} {seen : List Nat} {h : Nat} {q : Q} (hD : 0 < D) (inv : Inv D seen h q)
    {a : Nat} (hnew : a ∉ seen) (hwin : a < h + D) : Inv D (a :: seen) h (insert D q a) := by
  have hge : h ≤ a := Nat.le_of_not_lt (fun hlt => hnew (inv.below a hlt))
  have hai : a % D < D := Nat.mod_lt _ hD
  obtain ⟨hempty, hslot⟩ := inv.slots.insert hD inv.window hnew hge hwin rfl
    (fun _ => List.mem_cons) (fun j => slotAt_set (v := some a) (j := j) (by rw [inv.len]; exact hai))
  refine ⟨List.length_set.trans inv.len, inv.head, inv.out, ?_, fun k hk => List.mem_cons_of_mem _ (inv.below k hk),
    List.forall_mem_cons.2 ⟨hwin, inv.window⟩, slots_iff.2 hslot⟩
  show (q.clobbered || (slotAt q.slots (a % D)).isSome) = false
  rw [inv.clob, hempty]; rfl

theorem inv_pop {D : Nat} {seen : List Nat} {h : Nat} {q : Q} (hD : 0 < D) (inv : Inv D seen h q)
    {p : Nat} (hs : slotAt q.slots q.headIdx = some p) :
    Inv D seen (h + 1)
      { q with slots := q.slots.set q.headIdx none, headIdx := (q.headIdx + 1) % D, outRev := p :: q.outRev } := by
  have hhi : h % D < D := Nat.mod_lt _ hD
  rw [inv.head] at hs
  obtain ⟨hp, hph⟩ := (inv.slots.lookup hD inv.window (Nat.le_refl h) (Nat.lt_add_of_pos_right hD)).1 hs
  obtain rfl := Option.some.inj hph
  refine ⟨?_, ?_, ?_, inv.clob, ?_, ?_, ?_⟩
  · exact List.length_set.trans inv.len
  · show (q.headIdx + 1) % D = (h + 1) % D
    rw [inv.head, Nat.mod_add_mod]
  · show h :: q.outRev = _
    rw [inv.out, List.range_succ, List.reverse_append]; rfl
  · intro k hk
    rcases Nat.lt_succ_iff_lt_or_eq.1 hk with hk | rfl
    · exact inv.below k hk
    · exact hp
  · intro a ha; have := inv.window a ha; omega
  · refine slots_iff.2 (inv.slots.release inv.window (C := fun j => h % D = j)
      (fun j => ⟨fun e => ⟨0, Nat.one_pos, e⟩, fun ⟨k, hk, e⟩ => by obtain rfl : k = 0 := (by omega); exact e⟩)
      (fun j => ?_))
    show slotAt (q.slots.set q.headIdx none) j = _
    rw [inv.head, slotAt_set (by rw [inv.len]; exact hhi)]

theorem inv_drain {D : Nat} {seen : List Nat} (hD : 0 < D) :
    ∀ (fuel : Nat) {h : Nat} {q : Q}, Inv D seen h q →
      ∃ h', Inv D seen h' (drain D fuel q) ∧ (h' ∉ seen ∨ h' = h + fuel) := by
  intro fuel
  induction fuel with
  | zero => intro h q inv; exact ⟨h, inv, Or.inr rfl⟩
  | succ f ih =>
    intro h q inv
    unfold drain
    cases hs : slotAt q.slots q.headIdx with
    | none =>
      refine ⟨h, inv, Or.inl ?_⟩
      intro hmem
      have := (inv.slot (h % D) h (Nat.mod_lt _ hD)).2 ⟨hmem, Nat.le_refl _, rfl⟩
      rw [inv.head] at hs; rw [hs] at this; cases this
    | some p =>
      obtain ⟨h', inv', hor⟩ := ih (inv_pop hD inv hs)
      refine ⟨h', inv', ?_⟩
      rcases hor with hn | he
      · exact Or.inl hn
      · exact Or.inr (by omega)

theorem inv_step {D : Nat} {seen : List Nat} {h : Nat} {q : Q} (hD : 0 < D) (inv : Inv D seen h q)
    {a : Nat} (hnew : a ∉ seen) (hwin : a < h + D) :
    ∃ h', Inv D (a :: seen) h' (step D q a) ∧ h' ∉ (a :: seen) := by
  have inv1 := inv_insert hD inv hnew hwin
  obtain ⟨h', inv2, hor⟩ := inv_drain hD D inv1
  refine ⟨h', inv2, ?_⟩
  rcases hor with hn | he
  · exact hn
  · intro hmem
    have := inv1.window h' hmem
    omega

theorem windowedFrom_cons {D : Nat} {seen : List Nat} {a : Nat} {rest : List Nat} :
    windowedFrom D seen (a :: rest) = true ↔
      (∀ k, k + D ≤ a → k ∈ seen) ∧ windowedFrom D (a :: seen) rest = true := by
  simp only [windowedFrom, Bool.and_eq_true, List.all_eq_true, List.mem_range, decide_eq_true_eq]
  constructor
  · rintro ⟨h1, h2⟩; exact ⟨fun k hk => h1 k (by omega), h2⟩
  · rintro ⟨h1, h2⟩; exact ⟨fun k hk => h1 k (by omega), h2⟩

theorem windowed_head_iff {D : Nat} {seen : List Nat} {h a : Nat}
    (hbelow : ∀ k, k < h → k ∈ seen) (hhead : h ∉ seen) :
    (∀ k, k + D ≤ a → k ∈ seen) ↔ a < h + D := by
  constructor
  · intro hall
    by_contra hge
    exact hhead (hall h (by omega))
  · intro hlt k hk
    exact hbelow k (by omega)

theorem run_loop {D : Nat} (hD : 0 < D) :
    ∀ (rest seen : List Nat) (h : Nat) (q : Q), Inv D seen h q → h ∉ seen →
      rest.Nodup → (∀ a, a ∈ rest → a ∉ seen) → windowedFrom D seen rest = true →
      ∃ h', Inv D (rest.reverse ++ seen) h' (rest.foldl (step D) q) ∧ h' ∉ (rest.reverse ++ seen) := by
  intro rest
  induction rest with
  | nil => intro seen h q inv hh _ _ _; exact ⟨h, by simpa using inv, by simpa using hh⟩
  | cons a rest ih =>
    intro seen h q inv hh hnd hdisj hw
    obtain ⟨hwa, hwr⟩ := windowedFrom_cons.1 hw
    have hnew : a ∉ seen := hdisj a List.mem_cons_self
    have hwin : a < h + D := (windowed_head_iff inv.below hh).1 hwa
    obtain ⟨h1, inv1, hh1⟩ := inv_step hD inv hnew hwin
    have hnd' := List.nodup_cons.1 hnd
    obtain ⟨h', inv', hh'⟩ := ih (a :: seen) h1 (step D q a) inv1 hh1 hnd'.2
      (by
        intro b hb hmem
        rcases List.mem_cons.1 hmem with rfl | hmem
        · exact hnd'.1 hb
        · exact hdisj b (List.mem_cons_of_mem _ hb) hmem)
      hwr
    refine ⟨h', ?_, ?_⟩
    · simpa [List.foldl_cons, List.reverse_cons, List.append_assoc] using inv'
    · simpa [List.reverse_cons, List.append_assoc] using hh'

/-- **Circular reorder queue, any stream length** (`C22.circ_queue_inorder`): `n` is arbitrary, the queue wraps around
    any number of times. -/
theorem run_inorder (D : Nat) (hD : 0 < D) (arrivals : List Nat) (n : Nat)
    (hperm : arrivals.Perm (List.range n)) (hwin : Windowed D arrivals) :
    (run D arrivals).out = List.range n ∧ (run D arrivals).clobbered = false := by
  have hnd : arrivals.Nodup := (List.Perm.nodup_iff hperm).2 List.nodup_range
  obtain ⟨h', inv, hh⟩ := run_loop hD arrivals [] 0 (init D) (inv_init D) (by simp) hnd (by simp) hwin
  simp only [List.append_nil] at inv hh
  have hmem : ∀ k, k ∈ arrivals.reverse ↔ k < n := by
    intro k; rw [List.mem_reverse, hperm.mem_iff, List.mem_range]
  have hn : h' = n := by
    have h1 : ¬ h' < n := fun hlt => hh ((hmem h').2 hlt)
    have h2 : ¬ n < h' := fun hlt => by
      have := (hmem n).1 (inv.below n hlt); omega
    omega
  subst hn
  constructor
  · show (runQ D arrivals).outRev.reverse = _
    unfold runQ; rw [inv.out, List.reverse_reverse]
  · exact inv.clob

/-- Non-vacuity: depth 4, 10 pictures (the queue wraps twice), out-of-order arrivals inside the window. -/
example : Windowed 4 [1, 0, 3, 2, 5, 4, 7, 6, 9, 8] ∧
    (run 4 [1, 0, 3, 2, 5, 4, 7, 6, 9, 8]) = { out := List.range 10, clobbered := false } := by decide

/-- The window hypothesis is needed (1): with depth 4, picture 5 arriving while pictures 0 and 1 are still
    pending is written into slot 1; when picture 1 then arrives it overwrites picture 5 (`clobbered`, the C
    code has no occupancy test at the insert), and picture 5 is lost for good: the output stops at
    `[0,1,2,3,4]` although all 6 pictures arrived. -/
theorem clobber_when_window_violated :
    ¬ Windowed 4 [5, 1, 0, 2, 3, 4] ∧
    run 4 [5, 1, 0, 2, 3, 4] = { out := [0, 1, 2, 3, 4], clobbered := true } := by decide

/-- The window hypothesis is needed (2): picture 4 arriving while picture 0 is pending lands in the head
    slot and is emitted at once (the drain tests only "head slot occupied", as `count_frames_in_next_tu`
    tests only `output_stream_wrapper_ptr != NULL`): order is broken without any clobbering. -/
theorem misorder_when_window_violated :
    ¬ Windowed 4 [4, 0, 1, 2, 3] ∧
    run 4 [4, 0, 1, 2, 3] = { out := [4, 1, 2, 3, 0], clobbered := false } := by decide

end Reorder
