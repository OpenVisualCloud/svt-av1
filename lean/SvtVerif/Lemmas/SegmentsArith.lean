/-
  C24 — pure `Nat` arithmetic of the EncDec wavefront segment geometry
  (`enc_dec_segments_init`, Source/Lib/Encoder/Codec/EbEncDecSegments.c:72-168 and the macros
  ROW_INDEX / BAND_INDEX / SEGMENT_INDEX of EbEncDecSegments.h:33-40).

  Parameters: `W H` picture size in SBs, `Cc Rr` the clamped segment column / row counts
  (`1 ≤ Cc ≤ W`, `1 ≤ Rr ≤ H`), `B = segB Rr Cc = Rr + Cc - 1` the segment band count,
  `T = sbT W H = H + W - 1` the SB band count.

-/
import SvtVerif.Lemmas.Segments

namespace Seg

/-- `ROW_INDEX(y, Rr, H)` -/
def rowOf (Rr H y : Nat) : Nat := y * Rr / H
/-- `BAND_INDEX` with `s = x + y` -/
def bandOf (B T s : Nat) : Nat := s * B / T
/-- first SB row of segment row `r` (`ceil (r*H/Rr)`), as in init's row loop (line 125) -/
def y0 (Rr H r : Nat) : Nat := (r * H + (Rr - 1)) / Rr
/-- segment band count `BAND_TOTAL_COUNT(Rr, Cc)` -/
def segB (Rr Cc : Nat) : Nat := Rr + Cc - 1
/-- SB band count `BAND_TOTAL_COUNT(H, W)` -/
def sbT (W H : Nat) : Nat := H + W - 1
/-- band of SB `(0, y0 r)` -/
def startBand (W H Cc Rr r : Nat) : Nat := bandOf (segB Rr Cc) (sbT W H) (y0 Rr H r)
/-- band of SB `(W-1, y_last r)` -/
def endBand (W H Cc Rr r : Nat) : Nat :=
  bandOf (segB Rr Cc) (sbT W H) ((W - 1) + (y0 Rr H (r + 1) - 1))
/-- closed-form `starting_seg_index` of row `r` -/
def cst (W H Cc Rr r : Nat) : Nat := r * segB Rr Cc + startBand W H Cc Rr r
/-- closed-form `ending_seg_index` of row `r` -/
def cen (W H Cc Rr r : Nat) : Nat := r * segB Rr Cc + endBand W H Cc Rr r
/-- closed-form `SEGMENT_INDEX` of SB `(x, y)` -/
def cseg (W H Cc Rr x y : Nat) : Nat :=
  rowOf Rr H y * segB Rr Cc + bandOf (segB Rr Cc) (sbT W H) (x + y)

theorem rowOf_mono (Rr H : Nat) {y y' : Nat} (h : y ≤ y') : rowOf Rr H y ≤ rowOf Rr H y' :=
  Nat.div_le_div_right (Nat.mul_le_mul_right _ h)

theorem rowOf_succ_le {Rr H : Nat} (hH : 0 < H) (hRH : Rr ≤ H) (y : Nat) :
    rowOf Rr H (y + 1) ≤ rowOf Rr H y + 1 := by
  unfold rowOf
  rw [← Nat.add_div_right _ hH, Nat.succ_mul]
  exact Nat.div_le_div_right (Nat.add_le_add_left hRH _)

theorem rowOf_lt {Rr H y : Nat} (hR : 0 < Rr) (hy : y < H) : rowOf Rr H y < Rr := by
  unfold rowOf
  rw [Nat.div_lt_iff_lt_mul (Nat.zero_lt_of_lt hy), Nat.mul_comm Rr H]
  exact Nat.mul_lt_mul_of_pos_right hy hR

/- `bandOf B T = rowOf B T` by definition: BAND_INDEX and ROW_INDEX are one scaling. -/
theorem bandOf_mono (B T : Nat) {s s' : Nat} (h : s ≤ s') : bandOf B T s ≤ bandOf B T s' :=
  rowOf_mono B T h

theorem bandOf_succ_le {B T : Nat} (hT : 0 < T) (hBT : B ≤ T) (s : Nat) :
    bandOf B T (s + 1) ≤ bandOf B T s + 1 := rowOf_succ_le hT hBT s

theorem bandOf_lt {B T s : Nat} (hB : 0 < B) (hs : s < T) : bandOf B T s < B := rowOf_lt hB hs

theorem segB_le_sbT {W H Cc Rr : Nat} (hCW : Cc ≤ W) (hRH : Rr ≤ H) : segB Rr Cc ≤ sbT W H :=
  Nat.sub_le_sub_right (Nat.add_le_add hRH hCW) 1

theorem segB_pos {Cc Rr : Nat} (hC : 1 ≤ Cc) (hR : 1 ≤ Rr) : 0 < segB Rr Cc :=
  Nat.sub_pos_of_lt (Nat.add_le_add hR hC)

theorem sbT_pos {W H : Nat} (hW : 1 ≤ W) (hH : 1 ≤ H) : 0 < sbT W H :=
  Nat.sub_pos_of_lt (Nat.add_le_add hH hW)

theorem add_lt_sbT {W H x y : Nat} (hx : x < W) (hy : y < H) : x + y < sbT W H := by
  unfold sbT; omega

theorem y0_zero {Rr : Nat} (hR : 0 < Rr) (H : Nat) : y0 Rr H 0 = 0 := by
  unfold y0
  rw [Nat.zero_mul, Nat.zero_add]
  exact Nat.div_eq_of_lt (Nat.sub_lt hR Nat.one_pos)

theorem y0_self {Rr : Nat} (hR : 0 < Rr) (H : Nat) : y0 Rr H Rr = H := by
  unfold y0
  rw [Nat.add_comm, Nat.add_mul_div_left _ _ hR, Nat.div_eq_of_lt (Nat.sub_lt hR Nat.one_pos),
    Nat.zero_add]

theorem y0_le_iff {Rr : Nat} (hR : 0 < Rr) (H r y : Nat) : y0 Rr H r ≤ y ↔ r * H ≤ y * Rr := by
  unfold y0
  rw [Nat.div_le_iff_le_mul_add_pred hR, Nat.add_le_add_iff_right, Nat.mul_comm Rr y]

theorem lt_y0_iff {Rr : Nat} (hR : 0 < Rr) (H r y : Nat) : y < y0 Rr H r ↔ y * Rr < r * H := by
  rw [← Nat.not_le, y0_le_iff hR, Nat.not_le]

theorem le_rowOf_iff {H : Nat} (hH : 0 < H) (Rr r y : Nat) : r ≤ rowOf Rr H y ↔ r * H ≤ y * Rr :=
  Nat.le_div_iff_mul_le hH

theorem y0_le_iff_le_rowOf {Rr H : Nat} (hR : 0 < Rr) (hH : 0 < H) (r y : Nat) :
    y0 Rr H r ≤ y ↔ r ≤ rowOf Rr H y := by
  rw [y0_le_iff hR, le_rowOf_iff hH]

theorem lt_y0_iff_rowOf_lt {Rr H : Nat} (hR : 0 < Rr) (hH : 0 < H) (r y : Nat) :
    y < y0 Rr H r ↔ rowOf Rr H y < r := by
  rw [← Nat.not_le, y0_le_iff_le_rowOf hR hH, Nat.not_le]

theorem rowOf_eq_iff {Rr H : Nat} (hR : 0 < Rr) (hH : 0 < H) (r y : Nat) :
    rowOf Rr H y = r ↔ y0 Rr H r ≤ y ∧ y < y0 Rr H (r + 1) := by
  rw [y0_le_iff_le_rowOf hR hH, lt_y0_iff_rowOf_lt hR hH, Nat.lt_succ_iff, and_comm]
  exact Nat.le_antisymm_iff

theorem y0_rowOf_le {Rr H : Nat} (hR : 0 < Rr) (hH : 0 < H) (y : Nat) :
    y0 Rr H (rowOf Rr H y) ≤ y := (y0_le_iff_le_rowOf hR hH _ y).2 (Nat.le_refl _)

theorem lt_y0_rowOf_succ {Rr H : Nat} (hR : 0 < Rr) (hH : 0 < H) (y : Nat) :
    y < y0 Rr H (rowOf Rr H y + 1) := (lt_y0_iff_rowOf_lt hR hH _ y).2 (Nat.lt_succ_self _)

theorem y0_mono {Rr : Nat} (H : Nat) {r r' : Nat} (h : r ≤ r') : y0 Rr H r ≤ y0 Rr H r' :=
  Nat.div_le_div_right (Nat.add_le_add_right (Nat.mul_le_mul_right _ h) _)

theorem y0_le_H {Rr : Nat} (hR : 0 < Rr) (H : Nat) {r : Nat} (h : r ≤ Rr) : y0 Rr H r ≤ H := by
  have := y0_mono (Rr := Rr) H h
  rwa [y0_self hR] at this

theorem y0_lt_succ {Rr H : Nat} (hR : 0 < Rr) (hRH : Rr ≤ H) (r : Nat) :
    y0 Rr H r < y0 Rr H (r + 1) := by
  rw [lt_y0_iff hR, Nat.succ_mul]
  calc y0 Rr H r * Rr ≤ r * H + (Rr - 1) := Nat.div_mul_le_self _ _
    _ < r * H + H := Nat.add_lt_add_left (Nat.lt_of_lt_of_le (Nat.sub_lt hR Nat.one_pos) hRH) _

theorem y0_succ_pos {Rr H : Nat} (hR : 0 < Rr) (hRH : Rr ≤ H) (r : Nat) : 1 ≤ y0 Rr H (r + 1) :=
  Nat.zero_lt_of_lt (y0_lt_succ hR hRH r)

theorem rowOf_y0 {Rr H : Nat} (hR : 0 < Rr) (hRH : Rr ≤ H) (r : Nat) :
    rowOf Rr H (y0 Rr H r) = r :=
  (rowOf_eq_iff hR (Nat.lt_of_lt_of_le hR hRH) r _).2 ⟨Nat.le_refl _, y0_lt_succ hR hRH r⟩

theorem rowOf_y0_succ_pred {Rr H : Nat} (hR : 0 < Rr) (hRH : Rr ≤ H) (r : Nat) :
    rowOf Rr H (y0 Rr H (r + 1) - 1) = r :=
  (rowOf_eq_iff hR (Nat.lt_of_lt_of_le hR hRH) r _).2
    ⟨Nat.le_sub_one_of_lt (y0_lt_succ hR hRH r), Nat.sub_lt (y0_succ_pos hR hRH r) Nat.one_pos⟩

section
variable {W H Cc Rr : Nat}

theorem startBand_le_bandOf (hR : 0 < Rr) (hH : 0 < H) (x y : Nat) :
    startBand W H Cc Rr (rowOf Rr H y) ≤ bandOf (segB Rr Cc) (sbT W H) (x + y) :=
  bandOf_mono _ _ (Nat.le_trans (y0_rowOf_le hR hH y) (Nat.le_add_left y x))

theorem bandOf_le_endBand (hR : 0 < Rr) (hH : 0 < H) {x : Nat} (hx : x < W) (y : Nat) :
    bandOf (segB Rr Cc) (sbT W H) (x + y) ≤ endBand W H Cc Rr (rowOf Rr H y) :=
  bandOf_mono _ _
    (Nat.add_le_add (Nat.le_sub_one_of_lt hx) (Nat.le_sub_one_of_lt (lt_y0_rowOf_succ hR hH y)))

theorem cst_le_cseg (hR : 0 < Rr) (hH : 0 < H) (x y : Nat) :
    cst W H Cc Rr (rowOf Rr H y) ≤ cseg W H Cc Rr x y :=
  Nat.add_le_add_left (startBand_le_bandOf hR hH x y) _

theorem cseg_le_cen (hR : 0 < Rr) (hH : 0 < H) {x : Nat} (hx : x < W) (y : Nat) :
    cseg W H Cc Rr x y ≤ cen W H Cc Rr (rowOf Rr H y) :=
  Nat.add_le_add_left (bandOf_le_endBand hR hH hx y) _

theorem startBand_le_endBand (hR : 0 < Rr) (hRH : Rr ≤ H) (r : Nat) :
    startBand W H Cc Rr r ≤ endBand W H Cc Rr r :=
  bandOf_mono _ _ (Nat.le_trans (Nat.le_sub_one_of_lt (y0_lt_succ hR hRH r)) (Nat.le_add_left _ _))

theorem cst_le_cen (hR : 0 < Rr) (hRH : Rr ≤ H) (r : Nat) :
    cst W H Cc Rr r ≤ cen W H Cc Rr r :=
  Nat.add_le_add_left (startBand_le_endBand hR hRH r) _

/-- `endBand r` is the band of the SB `(W-1, y0 (r+1) - 1)` of the picture -/
theorem endBand_lt (hW : 1 ≤ W) (hC : 1 ≤ Cc) (hR : 0 < Rr) (hRH : Rr ≤ H) {r : Nat} (hr : r < Rr) :
    endBand W H Cc Rr r < segB Rr Cc :=
  bandOf_lt (segB_pos hC hR) (add_lt_sbT (Nat.sub_lt hW Nat.one_pos)
    (Nat.lt_of_lt_of_le (Nat.sub_lt (y0_succ_pos hR hRH r) Nat.one_pos) (y0_le_H hR H hr)))

theorem startBand_lt (hW : 1 ≤ W) (hC : 1 ≤ Cc) (hR : 0 < Rr) (hRH : Rr ≤ H) {r : Nat} (hr : r < Rr) :
    startBand W H Cc Rr r < segB Rr Cc :=
  Nat.lt_of_le_of_lt (startBand_le_endBand hR hRH r) (endBand_lt hW hC hR hRH hr)

theorem startBand_mono {r r' : Nat} (h : r ≤ r') :
    startBand W H Cc Rr r ≤ startBand W H Cc Rr r' :=
  bandOf_mono _ _ (y0_mono H h)

theorem endBand_mono {r r' : Nat} (h : r ≤ r') :
    endBand W H Cc Rr r ≤ endBand W H Cc Rr r' :=
  bandOf_mono _ _
    (Nat.add_le_add_left (Nat.sub_le_sub_right (y0_mono H (Nat.succ_le_succ h)) 1) _)

/-- KEY: with at least two SB columns, the band ranges of consecutive segment rows overlap. -/
theorem startBand_succ_le_endBand (hW : 2 ≤ W) (hR : 0 < Rr) (hRH : Rr ≤ H) (r : Nat) :
    startBand W H Cc Rr (r + 1) ≤ endBand W H Cc Rr r := by
  refine bandOf_mono _ _ ?_
  calc y0 Rr H (r + 1) = 1 + (y0 Rr H (r + 1) - 1) :=
        (Nat.add_sub_cancel' (y0_succ_pos hR hRH r)).symm
    _ ≤ (W - 1) + (y0 Rr H (r + 1) - 1) := Nat.add_le_add_right (Nat.le_sub_one_of_lt hW) _

theorem succ_mul_add (r B m : Nat) : (r + 1) * B + m = r * B + m + B := by
  rw [Nat.succ_mul, Nat.add_right_comm]

/-- hence the bottom-edge condition `cst (r+1) ≤ cen r + B` holds for every row (`2 ≤ W`). -/
theorem cst_succ_le_cen_add (hW : 2 ≤ W) (hR : 0 < Rr) (hRH : Rr ≤ H) (r : Nat) :
    cst W H Cc Rr (r + 1) ≤ cen W H Cc Rr r + segB Rr Cc := by
  unfold cst cen
  rw [succ_mul_add]
  exact Nat.add_le_add_right (Nat.add_le_add_left (startBand_succ_le_endBand hW hR hRH r) _) _

/-- structural facts used by `wfCheck`: `r*B ≤ cst r`, `cen r < (r+1)*B`. -/
theorem le_cst (r : Nat) : r * segB Rr Cc ≤ cst W H Cc Rr r := Nat.le_add_right _ _

theorem cen_lt (hW : 1 ≤ W) (hC : 1 ≤ Cc) (hR : 0 < Rr) (hRH : Rr ≤ H) {r : Nat} (hr : r < Rr) :
    cen W H Cc Rr r < (r + 1) * segB Rr Cc := by
  rw [Nat.succ_mul]
  exact Nat.add_lt_add_left (endBand_lt hW hC hR hRH hr) _

theorem cst_add_le_cst_succ (r : Nat) :
    cst W H Cc Rr r + segB Rr Cc ≤ cst W H Cc Rr (r + 1) := by
  unfold cst
  rw [succ_mul_add]
  exact Nat.add_le_add_right (Nat.add_le_add_left (startBand_mono (Nat.le_succ r)) _) _

theorem cen_add_le_cen_succ (r : Nat) :
    cen W H Cc Rr r + segB Rr Cc ≤ cen W H Cc Rr (r + 1) := by
  unfold cen
  rw [succ_mul_add]
  exact Nat.add_le_add_right (Nat.add_le_add_left (endBand_mono (Nat.le_succ r)) _) _

/-! ### the negative: a one-SB-wide picture (`W = 1`, hence `Cc = 1`, `B = Rr`, `T = H`) with `Rr` segment rows.
  This is the geometry of `enc_dec_segments_init` without the clamp of EbEncDecSegments.c:83; with the clamp the code
  only ever uses `Rr = 1` here (`effR_W1`). -/

theorem startBand_W1 (hR : 0 < Rr) (hRH : Rr ≤ H) (r : Nat) :
    startBand 1 H 1 Rr r = r := by
  unfold startBand segB sbT
  rw [Nat.add_sub_cancel, Nat.add_sub_cancel]
  exact rowOf_y0 hR hRH r

theorem endBand_W1 (hR : 0 < Rr) (hRH : Rr ≤ H) (r : Nat) :
    endBand 1 H 1 Rr r = r := by
  unfold endBand segB sbT
  rw [Nat.add_sub_cancel, Nat.add_sub_cancel, Nat.sub_self, Nat.zero_add]
  exact rowOf_y0_succ_pred hR hRH r

/-- NEGATIVE: for `W = 1` the first segment of row `r+1` lies strictly beyond `cen r + B`:
    the init code's bottom-edge test `seg + B ≥ starting(r+1)` fails for every segment of row `r`
    (row `r` consists of the single segment `cst r = cen r = r*B + r`). -/
theorem no_bottom_edge_W1 (hR : 0 < Rr) (hRH : Rr ≤ H) (r : Nat) :
    startBand 1 H 1 Rr (r + 1) = r + 1 ∧ endBand 1 H 1 Rr r = r ∧
    cst 1 H 1 Rr r = cen 1 H 1 Rr r ∧
    cen 1 H 1 Rr r + segB Rr 1 < cst 1 H 1 Rr (r + 1) := by
  refine ⟨startBand_W1 hR hRH _, endBand_W1 hR hRH _, ?_, ?_⟩
  · unfold cst cen; rw [startBand_W1 hR hRH, endBand_W1 hR hRH]
  · unfold cst cen
    rw [startBand_W1 hR hRH, endBand_W1 hR hRH, succ_mul_add]
    exact Nat.add_lt_add_right (Nat.add_lt_add_left (Nat.lt_succ_self r) _) _

/-- The edge relation whose in-degrees the init code (lines 146-165) stores in `dependency_map`:
    a *right* edge `s → s+1` for every `s` of a row `r` with `s < ending(r)` (line 155), and a
    *bottom* edge `s → s+B` for every `s` of a row `r < Rr-1` with `s + B ≥ starting(r+1)` (line 159). -/
def cEdge (W H Cc Rr s t : Nat) : Prop :=
  (t = s + 1 ∧ ∃ r, r < Rr ∧ cst W H Cc Rr r ≤ s ∧ s < cen W H Cc Rr r) ∨
  (t = s + segB Rr Cc ∧ ∃ r, r + 1 < Rr ∧ cst W H Cc Rr r ≤ s ∧ s ≤ cen W H Cc Rr r ∧
      cst W H Cc Rr (r + 1) ≤ s + segB Rr Cc)

/-- `s = t` or `t` is reachable from `s` through one or more edges -/
def Reach (W H Cc Rr s t : Nat) : Prop := s = t ∨ Relation.TransGen (cEdge W H Cc Rr) s t

theorem Reach.refl (s : Nat) : Reach W H Cc Rr s s := Or.inl rfl

theorem Reach.trans {a b c : Nat} (h1 : Reach W H Cc Rr a b) (h2 : Reach W H Cc Rr b c) :
    Reach W H Cc Rr a c := by
  rcases h1 with rfl | h1
  · exact h2
  · rcases h2 with rfl | h2
    · exact Or.inr h1
    · exact Or.inr (h1.trans h2)

theorem Reach.tail {a b c : Nat} (h1 : Reach W H Cc Rr a b) (h2 : cEdge W H Cc Rr b c) :
    Reach W H Cc Rr a c :=
  Reach.trans h1 (Or.inr (Relation.TransGen.single h2))

theorem reach_row {r a b : Nat} (hr : r < Rr) (ha : cst W H Cc Rr r ≤ a) (hab : a ≤ b)
    (hb : b ≤ cen W H Cc Rr r) : Reach W H Cc Rr a b := by
  induction b, hab using Nat.le_induction with
  | base => exact Reach.refl a
  | succ b hab ih =>
    exact (ih (Nat.le_of_succ_le hb)).tail (Or.inl ⟨rfl, r, hr, Nat.le_trans ha hab, hb⟩)

/-- From band `b'` of row `r` to a band `b ≥ b'` of row `r + 1`: right edges to a pivot band `m`
    that both rows have, the bottom edge at `m`, right edges again. -/
theorem reach_succ_row {r b' b : Nat} (hr : r + 1 < Rr)
    (hov : startBand W H Cc Rr (r + 1) ≤ endBand W H Cc Rr r)
    (h1' : startBand W H Cc Rr r ≤ b') (h2' : b' ≤ endBand W H Cc Rr r)
    (h1 : startBand W H Cc Rr (r + 1) ≤ b) (h2 : b ≤ endBand W H Cc Rr (r + 1)) (hbb : b' ≤ b) :
    Reach W H Cc Rr (r * segB Rr Cc + b') ((r + 1) * segB Rr Cc + b) := by
  obtain ⟨m, hm1, hm2, hm3, hm4⟩ : ∃ m, b' ≤ m ∧ startBand W H Cc Rr (r + 1) ≤ m ∧
      m ≤ endBand W H Cc Rr r ∧ m ≤ b :=
    ⟨max b' (startBand W H Cc Rr (r + 1)), Nat.le_max_left _ _, Nat.le_max_right _ _,
      Nat.max_le.2 ⟨h2', hov⟩, Nat.max_le.2 ⟨hbb, h1⟩⟩
  have c1 : Reach W H Cc Rr (r * segB Rr Cc + b') (r * segB Rr Cc + m) :=
    reach_row (Nat.lt_of_succ_lt hr) (Nat.add_le_add_left h1' _) (Nat.add_le_add_left hm1 _)
      (Nat.add_le_add_left hm3 _)
  have e : cEdge W H Cc Rr (r * segB Rr Cc + m) ((r + 1) * segB Rr Cc + m) :=
    Or.inr ⟨succ_mul_add r _ m, r, hr, Nat.add_le_add_left (Nat.le_trans h1' hm1) _,
      Nat.add_le_add_left hm3 _, succ_mul_add r _ m ▸ Nat.add_le_add_left hm2 _⟩
  have c2 : Reach W H Cc Rr ((r + 1) * segB Rr Cc + m) ((r + 1) * segB Rr Cc + b) :=
    reach_row hr (Nat.add_le_add_left hm2 _) (Nat.add_le_add_left hm4 _) (Nat.add_le_add_left h2 _)
  exact (c1.tail e).trans c2

/-- General form: SB `(x', y')` in the same or the previous SB row, on the same or an earlier
    anti-diagonal. -/
theorem seg_deps_general (hR : 1 ≤ Rr) (hRH : Rr ≤ H)
    (hw : 2 ≤ W ∨ Rr = 1) {x y x' y' : Nat} (hx : x < W) (hy : y < H) (hx' : x' < W)
    (hy1 : y' ≤ y) (hy2 : y ≤ y' + 1) (hs : x' + y' ≤ x + y) :
    Reach W H Cc Rr (cseg W H Cc Rr x' y') (cseg W H Cc Rr x y) := by
  have hH : 0 < H := Nat.zero_lt_of_lt hy
  have hrlt : rowOf Rr H y < Rr := rowOf_lt hR hy
  have hbb : bandOf (segB Rr Cc) (sbT W H) (x' + y') ≤ bandOf (segB Rr Cc) (sbT W H) (x + y) :=
    bandOf_mono _ _ hs
  have h1 := startBand_le_bandOf (W := W) (Cc := Cc) hR hH x y
  have h2 := bandOf_le_endBand (W := W) (Cc := Cc) hR hH hx y
  have h1' := startBand_le_bandOf (W := W) (Cc := Cc) hR hH x' y'
  have h2' := bandOf_le_endBand (W := W) (Cc := Cc) hR hH hx' y'
  unfold cseg
  rcases Nat.eq_or_lt_of_le (rowOf_mono Rr H hy1) with he | hlt
  · -- same segment row
    rw [he] at h1' ⊢
    exact reach_row hrlt (Nat.add_le_add_left h1' _) (Nat.add_le_add_left hbb _)
      (Nat.add_le_add_left h2 _)
  · -- previous segment row
    have he : rowOf Rr H y = rowOf Rr H y' + 1 :=
      Nat.le_antisymm (Nat.le_trans (rowOf_mono Rr H hy2) (rowOf_succ_le hH hRH y')) hlt
    rw [he] at hrlt h1 h2 ⊢
    -- there is a previous segment row, so `Rr = 1` is impossible
    have hW2 : 2 ≤ W := hw.resolve_right fun h => Nat.lt_irrefl 1 <|
      Nat.lt_of_le_of_lt (Nat.le_add_left 1 _) (h ▸ hrlt)
    exact reach_succ_row hrlt (startBand_succ_le_endBand hW2 hR hRH _) h1' h2' h1 h2 hbb

/-- HEADLINE (seg_deps_sound): if SB `(x', y')` is the left, top, top-left or top-right neighbour
    of SB `(x, y)` (the SBs whose reconstructed data / contexts SB `(x,y)` reads), then either both
    lie in the same segment, or the segment of `(x,y)` is reachable from the segment of `(x',y')`
    through the right / bottom edges that `enc_dec_segments_init` counts in `dependency_map` —
    so `assign_enc_dec_segments` cannot hand out `(x,y)`'s segment before `(x',y')`'s is finished.
    Hypothesis `2 ≤ W ∨ Rr = 1`: for a one-SB-wide picture with more than one segment row the
    statement is FALSE (`no_cEdge_W1` below: there are no edges at all).  The effective row count of the
    init code satisfies it for every input (`effR_live`: the clamp of line 83). -/
theorem seg_deps_sound (hR : 1 ≤ Rr) (hRH : Rr ≤ H) (hw : 2 ≤ W ∨ Rr = 1) {x y x' y' : Nat}
    (hx : x < W) (hy : y < H)
    (hn : (1 ≤ x ∧ x' = x - 1 ∧ y' = y) ∨ (1 ≤ y ∧ x' = x ∧ y' = y - 1) ∨
          (1 ≤ x ∧ 1 ≤ y ∧ x' = x - 1 ∧ y' = y - 1) ∨
          (x + 1 < W ∧ 1 ≤ y ∧ x' = x + 1 ∧ y' = y - 1)) :
    cseg W H Cc Rr x' y' = cseg W H Cc Rr x y ∨
    Relation.TransGen (cEdge W H Cc Rr) (cseg W H Cc Rr x' y') (cseg W H Cc Rr x y) := by
  have hx1 : x - 1 < W := Nat.lt_of_le_of_lt (Nat.sub_le x 1) hx
  rcases hn with ⟨_, rfl, rfl⟩ | ⟨h1, rfl, rfl⟩ | ⟨_, h1, rfl, rfl⟩ | ⟨hx', h1, rfl, rfl⟩
  · exact seg_deps_general hR hRH hw hx hy hx1 (Nat.le_refl _) (Nat.le_succ _)
      (Nat.add_le_add_right (Nat.sub_le _ 1) _)
  · exact seg_deps_general hR hRH hw hx hy hx (Nat.sub_le _ 1) (Nat.sub_add_cancel h1).ge
      (Nat.add_le_add_left (Nat.sub_le _ 1) _)
  · exact seg_deps_general hR hRH hw hx hy hx1 (Nat.sub_le _ 1) (Nat.sub_add_cancel h1).ge
      (Nat.add_le_add (Nat.sub_le _ 1) (Nat.sub_le _ 1))
  · -- the top-right neighbour is on the anti-diagonal of `(x, y)`
    exact seg_deps_general hR hRH hw hx hy hx' (Nat.sub_le _ 1) (Nat.sub_add_cancel h1).ge
      (by rw [Nat.add_assoc, Nat.add_sub_cancel' h1])

/-- edges go strictly forward (the dependency graph is acyclic) -/
theorem cEdge_lt (hC : 1 ≤ Cc) (hR : 1 ≤ Rr) {s t : Nat} (h : cEdge W H Cc Rr s t) : s < t := by
  rcases h with ⟨rfl, _⟩ | ⟨rfl, _⟩
  · exact Nat.lt_succ_self s
  · exact Nat.lt_add_of_pos_right (segB_pos hC hR)

theorem transGen_cEdge_lt (hC : 1 ≤ Cc) (hR : 1 ≤ Rr) {s t : Nat}
    (h : Relation.TransGen (cEdge W H Cc Rr) s t) : s < t := by
  induction h with
  | single h => exact cEdge_lt hC hR h
  | tail _ h ih => exact Nat.lt_trans ih (cEdge_lt hC hR h)

/-- NEGATIVE: for a one-SB-wide picture (`W = 1`, so `Cc = 1`) the edge relation is EMPTY:
    every row is the single segment `r*B + r`, it has no right edge, and the bottom-edge test
    `seg + B ≥ starting(r+1)` fails.  With `Rr ≥ 2` rows `1 … Rr-1` are never released. -/
theorem no_cEdge_W1 {H Rr : Nat} (hR : 1 ≤ Rr) (hRH : Rr ≤ H) (s t : Nat) : ¬ cEdge 1 H 1 Rr s t := by
  rintro (⟨_, r, _, h1, h2⟩ | ⟨_, r, _, _, h2, h3⟩)
  · rw [(no_bottom_edge_W1 hR hRH r).2.2.1] at h1
    exact Nat.lt_irrefl _ (Nat.lt_of_lt_of_le h2 h1)
  · exact Nat.lt_irrefl _ (Nat.lt_of_lt_of_le (no_bottom_edge_W1 hR hRH r).2.2.2
      (Nat.le_trans h3 (Nat.add_le_add_right h2 _)))

end

theorem bandTotalCount_eq {r c : Nat} (h1 : 1 ≤ r + c) (h2 : r + c < 4294967296) :
    bandTotalCount r c = r + c - 1 := by
  unfold bandTotalCount
  rw [u32_small h2, sub32_of_le h1 h2]

theorem rowIndex_eq {y Rr : Nat} (H : Nat) (h : y * Rr < 4294967296) :
    rowIndex y Rr H = rowOf Rr H y := by
  unfold rowIndex rowOf
  rw [u32_small h]

theorem bandIndex_eq {x y B : Nat} (T : Nat) (h1 : x + y < 4294967296)
    (h2 : (x + y) * B < 4294967296) : bandIndex x y B T = bandOf B T (x + y) := by
  unfold bandIndex bandOf
  rw [u32_small h1, u32_small h2]

theorem segmentIndex_eq {r b B : Nat} (h : r * B + b < 4294967296) :
    segmentIndex r b B = r * B + b := by
  unfold segmentIndex
  rw [u32_small (Nat.lt_of_le_of_lt (Nat.le_add_right _ _) h), u32_small h]

theorem mul_lt_of_le_of_lt {a b m n : Nat} (ha : a ≤ m) (hb : b < n) (hm : 0 < m) : a * b < m * n :=
  Nat.lt_of_le_of_lt (Nat.mul_le_mul_right b ha) (Nat.mul_lt_mul_of_pos_left hb hm)

/-- SB coordinates (`≤ 2 · 4096`) times segment counts (`uint16_t`) do not wrap in `uint32_t` -/
theorem mul_lt_two32 {a b : Nat} (ha : a ≤ 8192) (hb : b < 65536) : a * b < 4294967296 :=
  Nat.lt_of_lt_of_le (mul_lt_of_le_of_lt ha hb (by decide)) (by decide)

theorem row_band_lt {r b Rr B : Nat} (hr : r < Rr) (hb : b < B) : r * B + b < Rr * B :=
  calc r * B + b < r * B + B := Nat.add_lt_add_left hb _
    _ = (r + 1) * B := (Nat.succ_mul r B).symm
    _ ≤ Rr * B := Nat.mul_le_mul_right B hr

theorem lt_two32 {n : Nat} (h : n ≤ 4096) : n < 4294967296 := Nat.lt_of_le_of_lt h (by decide)

/-- SEGMENT_INDEX of BAND_INDEX for an SB `(x, y)` of a picture of at most 4096 x 4096 SBs and
    `uint16_t` segment counts -/
theorem segmentIndex_bandIndex_eq {r x y B T : Nat} (hx : x ≤ 4096) (hy : y ≤ 4096) (hB : B < 65536)
    (h : r * B + bandOf B T (x + y) < 65536) :
    segmentIndex r (bandIndex x y B T) B = r * B + bandOf B T (x + y) := by
  have hxy : x + y ≤ 8192 := Nat.add_le_add hx hy
  rw [bandIndex_eq T (Nat.lt_of_le_of_lt hxy (by decide)) (mul_lt_two32 hxy hB),
    segmentIndex_eq (Nat.lt_trans h (by decide))]

section
variable {W H Cc Rr : Nat}

/-- `SEGMENT_INDEX(ROW_INDEX(y), BAND_INDEX(x, y))` (the init loop, lines 101-106) for an SB inside the picture: no
    `uint32_t` wrap under the size bounds -/
theorem sbSeg_closed {B T r2 H x y : Nat} (hr20 : 0 < r2) (hB0 : 0 < B)
    (hy : y < H) (hxy : x + y < T) (hr2 : r2 ≤ 4096) (hH' : H ≤ 4096) (hT' : T ≤ 8192) (hB : B < 65536)
    (httl : r2 * B < 65536) :
    sbSeg B T r2 H (x, y) = rowOf r2 H y * B + bandOf B T (x + y) := by
  have e1 : y * r2 ≤ 4096 * 4096 := Nat.mul_le_mul (by omega) hr2
  have e2 : (x + y) * B ≤ 8192 * 65536 := Nat.mul_le_mul (by omega) (Nat.le_of_lt hB)
  have e3 := row_band_lt (rowOf_lt hr20 hy) (bandOf_lt hB0 hxy)
  show segmentIndex (rowIndex y r2 H) (bandIndex x y B T) B = _
  rw [rowIndex_eq H (by omega), bandIndex_eq T (by omega) (by omega), segmentIndex_eq (by omega)]

theorem sbSeg_eq (hW : W ≤ 4096) (hH : H ≤ 4096) (hC : 1 ≤ Cc) (hR : 1 ≤ Rr) (hRH : Rr ≤ H)
    (hN : Rr * segB Rr Cc < 65536) {x y : Nat} (hx : x < W) (hy : y < H) :
    sbSeg (segB Rr Cc) (sbT W H) Rr H (x, y) = cseg W H Cc Rr x y :=
  sbSeg_closed hR (segB_pos hC hR) hy (add_lt_sbT hx hy) (Nat.le_trans hRH hH) hH (by unfold sbT; omega)
    (Nat.lt_of_le_of_lt (Nat.le_mul_of_pos_left _ hR) hN) hN

theorem mkRow_y_eq (hH : H ≤ 4096) (hR : 1 ≤ Rr) (hRH : Rr ≤ H) {r : Nat} (hr : r ≤ Rr) :
    u32 (u32 (r * H) + sub32 Rr 1) / Rr = y0 Rr H r := by
  have hR' : Rr ≤ 4096 := Nat.le_trans hRH hH
  have e : r * H + (Rr - 1) < 4294967296 :=
    Nat.lt_of_le_of_lt (Nat.add_le_add (Nat.mul_le_mul (Nat.le_trans hr hR') hH)
      (Nat.le_trans (Nat.sub_le Rr 1) hR')) (by decide)
  unfold y0
  rw [sub32_of_le hR (lt_two32 hR'), u32_small (Nat.lt_of_le_of_lt (Nat.le_add_right _ _) e),
    u32_small e]

/-- the row controls computed by the init row loop (lines 122-143) are the closed forms -/
theorem mkRow_eq (hW1 : 1 ≤ W) (hW : W ≤ 4096) (hH : H ≤ 4096) (hC : 1 ≤ Cc) (hR : 1 ≤ Rr)
    (hRH : Rr ≤ H) (hN : Rr * segB Rr Cc < 65536) {r : Nat} (hr : r < Rr) :
    mkRow W H Rr (segB Rr Cc) (sbT W H) r =
      { starting := cst W H Cc Rr r, ending := cen W H Cc Rr r, current := cst W H Cc Rr r } := by
  have hB : segB Rr Cc < 65536 := Nat.lt_of_le_of_lt (Nat.le_mul_of_pos_left _ hR) hN
  have hy0 : y0 Rr H r ≤ 4096 := Nat.le_trans (y0_le_H hR H (Nat.le_of_lt hr)) hH
  have hy1 : y0 Rr H (r + 1) ≤ 4096 := Nat.le_trans (y0_le_H hR H hr) hH
  have b1 : cst W H Cc Rr r < 65536 :=
    Nat.lt_trans (row_band_lt hr (startBand_lt hW1 hC hR hRH hr)) hN
  have b2 : cen W H Cc Rr r < 65536 :=
    Nat.lt_trans (row_band_lt hr (endBand_lt hW1 hC hR hRH hr)) hN
  have s1 : u16 (segmentIndex r (bandIndex 0 (y0 Rr H r) (segB Rr Cc) (sbT W H)) (segB Rr Cc))
      = cst W H Cc Rr r := by
    rw [segmentIndex_bandIndex_eq (Nat.zero_le _) hy0 hB (by rw [Nat.zero_add]; exact b1),
      Nat.zero_add]
    exact u16_small b1
  have s2 : u16 (segmentIndex r (bandIndex (W - 1) (y0 Rr H (r + 1) - 1) (segB Rr Cc) (sbT W H))
      (segB Rr Cc)) = cen W H Cc Rr r := by
    rw [segmentIndex_bandIndex_eq (Nat.le_trans (Nat.sub_le W 1) hW)
      (Nat.le_trans (Nat.sub_le _ 1) hy1) hB b2]
    exact u16_small b2
  unfold mkRow
  simp only [mkRow_y_eq hH hR hRH (Nat.le_of_lt hr), mkRow_y_eq hH hR hRH hr,
    sub32_of_le hW1 (lt_two32 hW), sub32_of_le (y0_succ_pos hR hRH r) (lt_two32 hy1), s1, s2]

end

theorem ite_lt_eq_min (a b : Nat) : (if a < b then a else b) = min a b := by
  by_cases h : a < b
  · rw [if_pos h, Nat.min_eq_left (Nat.le_of_lt h)]
  · rw [if_neg h, Nat.min_eq_right (Nat.le_of_not_lt h)]

/-- the effective segment row count after the clamps of `enc_dec_segments_init`: `min(R, H, max rows)`
    (lines 75-78), and 1 for a picture / tile group one SB wide (line 83). -/
def effR (W H R MR : Nat) : Nat := if W = 1 then 1 else min (min R H) MR

theorem effR_eq_ite (W H R MR : Nat) :
    effR W H R MR =
      if W = 1 then 1 else
        if (if R < H then R else H) < MR then (if R < H then R else H) else MR := by
  rw [ite_lt_eq_min, ite_lt_eq_min]; rfl

theorem effR_pos {W H R MR : Nat} (hH : 1 ≤ H) (hR : 1 ≤ R) (hMR : 1 ≤ MR) : 1 ≤ effR W H R MR := by
  unfold effR; split
  · exact Nat.le_refl 1
  · exact Nat.le_min.2 ⟨Nat.le_min.2 ⟨hR, hH⟩, hMR⟩

theorem effR_le_H {W H R MR : Nat} (hH : 1 ≤ H) : effR W H R MR ≤ H := by
  unfold effR; split
  · exact hH
  · exact Nat.le_trans (Nat.min_le_left _ _) (Nat.min_le_right _ _)

theorem effR_le_min (W H R MR : Nat) (hH : 1 ≤ H) (hR : 1 ≤ R) (hMR : 1 ≤ MR) :
    effR W H R MR ≤ min (min R H) MR := by
  unfold effR; split
  · exact Nat.le_min.2 ⟨Nat.le_min.2 ⟨hR, hH⟩, hMR⟩
  · exact Nat.le_refl _

theorem effR_le_4096 {W H R MR : Nat} (hH : H ≤ 4096) : effR W H R MR ≤ 4096 := by
  unfold effR; split
  · decide
  · exact Nat.le_trans (Nat.le_trans (Nat.min_le_left _ _) (Nat.min_le_right _ _)) hH

theorem effR_W1 (H R MR : Nat) : effR 1 H R MR = 1 := if_pos rfl

theorem effR_of_two_le {W : Nat} (hW : 2 ≤ W) (H R MR : Nat) : effR W H R MR = min (min R H) MR :=
  if_neg (Nat.ne_of_gt hW)

/-- with the clamp of line 83 the completion condition of the geometry lemmas always holds -/
theorem effR_live {W : Nat} (hW1 : 1 ≤ W) (H R MR : Nat) : 2 ≤ W ∨ effR W H R MR = 1 := by
  rcases Nat.eq_or_lt_of_le hW1 with rfl | h
  · exact Or.inr (effR_W1 H R MR)
  · exact Or.inl h

theorem initSeg_segRowCount_min (W H C R MC MR : Nat) :
    (initSeg W H C R MC MR).segRowCount = effR W H R MR := (effR_eq_ite W H R MR).symm

theorem initSeg_segBandCount_raw (W H C R MC MR : Nat) :
    (initSeg W H C R MC MR).segBandCount = bandTotalCount (effR W H R MR) (min C W) := by
  rw [effR_eq_ite, ← ite_lt_eq_min]; rfl

theorem initSeg_sbBandCount_raw (W H C R MC MR : Nat) :
    (initSeg W H C R MC MR).sbBandCount = bandTotalCount H W := rfl

theorem initSeg_segTtlCount_raw (W H C R MC MR : Nat) :
    (initSeg W H C R MC MR).segTtlCount =
      u32 (effR W H R MR * bandTotalCount (effR W H R MR) (min C W)) := by
  rw [effR_eq_ite, ← ite_lt_eq_min]; rfl

theorem initSeg_rows_raw (W H C R MC MR : Nat) :
    (initSeg W H C R MC MR).rows =
      ((List.range (effR W H R MR)).map
        (mkRow W H (effR W H R MR) (bandTotalCount (effR W H R MR) (min C W))
          (bandTotalCount H W))).toArray := by
  rw [effR_eq_ite, ← ite_lt_eq_min]; rfl

theorem getD_map_range {n r : Nat} (f : Nat → SegRow) (h : r < n) :
    ((List.range n).map f).toArray.getD r default = f r := by
  simp [h]

theorem rowStart_map_range {n r : Nat} (f : Nat → SegRow) (h : r < n) :
    rowStart ((List.range n).map f).toArray r = (f r).starting :=
  congrArg SegRow.starting (getD_map_range f h)

theorem rowEnd_map_range {n r : Nat} (f : Nat → SegRow) (h : r < n) :
    rowEnd ((List.range n).map f).toArray r = (f r).ending :=
  congrArg SegRow.ending (getD_map_range f h)

theorem bandTotalCount_small {r c : Nat} (hc : 1 ≤ c) (hr : r ≤ 4096) (hc' : c ≤ 4096) :
    bandTotalCount r c = r + c - 1 :=
  bandTotalCount_eq (Nat.le_trans hc (Nat.le_add_left _ _))
    (Nat.lt_of_le_of_lt (Nat.add_le_add hr hc') (by decide))

section
variable {W H C R MR : Nat}

theorem bandTotalCount_seg (hW1 : 1 ≤ W) (hW : W ≤ 4096) (hH : H ≤ 4096) (hC : 1 ≤ C) :
    bandTotalCount (effR W H R MR) (min C W) = segB (effR W H R MR) (min C W) :=
  bandTotalCount_small (Nat.le_min.2 ⟨hC, hW1⟩) (effR_le_4096 hH)
    (Nat.le_trans (Nat.min_le_right _ _) hW)

/-- Under the size bounds (`W, H ≤ 4096` SBs, `segment_ttl_count < 65536` so the `uint16_t`
    row indices do not wrap) `enc_dec_segments_init` computes exactly the closed forms, with
    `Cc = min C W` (line 74) and `Rr = effR W H R MR` (lines 75-78, 83). -/
theorem initSeg_segBandCount_closed (hW1 : 1 ≤ W) (hW : W ≤ 4096) (hH : H ≤ 4096) (hC : 1 ≤ C) (MC : Nat) :
    (initSeg W H C R MC MR).segBandCount = segB (effR W H R MR) (min C W) := by
  rw [initSeg_segBandCount_raw, bandTotalCount_seg hW1 hW hH hC]

theorem initSeg_sbBandCount_closed (hW1 : 1 ≤ W) (hW : W ≤ 4096) (hH : H ≤ 4096) (MC : Nat) :
    (initSeg W H C R MC MR).sbBandCount = sbT W H :=
  bandTotalCount_small hW1 hH hW

theorem initSeg_segTtlCount_closed (hW1 : 1 ≤ W) (hW : W ≤ 4096) (hH : H ≤ 4096) (hC : 1 ≤ C) (MC : Nat)
    (hN : effR W H R MR * segB (effR W H R MR) (min C W) < 65536) :
    (initSeg W H C R MC MR).segTtlCount =
      effR W H R MR * segB (effR W H R MR) (min C W) := by
  rw [initSeg_segTtlCount_raw, bandTotalCount_seg hW1 hW hH hC]
  exact u32_small (Nat.lt_trans hN (by decide))

theorem initSeg_rows_size (MC : Nat) :
    (initSeg W H C R MC MR).rows.size = effR W H R MR := by
  rw [initSeg_rows_raw, List.size_toArray, List.length_map, List.length_range]

theorem initSeg_row (hW1 : 1 ≤ W) (hW : W ≤ 4096) (hH1 : 1 ≤ H) (hH : H ≤ 4096) (hC : 1 ≤ C) (MC : Nat)
    (hN : effR W H R MR * segB (effR W H R MR) (min C W) < 65536)
    {r : Nat} (hr : r < effR W H R MR) :
    (initSeg W H C R MC MR).rows.getD r default =
      { starting := cst W H (min C W) (effR W H R MR) r,
        ending := cen W H (min C W) (effR W H R MR) r,
        current := cst W H (min C W) (effR W H R MR) r } := by
  rw [initSeg_rows_raw, getD_map_range _ hr, bandTotalCount_seg hW1 hW hH hC,
    bandTotalCount_small hW1 hH hW]
  exact mkRow_eq hW1 hW hH (Nat.le_min.2 ⟨hC, hW1⟩) (Nat.zero_lt_of_lt hr) (effR_le_H hH1) hN hr

theorem initSeg_rowStart (hW1 : 1 ≤ W) (hW : W ≤ 4096) (hH1 : 1 ≤ H) (hH : H ≤ 4096) (hC : 1 ≤ C) (MC : Nat)
    (hN : effR W H R MR * segB (effR W H R MR) (min C W) < 65536)
    {r : Nat} (hr : r < effR W H R MR) :
    rowStart (initSeg W H C R MC MR).rows r = cst W H (min C W) (effR W H R MR) r := by
  unfold rowStart; rw [initSeg_row hW1 hW hH1 hH hC MC hN hr]

theorem initSeg_rowEnd (hW1 : 1 ≤ W) (hW : W ≤ 4096) (hH1 : 1 ≤ H) (hH : H ≤ 4096) (hC : 1 ≤ C) (MC : Nat)
    (hN : effR W H R MR * segB (effR W H R MR) (min C W) < 65536)
    {r : Nat} (hr : r < effR W H R MR) :
    rowEnd (initSeg W H C R MC MR).rows r = cen W H (min C W) (effR W H R MR) r := by
  unfold rowEnd; rw [initSeg_row hW1 hW hH1 hH hC MC hN hr]

theorem initSeg_sbSeg (hW1 : 1 ≤ W) (hW : W ≤ 4096) (hH : H ≤ 4096) (hC : 1 ≤ C)
    (hR : 1 ≤ R) (hMR : 1 ≤ MR)
    (hN : effR W H R MR * segB (effR W H R MR) (min C W) < 65536)
    {x y : Nat} (hx : x < W) (hy : y < H) :
    sbSeg (bandTotalCount (effR W H R MR) (min C W)) (bandTotalCount H W) (effR W H R MR) H (x, y)
      = cseg W H (min C W) (effR W H R MR) x y := by
  have hH1 : 1 ≤ H := Nat.zero_lt_of_lt hy
  rw [bandTotalCount_seg hW1 hW hH hC, bandTotalCount_small hW1 hH hW]
  exact sbSeg_eq hW hH (Nat.le_min.2 ⟨hC, hW1⟩) (effR_pos hH1 hR hMR) (effR_le_H hH1) hN hx hy

end

end Seg
