/- `setParameterAccepts` and `codeDomainB`: two lists of 98 checks, equal entry by entry. -/
import SvtVerif.Lemmas.Config
namespace Lemmas.Config
open Gen.Config CSem Spec.ConfigDomain

theorem rules_match (s : Scs) (c : Cfg) (hs : s.WellTyped) (hc : c.WellTyped)
    (h40 : c.tile_rows % 4294967296 ≤ 6 ∧ c.tile_columns % 4294967296 ≤ 6) :
    List.Forall₂ (fun r d => (!r.2 s c) = d s c) rejectChecks codeDomainChecks := by
  unfold rejectChecks codeDomainChecks
  repeat' apply List.Forall₂.cons
  rotate_right
  · exact .nil
  -- expose `rej i s c` for the shape lemmas
  all_goals dsimp only
  -- 0 … 9
  · exact le_rule _ _
  · exact le_rule _ _
  · exact ge_rule _ _
  · exact ge_rule _ _
  · rfl
  · exact multiple_rule' _ _ _
  · exact multiple_rule _ _
  · exact multiple_rule _ _
  · exact le_rule _ _
  · exact le_rule _ _
  -- 10 … 19
  · exact le_rule _ _
  · exact levels_rule _ _ _
  · exact not_eq_decide_of_iff (rej12_iff s c hc)
  · exact not_eq_decide_of_iff (rej13_iff s c hc)
  · exact range_rule _ _ _
  · exact le_rule _ _
  · exact le_rule _ _
  · exact le_rule _ _
  · exact le_rule _ _
  · exact le_rule _ _
  -- 20 … 29
  · exact le_rule _ _
  · exact pos_rule _ _
  · exact pos_rule _ _
  · exact twopass_rule _ _ _ _
  · exact guard_rule _ _ _ (pos_rule _ _)
  · exact guard_rule _ _ _ (pos_rule _ _)
  · exact guard_rule _ _ _ (pos_rule _ _)
  · exact guard_rule _ _ _ (pos_rule _ _)
  · exact guard_rule _ _ _ (hme_rule _ _ _ _ (hc.hme_level0_search_area_in_height_array.1.trans hs.static_config_hme_level0_search_area_in_height_array.1.symm) _)
  · exact guard_rule _ _ _ (hme_rule _ _ _ _ (hc.hme_level0_search_area_in_width_array.1.trans hs.static_config_hme_level0_search_area_in_width_array.1.symm) _)
  -- 30 … 39
  · exact guard_rule _ _ _ (hme_rule_l12_same _ _ _ (hc.hme_level1_search_area_in_width_array.1.trans hs.static_config_hme_level1_search_area_in_width_array.1.symm) _)
  · exact guard_rule _ _ _ (hme_rule_l12 _ _ _ (hc.hme_level1_search_area_in_height_array.1.trans hs.static_config_hme_level1_search_area_in_height_array.1.symm) _ _)
  · exact guard_rule _ _ _ (hme_rule_l12_same _ _ _ (hc.hme_level2_search_area_in_width_array.1.trans hs.static_config_hme_level2_search_area_in_width_array.1.symm) _)
  · exact guard_rule _ _ _ (hme_rule_l12 _ _ _ (hc.hme_level2_search_area_in_height_array.1.trans hs.static_config_hme_level2_search_area_in_height_array.1.symm) _ _)
  · exact le_rule _ _
  · exact not_eq_decide_of_iff (rej35_iff s c hc)
  · exact not_eq_decide_of_iff (rej36_iff s c hc)
  · exact le_rule _ _
  · exact not_eq_decide_of_iff (rej38_iff s c hc)
  · exact not_eq_decide_of_iff (rej39_iff s c hc)
  -- 40 … 49
  · exact le_le_rule _ _ _ _
  · exact not_eq_decide_of_iff (rej41_iff s c hc h40)
  · exact le_rule _ _
  · exact ne_rule _ _
  · exact qp_rule _ _ _
  · exact le_rule _ _
  · exact le_rule _ _
  · exact le_rule _ _
  · exact range_rule _ _ _
  · exact two_rule _ _ _ _
  -- 50 … 59
  · exact le_rule _ _
  · exact two_rule _ _ _ _
  · exact not_eq_decide_of_iff (rej52_iff s c)
  · exact not_eq_decide_of_iff (rej53_iff s c)
  · exact not_eq_decide_of_iff (rej54_iff s c)
  · exact not_eq_decide_of_iff (rej55_iff s c)
  · exact not_eq_decide_of_iff (rej56_iff s c)
  · exact ne_rule _ _
  · exact le_rule _ _
  · exact not_eq_decide_of_iff (rej59_iff s c)
  -- 60 … 69
  · exact tri_rule _ _ _ _
  · exact le_rule _ _
  · exact le_rule _ _
  · exact tri_rule _ _ _ _
  · exact two_rule _ _ _ _
  · exact range_rule' _ _ _
  · exact range_rule' _ _ _
  · exact tri_rule _ _ _ _
  · exact rate_est_rule _ _
  · exact not_eq_decide_of_iff (rej69_iff s c hc)
  -- 70 … 79
  · exact range_rule' _ _ _
  · exact tri_rule _ _ _ _
  · exact range_rule _ _ _
  · exact tri_rule _ _ _ _
  · exact range_rule _ _ _
  · exact tri_rule _ _ _ _
  · exact range_rule _ _ _
  · exact range_rule _ _ _
  · exact range_rule _ _ _
  · exact range_rule _ _ _
  -- 80 … 89
  · exact range_rule _ _ _
  · exact tri_rule _ _ _ _
  · exact tri_rule _ _ _ _
  · exact tri_rule _ _ _ _
  · exact tri_rule _ _ _ _
  · exact tri_rule _ _ _ _
  · exact tri_rule _ _ _ _
  · exact tri_rule _ _ _ _
  · exact tri_rule _ _ _ _
  · exact tri_rule _ _ _ _
  -- 90 … 97
  · exact tri_rule _ _ _ _
  · exact tri_rule _ _ _ _
  · exact not_eq_decide_of_iff (rej92_iff s c hs hc)
  · exact le_rule _ _
  · exact twopass_rule _ _ _ _
  · exact le_rule _ _
  · exact range_rule' _ _ _
  · exact range_rule' _ _ _

theorem accepts_eq_codeDomainB (s : Scs) (c : Cfg) (hs : s.WellTyped) (hc : c.WellTyped) :
    setParameterAccepts s c = codeDomainB s c := by
  by_cases h40 : c.tile_rows % 4294967296 ≤ 6 ∧ c.tile_columns % 4294967296 ≤ 6
  · exact all_eq_all (rules_match s c hs hc h40)
  · -- rule 40 fires and conjunct 40 fails
    have h : (!rej40 s c) = decide (c.tile_rows % 4294967296 ≤ 6 ∧ c.tile_columns % 4294967296 ≤ 6) := le_le_rule _ _ _ _
    rw [decide_eq_false h40] at h
    have h' : codeDomainChecks.all (fun d => d s c) = false := all_eq_false_at 40 rfl (decide_eq_false h40)
    exact (all_eq_false_at (l := rejectChecks) 40 rfl h).trans h'.symm

mk_iff_of_inductive_prop Spec.ConfigDomain.CodeDomain Lemmas.Config.codeDomain_iff

theorem codeDomainB_iff (s : Scs) (c : Cfg) : codeDomainB s c = true ↔ CodeDomain s c := by
  simp only [codeDomainB, codeDomainChecks, List.all_cons, List.all_nil, Bool.and_true, Bool.and_eq_true, decide_eq_true_eq,
    codeDomain_iff]

end Lemmas.Config
