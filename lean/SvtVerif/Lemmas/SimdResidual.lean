/-
  C07a — kernels of the form `dst[i] = f(src0[i], src1[i])` over a `w × h` area: one specification (`rows2`), the two loop
  shapes of the C references, and K1: `svt_residual_kernel8bit_avx2` = `svt_residual_kernel8bit_c`.
-/
import SvtVerif.Lemmas.SimdLanes
import SvtVerif.Model.SimdKernelsA

namespace Simd

def row2 {k : Nat} (f : BitVec 8 → BitVec 8 → BitVec k) (s0 : Mem 8) (a0 : Nat) (s1 : Mem 8) (a1 n : Nat) : List (BitVec k) :=
  (List.range n).map fun i => f (s0 (a0 + i)) (s1 (a1 + i))

/-- rows are stored top to bottom: a later row overwrites an earlier one where they overlap -/
def rows2 {k : Nat} (f : BitVec 8 → BitVec 8 → BitVec k) (s0 : Mem 8) (st0 : Nat) (s1 : Mem 8) (st1 ds w : Nat) :
    Nat → Nat → Nat → Nat → Mem k → Mem k
  | 0, _, _, _, dst => dst
  | n + 1, a0, a1, da, dst =>
    rows2 f s0 st0 s1 st1 ds w n (a0 + st0) (a1 + st1) (da + ds) (storeL dst da (row2 f s0 a0 s1 a1 w))

theorem row2_length {k : Nat} (f : BitVec 8 → BitVec 8 → BitVec k) (s0 : Mem 8) (a0 : Nat) (s1 : Mem 8) (a1 n : Nat) :
    (row2 f s0 a0 s1 a1 n).length = n := by
  simp [row2]

theorem row2_add {k : Nat} (f : BitVec 8 → BitVec 8 → BitVec k) (s0 : Mem 8) (a0 : Nat) (s1 : Mem 8) (a1 n m : Nat) :
    row2 f s0 a0 s1 a1 (n + m) = row2 f s0 a0 s1 a1 n ++ row2 f s0 (a0 + n) s1 (a1 + n) m := by
  simp [row2, List.range_add, Nat.add_assoc]

theorem zipWith_loadL {k : Nat} (f : BitVec 8 → BitVec 8 → BitVec k) (s0 : Mem 8) (a0 : Nat) (s1 : Mem 8) (a1 n : Nat) :
    List.zipWith f (loadL s0 a0 n) (loadL s1 a1 n) = row2 f s0 a0 s1 a1 n := by
  simp [loadL, row2, List.zipWith_map_left, List.zipWith_map_right]

theorem storeL_row2 {k : Nat} (f : BitVec 8 → BitVec 8 → BitVec k) (m : Mem k) (a : Nat) (s0 : Mem 8) (a0 : Nat) (s1 : Mem 8)
    (a1 n j : Nat) :
    storeL (storeL m a (row2 f s0 a0 s1 a1 n)) (a + n) (row2 f s0 (a0 + n) s1 (a1 + n) j)
      = storeL m a (row2 f s0 a0 s1 a1 (n + j)) := by
  rw [storeL_append _ _ _ _ _ (by rw [row2_length]), ← row2_add]

theorem rows2_add {k : Nat} (f : BitVec 8 → BitVec 8 → BitVec k) (s0 : Mem 8) (st0 : Nat) (s1 : Mem 8) (st1 ds w a b : Nat) :
    ∀ (a0 a1 da : Nat) (dst : Mem k),
    rows2 f s0 st0 s1 st1 ds w (a + b) a0 a1 da dst =
      rows2 f s0 st0 s1 st1 ds w b (a0 + a * st0) (a1 + a * st1) (da + a * ds) (rows2 f s0 st0 s1 st1 ds w a a0 a1 da dst) := by
  induction a with
  | zero => intro a0 a1 da dst; simp [rows2]
  | succ a ih =>
    intro a0 a1 da dst
    rw [show a + 1 + b = (a + b) + 1 by omega, rows2, rows2, ih]
    simp only [Nat.add_one_mul, Nat.add_assoc, Nat.add_comm st0, Nat.add_comm st1, Nat.add_comm ds]

theorem rows2_four {k : Nat} (f : BitVec 8 → BitVec 8 → BitVec k) (s0 : Mem 8) (st0 : Nat) (s1 : Mem 8) (st1 ds w a0 a1 da : Nat)
    (dst : Mem k) :
    rows2 f s0 st0 s1 st1 ds w 4 a0 a1 da dst =
      storeL (storeL (storeL (storeL dst da (row2 f s0 a0 s1 a1 w))
        (da + ds) (row2 f s0 (a0 + st0) s1 (a1 + st1) w))
        (da + 2 * ds) (row2 f s0 (a0 + 2 * st0) s1 (a1 + 2 * st1) w))
        (da + 2 * ds + ds) (row2 f s0 (a0 + 3 * st0) s1 (a1 + 3 * st1) w) := by
  have e (a s : Nat) : a + s + s = a + 2 * s := by omega
  have e' (a s : Nat) : a + 2 * s + s = a + 3 * s := by omega
  simp only [rows2, e, e' a0, e' a1]

/-- `while (x < w) { dst[x] = f(src0[x], src1[x]); ++x; }` with fuel -/
theorem cols_loop {k : Nat} (f : BitVec 8 → BitVec 8 → BitVec k) (s0 : Mem 8) (a0 : Nat) (s1 : Mem 8) (a1 da w : Nat)
    (L : Nat → Nat → Mem k → Mem k) (h0 : ∀ x m, L 0 x m = m)
    (hs : ∀ fuel x m, L (fuel + 1) x m =
      if x < w then L fuel (x + 1) (store1 m (da + x) (f (s0 (a0 + x)) (s1 (a1 + x)))) else m) :
    ∀ (fuel x : Nat) (m : Mem k), w - x ≤ fuel →
      L fuel x m = storeL m (da + x) (row2 f s0 (a0 + x) s1 (a1 + x) (w - x)) := by
  intro fuel
  induction fuel with
  | zero =>
    intro x m h
    rw [h0, show w - x = 0 by omega]
    exact (storeL_nil _ _).symm
  | succ n ih =>
    intro x m h
    rw [hs]
    by_cases hc : x < w
    · rw [if_pos hc, ih (x + 1) _ (by omega), store1_eq_storeL, show w - x = 1 + (w - (x + 1)) by omega, row2_add,
        storeL_append _ _ _ _ _ (show da + (x + 1) = da + x + [f (s0 (a0 + x)) (s1 (a1 + x))].length from rfl)]
      simp [row2, Nat.add_assoc]
    · rw [if_neg hc, show w - x = 0 by omega]
      exact (storeL_nil _ _).symm

/-- `while (y < h) { row; src0 += st0; src1 += st1; dst += ds; ++y; }` with fuel -/
theorem rows_loop {k : Nat} (f : BitVec 8 → BitVec 8 → BitVec k) (s0 : Mem 8) (st0 : Nat) (s1 : Mem 8) (st1 ds w h : Nat)
    (row : Nat → Nat → Nat → Mem k → Mem k)
    (hrow : ∀ a0 a1 da m, row a0 a1 da m = storeL m da (row2 f s0 a0 s1 a1 w))
    (L : Nat → Nat → Nat → Nat → Nat → Mem k → Mem k) (h0 : ∀ y a0 a1 da m, L 0 y a0 a1 da m = m)
    (hs : ∀ fuel y a0 a1 da m, L (fuel + 1) y a0 a1 da m =
      if y < h then L fuel (y + 1) (a0 + st0) (a1 + st1) (da + ds) (row a0 a1 da m) else m) :
    ∀ (fuel y a0 a1 da : Nat) (m : Mem k), h - y ≤ fuel →
      L fuel y a0 a1 da m = rows2 f s0 st0 s1 st1 ds w (h - y) a0 a1 da m := by
  intro fuel
  induction fuel with
  | zero =>
    intro y a0 a1 da m hf
    rw [h0, show h - y = 0 by omega]
    rfl
  | succ n ih =>
    intro y a0 a1 da m hf
    rw [hs]
    by_cases hr : y < h
    · rw [if_pos hr, ih (y + 1) _ _ _ _ (by omega), hrow, show h - y = (h - (y + 1)) + 1 by omega]
      rfl
    · rw [if_neg hr, show h - y = 0 by omega]
      rfl

theorem residC_eq (x y : BitVec 8) : residC x y = le16 x 0 - le16 y 0 := by
  apply BitVec.eq_of_toNat_eq
  rw [BitVec.toNat_sub, le16_toNat, le16_toNat]
  simp only [residC, BitVec.toNat_ofInt]
  have hx := x.isLt
  have hy := y.isLt
  have h0 : (0 : BitVec 8).toNat = 0 := rfl
  rw [h0]
  omega

theorem resid8_c_eq (inp : Mem 8) (is ia : Nat) (pred : Mem 8) (ps pa : Nat) (res : Mem 16) (rs ra w h : Nat) :
    resid8_c inp is ia pred ps pa res rs ra w h = rows2 residC inp is pred ps rs w h ia pa ra res :=
  rows_loop residC inp is pred ps rs w h (fun ia pa ra m => resid8_c_cols inp ia pred pa ra w w 0 m)
    (fun ia pa ra m => cols_loop residC inp ia pred pa ra w _ (fun _ _ => rfl) (fun _ _ _ => rfl) w 0 m (Nat.le_refl _))
    (resid8_c_rows inp is pred ps rs w h) (fun _ _ _ _ _ => rfl) (fun _ _ _ _ _ _ => rfl) h 0 ia pa ra res (Nat.le_refl _)

/-- `y -= k` on `uint32_t` -/
theorem wrap_sub {y k : Nat} (hk : k ≤ y) (hy : y < 2 ^ 32) : (y + 2 ^ 32 - k) % 2 ^ 32 = y - k := by omega

theorem doWhileRows_eq (inp : Mem 8) (is : Nat) (pred : Mem 8) (ps rs w k : Nat) (hk : 0 < k)
    (body : Nat → Nat → Nat → Buf 16 → Buf 16)
    (hbody : ∀ ia pa ra res, (body ia pa ra res).get = rows2 residC inp is pred ps rs w k ia pa ra res.get) :
    ∀ (n fuel y ia pa ra : Nat) (res : Buf 16), y = n * k + k → y < 2 ^ 32 → n + 1 ≤ fuel →
      (doWhileRows k is ps rs body fuel y ia pa ra res).get = rows2 residC inp is pred ps rs w y ia pa ra res.get := by
  intro n
  induction n with
  | zero =>
    intro fuel y ia pa ra res hy hlt hf
    obtain ⟨f, rfl⟩ : ∃ f, fuel = f + 1 := ⟨fuel - 1, by omega⟩
    obtain rfl : y = k := by rw [hy, Nat.zero_mul, Nat.zero_add]
    rw [doWhileRows]
    simp only [wrap_sub (Nat.le_refl _) hlt, Nat.sub_self, ne_eq, not_true_eq_false, if_false, hbody]
  | succ m ih =>
    intro fuel y ia pa ra res hy hlt hf
    obtain ⟨f, rfl⟩ : ∃ f, fuel = f + 1 := ⟨fuel - 1, by omega⟩
    have hmul : (m + 1) * k = m * k + k := Nat.succ_mul m k
    have hyk : y - k = m * k + k := by omega
    rw [doWhileRows]
    simp only [wrap_sub (show k ≤ y by omega) hlt, hyk, ne_eq, show ¬ (m * k + k = 0) by omega, not_false_eq_true, if_true]
    rw [ih f (m * k + k) _ _ _ _ rfl (by omega) (by omega), hbody, show y = k + (m * k + k) by omega]
    exact (rows2_add residC inp is pred ps rs w k (m * k + k) ia pa ra res.get).symm

/-- `fuel = y = h` is how the kernels call the loop -/
theorem doWhileRows_rows (inp : Mem 8) (is : Nat) (pred : Mem 8) (ps rs w k : Nat) (hk : 0 < k)
    (body : Nat → Nat → Nat → Buf 16 → Buf 16)
    (hbody : ∀ ia pa ra res, (body ia pa ra res).get = rows2 residC inp is pred ps rs w k ia pa ra res.get)
    (h : Nat) (h0 : 0 < h) (hlt : h < 2 ^ 32) (hdiv : h % k = 0) (ia pa ra : Nat) (res : Buf 16) :
    (doWhileRows k is ps rs body h h ia pa ra res).get = rows2 residC inp is pred ps rs w h ia pa ra res.get := by
  have hq : 0 < h / k := Nat.div_pos (Nat.le_of_dvd h0 (Nat.dvd_of_mod_eq_zero hdiv)) hk
  have e : h = (h / k - 1) * k + k := by
    rw [← Nat.succ_mul, Nat.succ_eq_add_one, Nat.sub_add_cancel hq, Nat.div_mul_cancel (Nat.dvd_of_mod_eq_zero hdiv)]
  exact doWhileRows_eq inp is pred ps rs w k hk body hbody (h / k - 1) h h ia pa ra res e hlt
    (by rw [Nat.sub_add_cancel hq]; exact Nat.div_le_self h k)

theorem interleave_zero : ∀ (xs : List (BitVec 8)) (n : Nat), xs.length ≤ n →
    interleave xs (List.replicate n 0) = unlanes16 (xs.map fun x => le16 x 0)
  | [], n, _ => by cases n <;> rfl
  | x :: t, n + 1, h => by
    rw [List.replicate_succ, interleave, interleave_zero t n (Nat.le_of_succ_le_succ h)]
    simp only [unlanes16, List.map_cons, List.flatMap_cons, bytes16_le16, List.cons_append, List.nil_append]

theorem interleave2_zero {xs ys : List (BitVec 8)} (hx : xs.length ≤ 8) (hy : ys.length ≤ 8) :
    interleave xs (List.replicate 8 0) ++ interleave ys (List.replicate 8 0)
      = unlanes16 ((xs ++ ys).map fun x => le16 x 0) := by
  rw [interleave_zero _ 8 hx, interleave_zero _ 8 hy, List.map_append]
  simp only [unlanes16, List.flatMap_append]

theorem unpacklo_zero (a : Reg) : mm256_unpacklo_epi8 a mm256_setzero_si256 =
    unlanes16 (((a.take 16).take 8 ++ (a.drop 16).take 8).map fun x => le16 x 0) :=
  interleave2_zero (List.length_take_le _ _) (List.length_take_le _ _)

theorem unpackhi_zero (a : Reg) : mm256_unpackhi_epi8 a mm256_setzero_si256 =
    unlanes16 ((((a.take 16).drop 8).take 8 ++ ((a.drop 16).drop 8).take 8).map fun x => le16 x 0) :=
  interleave2_zero (List.length_take_le _ _) (List.length_take_le _ _)

theorem sub_epi16_zext (xs ys : List (BitVec 8)) :
    sub_epi16 (unlanes16 (xs.map fun x => le16 x 0)) (unlanes16 (ys.map fun x => le16 x 0))
      = unlanes16 (List.zipWith residC xs ys) := by
  rw [sub_epi16, map2_16, lanes16_unlanes16, lanes16_unlanes16, List.zipWith_map_left, List.zipWith_map_right]
  exact congrArg unlanes16 (congrArg (List.zipWith · xs ys) (funext fun x => funext fun y => (residC_eq x y).symm))

theorem cast_unlanes16 (l : List (BitVec 16)) : mm256_castsi256_si128 (unlanes16 l) = unlanes16 (l.take 8) :=
  unlanes16_take l 8

theorem extract1_unlanes16 (l : List (BitVec 16)) :
    mm256_extracti128_si256 (unlanes16 l) 1 = unlanes16 ((l.drop 8).take 8) :=
  (congrArg (List.take 16) (unlanes16_drop l 8)).trans (unlanes16_take _ 8)

theorem qword1_unlanes16 (l : List (BitVec 16)) : qword (unlanes16 l) 1 = unlanes16 ((l.drop 4).take 4) :=
  (congrArg (List.take 8) (unlanes16_drop l 4)).trans (unlanes16_take _ 4)

theorem halves_lo_qwords {q0 q1 q2 q3 : List (BitVec 8)} (h0 : q0.length = 8) (h1 : q1.length = 8) (h2 : q2.length = 8) :
    ((q0 ++ (q1 ++ (q2 ++ q3))).take 16).take 8 ++ ((q0 ++ (q1 ++ (q2 ++ q3))).drop 16).take 8 = q0 ++ q2 := by
  simp [List.take_append, List.drop_append, List.take_of_length_le, List.drop_of_length_le, h0, h1, h2]

theorem halves_hi_qwords {q0 q1 q2 q3 : List (BitVec 8)} (h0 : q0.length = 8) (h1 : q1.length = 8) (h2 : q2.length = 8)
    (h3 : q3.length = 8) :
    (((q0 ++ (q1 ++ (q2 ++ q3))).take 16).drop 8).take 8 ++ (((q0 ++ (q1 ++ (q2 ++ q3))).drop 16).drop 8).take 8
      = q1 ++ q3 := by
  simp [List.take_append, List.drop_append, List.take_of_length_le, List.drop_of_length_le, h0, h1, h2, h3]

theorem permute4x64_D8_qwords {q0 q1 q2 q3 : List (BitVec 8)} (h0 : q0.length = 8) (h1 : q1.length = 8) (h2 : q2.length = 8)
    (h3 : q3.length = 8) :
    mm256_permute4x64_epi64 (q0 ++ (q1 ++ (q2 ++ q3))) 0xD8 = q0 ++ (q2 ++ (q1 ++ q3)) := by
  simp [mm256_permute4x64_epi64, qword, List.drop_append, List.take_of_length_le, List.drop_of_length_le, h0, h1, h2, h3]

theorem zeroReg0 : zeroReg 0 = [] := rfl
theorem zeroReg8 : zeroReg 8 = [0, 0, 0, 0, 0, 0, 0, 0] := rfl
theorem zeroReg12 : zeroReg 12 = [0, 0, 0, 0, 0, 0, 0, 0, 0, 0, 0, 0] := rfl
theorem zeroReg32 : zeroReg 32 =
    [0, 0, 0, 0, 0, 0, 0, 0, 0, 0, 0, 0, 0, 0, 0, 0, 0, 0, 0, 0, 0, 0, 0, 0, 0, 0, 0, 0, 0, 0, 0, 0] := rfl

theorem load_u8_4x4_lo_qwords (m : Mem 8) (a s : Nat) :
    ((load_u8_4x4_avx2 m a s).take 16).take 8 ++ ((load_u8_4x4_avx2 m a s).drop 16).take 8 =
      loadL m a 4 ++ (loadL m (a + s) 4 ++ (loadL m (a + 2 * s) 4 ++ loadL m (a + 3 * s) 4)) := by
  simp [load_u8_4x4_avx2, loadBytes, loadL, show List.range 4 = [0, 1, 2, 3] from rfl, zeroReg12, mm_insert_epi32, loadI32, bytes32_le32, mm256_setr_m128i]

theorem residual_kernel4_body_rows (inp : Mem 8) (is : Nat) (pred : Mem 8) (ps rs ia pa ra : Nat) (res : Buf 16) :
    (residual_kernel4_body inp is pred ps rs ia pa ra res).get = rows2 residC inp is pred ps rs 4 4 ia pa ra res.get := by
  rw [rows2_four]
  simp only [residual_kernel4_body, unpacklo_zero, sub_epi16_zext, store_s16_4x2_sse2, storeU16, storehU16,
    cast_unlanes16, extract1_unlanes16, qword1_unlanes16, lanes16_unlanes16]
  simp only [load_u8_4x4_lo_qwords, loadL_length, List.zipWith_append, zipWith_loadL, List.take_append, List.drop_append, row2_length,
    List.take_of_length_le, List.drop_of_length_le, Nat.reduceSub, Nat.reduceLeDiff, Nat.le_refl, List.take_zero, List.drop_zero,
    List.append_nil, List.nil_append, Nat.zero_mul, Nat.add_zero, List.length_append, Nat.reduceAdd]

theorem load_u8_8x4_eq (m : Mem 8) (a s : Nat) : load_u8_8x4_avx2 m a s =
    loadL m a 8 ++ loadL m (a + s) 8 ++ (loadL m (a + 2 * s) 8 ++ loadL m (a + 3 * s) 8) := by
  simp [load_u8_8x4_avx2, loadBytes, mm_loadh_pd, mm256_setr_m128i, List.take_of_length_le, loadL_length]

/-- the stores in program order: rows 0, 2, 1, 3 -/
theorem residual_kernel8_body_stores (inp : Mem 8) (is : Nat) (pred : Mem 8) (ps rs ia pa ra : Nat) (res : Buf 16) :
    (residual_kernel8_body inp is pred ps rs ia pa ra res).get =
      storeL (storeL (storeL (storeL res.get ra (row2 residC inp ia pred pa 8))
        (ra + 2 * rs) (row2 residC inp (ia + 2 * is) pred (pa + 2 * ps) 8))
        (ra + rs) (row2 residC inp (ia + is) pred (pa + ps) 8))
        (ra + rs + 2 * rs) (row2 residC inp (ia + 3 * is) pred (pa + 3 * ps) 8) := by
  simp only [residual_kernel8_body, unpacklo_zero, unpackhi_zero, sub_epi16_zext, storeu_s16_8x2_avx2, storeU16,
    cast_unlanes16, extract1_unlanes16, lanes16_unlanes16]
  simp only [load_u8_8x4_eq, List.append_assoc, halves_lo_qwords, halves_hi_qwords, loadL_length,
    List.zipWith_append, zipWith_loadL, List.take_of_length_le, List.take_left', List.drop_left', row2_length,
    Nat.zero_mul, Nat.one_mul, Nat.add_zero, Nat.le_refl]

/-- needs `residual_stride ≥ 8`: the AVX2 code stores row 2 before row 1 -/
theorem residual_kernel8_body_rows (inp : Mem 8) (is : Nat) (pred : Mem 8) (ps rs ia pa ra : Nat) (res : Buf 16) (hrs : 8 ≤ rs) :
    (residual_kernel8_body inp is pred ps rs ia pa ra res).get = rows2 residC inp is pred ps rs 8 4 ia pa ra res.get := by
  rw [rows2_four, show ra + 2 * rs + rs = ra + rs + 2 * rs by omega]
  rw [residual_kernel8_body_stores]
  congr 1
  apply storeL_comm
  simp only [row2_length]
  omega

theorem loadu_u8_16x2_eq (m : Mem 8) (a s : Nat) : loadu_u8_16x2_avx2 m a s = loadL m a 16 ++ loadL m (a + s) 16 := by
  simp [loadu_u8_16x2_avx2, loadBytes, mm256_setr_m128i, loadL_length]

theorem residual_kernel16_body_rows (inp : Mem 8) (is : Nat) (pred : Mem 8) (ps rs ia pa ra : Nat) (res : Buf 16) :
    (residual_kernel16_body inp is pred ps rs ia pa ra res).get = rows2 residC inp is pred ps rs 16 2 ia pa ra res.get := by
  simp only [rows2, residual_kernel16_body, unpacklo_zero, unpackhi_zero, sub_epi16_zext, storeU16, lanes16_unlanes16]
  -- the permute puts the halves of row 0 into the low qwords of both 128-bit halves, those of row 1 into the high ones
  have loadL_16 (m : Mem 8) (a : Nat) : loadL m a 16 = loadL m a 8 ++ loadL m (a + 8) 8 := loadL_add m a 8 8
  have row2_16 (a0 a1 : Nat) : row2 residC inp a0 pred a1 16
      = row2 residC inp a0 pred a1 8 ++ row2 residC inp (a0 + 8) pred (a1 + 8) 8 := row2_add residC inp a0 pred a1 8 8
  simp only [loadu_u8_16x2_eq, loadL_16, List.append_assoc, permute4x64_D8_qwords, halves_lo_qwords, halves_hi_qwords, loadL_length,
    List.zipWith_append, zipWith_loadL, row2_16, List.take_of_length_le, List.length_append, row2_length,
    Nat.zero_mul, Nat.one_mul, Nat.add_zero, Nat.le_refl, Nat.reduceAdd]

/-- `residual32_avx2` is the 16-wide block with all strides 16 -/
theorem residual32_eq_kernel16 (inp : Mem 8) (ia : Nat) (pred : Mem 8) (pa : Nat) (res : Buf 16) (ra : Nat) :
    residual32_avx2 inp ia pred pa res ra = residual_kernel16_body inp 16 pred 16 16 ia pa ra res := by
  have l (m : Mem 8) (a : Nat) : loadBytes m a 32 32 = loadu_u8_16x2_avx2 m a 16 := by
    rw [loadu_u8_16x2_eq, ← loadL_add, loadBytes, zeroReg0, List.append_nil]
  unfold residual32_avx2 residual_kernel16_body
  rw [l, l]

theorem residual32_avx2_row (inp : Mem 8) (ia : Nat) (pred : Mem 8) (pa : Nat) (res : Buf 16) (ra : Nat) :
    (residual32_avx2 inp ia pred pa res ra).get = storeL res.get ra (row2 residC inp ia pred pa 32) := by
  rw [residual32_eq_kernel16, residual_kernel16_body_rows]
  exact storeL_row2 residC res.get ra inp ia pred pa 16 16

theorem residual_kernel64_body_row (inp : Mem 8) (pred : Mem 8) (ia pa ra : Nat) (res : Buf 16) :
    (residual_kernel64_body inp pred ia pa ra res).get = storeL res.get ra (row2 residC inp ia pred pa 64) := by
  simp only [residual_kernel64_body, residual32_avx2_row, Nat.zero_mul, Nat.one_mul, Nat.add_zero, storeL_row2]

theorem residual_kernel128_body_row (inp : Mem 8) (pred : Mem 8) (ia pa ra : Nat) (res : Buf 16) :
    (residual_kernel128_body inp pred ia pa ra res).get = storeL res.get ra (row2 residC inp ia pred pa 128) := by
  simp only [residual_kernel128_body, residual32_avx2_row, Nat.zero_mul, Nat.one_mul, Nat.add_zero, Nat.reduceMul,
    storeL_row2, Nat.reduceAdd]

end Simd
